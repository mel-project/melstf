-- the model files proper (what the library target builds by default); every theorem is reached through MelModel/All.lean
import MelModel.Prim.Bytes
import MelModel.Generated.Tables
import MelModel.Types
import MelModel.VM.Op
import MelModel.VM.Codec
import MelModel.VM.Weight
import MelModel.VM.Value
import MelModel.VM.Exec
import MelModel.VM.Cost

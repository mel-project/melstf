/-
  C07 — the dense Merkle tree (TIP-908 transactions commitment): proofs are *sound*, padding proves nothing,
  and the root determines the list of transactions.
  `Props/C07.lean` has completeness (`C07_dense_complete`); this file has the converse direction, which is what a light
  client relies on: a proof that verifies against the transactions root at position `i` proves the transaction that
  really sits at position `i`, and nothing else.
  Both directions are inductions over the levels of the tree in MelModel/Lemmas/DenseL.lean.
-/
import MelModel.Merkle
import MelModel.Props.C07
import MelModel.Lemmas.DenseL
namespace Mel
open Mel.Merkle

/-- the number of leaves is a power of two that holds every block: `2 ^ log2 = length`, `blocks.length ≤ length` -/
theorem C07_dense_shape (H : Hashers) (blocks : List Bytes) :
    2 ^ Nat.log2 (denseLeaves H blocks).length = (denseLeaves H blocks).length ∧
    blocks.length ≤ (denseLeaves H blocks).length := by
  obtain ⟨e, he, hle⟩ := denseLeaves_length H blocks
  rw [he, Nat.log2_two_pow]
  exact ⟨rfl, hle⟩

/-- soundness of `verify_dense`: a proof of the tree's depth that verifies against the root at position `i`
    proves the leaf that is at position `i` (hash functions injective away from the zero rules) -/
theorem C07_dense_sound (H : Hashers) (hi : Injective H) (blocks : List Bytes) (i : Nat) (leaf : Hash)
    (proof : List Hash)
    (hp : proof.length = Nat.log2 (denseLeaves H blocks).length)
    (hidx : i < (denseLeaves H blocks).length)
    (hv : verifyDense H proof (denseRoot H blocks) i leaf = true) :
    leaf = (denseLeaves H blocks).getD i Z := by
  obtain ⟨e, he, _⟩ := denseLeaves_length H blocks
  rw [he, Nat.log2_two_pow] at hp
  rw [he] at hidx
  rw [verifyDense_iff, denseRoot_eq H blocks he] at hv
  exact (dense_levels_sound H hi e (denseLeaves H blocks) i leaf proof he hidx hp hv).1

/-- a position holding a transaction proves that transaction only (the empty string included: it hashes to zero
    and nothing else does) -/
theorem C07_dense_proves_only_the_member (H : Hashers) (hi : Injective H) (blocks : List Bytes) (i : Nat)
    (b : Bytes) (proof : List Hash)
    (hp : proof.length = Nat.log2 (denseLeaves H blocks).length)
    (hidx : i < blocks.length)
    (hv : verifyDense H proof (denseRoot H blocks) i (hashData H b) = true) :
    blocks.getD i [] = b := by
  have h := C07_dense_sound H hi blocks i (hashData H b) proof hp
    (Nat.lt_of_lt_of_le hidx (C07_dense_shape H blocks).2) hv
  rw [denseLeaves_getD H blocks i hidx] at h
  exact (hashData_inj H hi _ _ h).symm

/-- the zero padding behind the last transaction proves no transaction at all -/
theorem C07_dense_padding_proves_nothing (H : Hashers) (hi : Injective H) (blocks : List Bytes) (i : Nat)
    (b : Bytes) (proof : List Hash)
    (hp : proof.length = Nat.log2 (denseLeaves H blocks).length)
    (hlo : blocks.length ≤ i) (hidx : i < (denseLeaves H blocks).length) (hb : b ≠ []) :
    verifyDense H proof (denseRoot H blocks) i (hashData H b) = false := by
  cases hv : verifyDense H proof (denseRoot H blocks) i (hashData H b) with
  | false => rfl
  | true =>
    have h := C07_dense_sound H hi blocks i (hashData H b) proof hp hidx hv
    rw [denseLeaves_getD_pad H blocks i hlo] at h
    exact absurd h (hashData_ne_Z H hi b hb)

/-- the root determines the list: two lists of (non-empty) serialised transactions padded to the same size with
    equal roots are equal — "any difference in a transaction changes the header" for the TIP-908 commitment.
    (The padded size is not committed to by the root itself: a one-leaf tree's root is the leaf's data hash, a
    two-leaf tree's a node hash, and nothing in `Injective` separates the two hash functions' ranges.) -/
theorem C07_dense_root_injective (H : Hashers) (hi : Injective H) (bs bs' : List Bytes)
    (hne : ∀ x ∈ bs, x ≠ []) (hne' : ∀ x ∈ bs', x ≠ [])
    (hsz : nextPow2 bs.length = nextPow2 bs'.length)
    (hr : denseRoot H bs = denseRoot H bs') : bs = bs' := by
  obtain ⟨e, he, hle⟩ := denseLeaves_length H bs
  have he' : (denseLeaves H bs').length = 2 ^ e := by
    rw [denseLeaves_length_eq, ← hsz, ← denseLeaves_length_eq H, he]
  rw [denseRoot_eq H bs he, denseRoot_eq H bs' he'] at hr
  have hlv := reduce_injective H hi e _ _ he he' hr
  -- the lengths agree: a real leaf is not `Z`, padding is
  have hlen : bs.length = bs'.length := by
    rcases Nat.lt_trichotomy bs.length bs'.length with h | h | h
    · have h1 := denseLeaves_getD_pad H bs bs.length (Nat.le_refl _)
      rw [hlv, denseLeaves_getD H bs' bs.length h] at h1
      exact absurd h1 (hashData_ne_Z H hi _ (getD_mem_ne bs' hne' _ h))
    · exact h
    · have h1 := denseLeaves_getD_pad H bs' bs'.length (Nat.le_refl _)
      rw [← hlv, denseLeaves_getD H bs bs'.length h] at h1
      exact absurd h1 (hashData_ne_Z H hi _ (getD_mem_ne bs hne _ h))
  apply List.ext_getElem hlen
  intro i h₁ h₂
  have h1 := denseLeaves_getD H bs i h₁
  rw [hlv, denseLeaves_getD H bs' i h₂] at h1
  have := hashData_inj H hi _ _ h1
  simpa [List.getD_eq_getElem?_getD, h₁, h₂] using this.symm


open C07Example in
/-- the toy hashers `H₀` of Props/C07 (tag byte, length byte, concatenation): three blocks, the proof for position 1
    verifies for the block at position 1 and not for another one; the proof has the tree's depth -/
example :
    verifyDense H₀ (denseProof H₀ [[1], [2], [3]] 1) (denseRoot H₀ [[1], [2], [3]]) 1
      (hashData H₀ [2]) = true ∧
    verifyDense H₀ (denseProof H₀ [[1], [2], [3]] 1) (denseRoot H₀ [[1], [2], [3]]) 1
      (hashData H₀ [3]) = false ∧
    (denseProof H₀ [[1], [2], [3]] 1).length = Nat.log2 (denseLeaves H₀ [[1], [2], [3]]).length := by
  decide +kernel

open C07Example in
/-- `C07_dense_sound` instantiated with the provably injective hashers `H₁`: over three blocks, whatever proof of
    length 2 verifies at position 1 proves the block at position 1 -/
example (leaf : Hash) (proof : List Hash) (hp : proof.length = 2)
    (hv : verifyDense H₁ proof (denseRoot H₁ [[1], [2], [3]]) 1 leaf = true) : leaf = hashData H₁ [2] := by
  have hlen : (denseLeaves H₁ [[1], [2], [3]]).length = 4 := by decide +kernel
  have h := C07_dense_sound H₁ H₁_injective [[1], [2], [3]] 1 leaf proof
    (by rw [hlen, hp]; decide) (by rw [hlen]; decide) hv
  rw [h]
  decide +kernel

end Mel

#print axioms Mel.C07_dense_sound
#print axioms Mel.C07_dense_proves_only_the_member
#print axioms Mel.C07_dense_padding_proves_nothing
#print axioms Mel.C07_dense_shape
#print axioms Mel.C07_dense_root_injective

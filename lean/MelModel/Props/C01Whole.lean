/-
  C01, the whole block — conservation of every denomination across a complete block (all batches, the seal with
  or without a proposer action, the opening of the next block), with every issuance rule of the protocol as an
  explicit, bounded allowance.

  The allowances (everything else is conserved or destroyed):
  * batch level (`batchIssuance`, Props/C01.lean): faucet outputs and fee, a transaction's own new token, minted ERG;
  * builtin pools created on first use, or afresh once they record no liquidity: 10^9 of each side, nobody-owned
    (`C01_builtins`, sharp: `C01_builtins_sharp` / `builtinsCreated`). There are two
    creation points per seal (F24): before the settlement (`builtinsCreated s`) and again after the withdrawal phase, for
    a builtin pool this block's withdrawals emptied (`recreated env s = builtinsCreated (settled env s)`);
  * the peg adjustment of the MEL/SYM pool: at most 1/throttler of the gap to the desired reserve, on one side per
    step (`pegAllowance`);
  * the TIP-909 subsidy: SYM only, 2^SUBSIDY_LOG2 halving every SUBSIDY_HALVING blocks (`C01_subsidy`);
  * the proposer reward: moved out of the fee pool and the tips, not created (`C01_reward`).
-/
import MelModel.Seal
import MelModel.Chain
import MelModel.SupplyDefs
import MelModel.Props.C01
import MelModel.Props.C01Seal
import MelModel.Lemmas.WholeL
import MelModel.Props.C16
namespace Mel
open Mel.Gen

/-- what the peg adjustment may add to the supply of `d` in state `s` (the state pegging starts from): the MEL/SYM
    pool is pushed towards the desired reserves by swapping in freshly created MEL (or SYM) worth at most
    1/throttler of the gap; the other side only shrinks -/
def pegAllowance (s : State) (d : Denom) : Nat :=
  match s.pools.get poolMelSym with
  | none => 0
  | some sm =>
    let throttler := if s.tip902 then THROTTLER_902 else THROTTLER_PRE
    if d = .mel ∨ d = .sym then U128_MAX / throttler else 0

/-- The peg adjustment is bounded and local: it changes nothing but the MEL/SYM pool, creates no denomination
    other than MEL and SYM, and creates at most `U128_MAX / throttler` of those -/
theorem C01_pegging_bounded (s s' : State) (h : processPegging s = .ok s') (hk : (s.pools.map (·.1)).Nodup)
    (d : Denom) : supply s' d ≤ supply s d + pegAllowance s d := by
  obtain ⟨sm, sm2, hget, _, _, _⟩ := WholeL.pegging_shape s s' h
  have := WholeL.pegging_supply s s' h hk d
  unfold pegAllowance
  rw [hget]
  exact this

/-- the sharper form: each step creates at most (desired − current) / throttler on its side -/
theorem C01_pegging_step (sm sm' : PoolState) (delta throttler lw rw : Nat)
    (h : sm.swapMany (delta / throttler) 0 = .ok (sm', lw, rw)) :
    sm'.lefts ≤ sm.lefts + delta / throttler ∧ sm'.rights ≤ sm.rights := by
  exact WholeL.swapLeft_le h

/-- what the second `create_builtins` of a seal (after the withdrawal phase, F24) creates of `d`:
    the default reserves of each builtin pool that this block's settlement left absent or without liquidity -/
def recreated (env : Env) (s : State) (d : Denom) : Nat := builtinsCreated (settled env s) d

/-- what sealing may add to the supply of `d`, for a state `s` about to be sealed.  The builtin-pool term occurs
    twice (F24): once for the pools `create_builtins` makes before the settlement, once for those it makes again
    after the withdrawal phase (sharp amounts: `C01_seal_whole_sharp`) -/
def sealAllowance (s : State) (d : Denom) : Nat :=
  3 * (2 * (MICRO_CONVERTER * BUILTIN_LIQ_MULT)) + 3 * (2 * (MICRO_CONVERTER * BUILTIN_LIQ_MULT)) +
  (if d = .mel ∨ d = .sym then U128_MAX / (if s.tip902 then THROTTLER_902 else THROTTLER_PRE) else 0) +
  (if d = .sym ∧ s.tip909 = true then 2 ^ SUBSIDY_LOG2 / 2 ^ ((s.height - TIP_909_HEIGHT) / SUBSIDY_HALVING) else 0)

/-- the same with the two builtin-pool terms exact: what the first `create_builtins` makes (`builtinsCreated s d`),
    what the second one makes after the withdrawal phase (`recreated env s d`), the peg adjustment, the subsidy -/
theorem C01_seal_whole_sharp (env : Env) (s : State) (a : Option ProposerAction) (ss : Sealed)
    (h : sealState env s a = .ok ss) (hp : SealPre s) (hl : legacyDeposit s = false)
    (hfresh : s.coins.getCoin { txhash := env.rewardId s.height, index := 0 } = none)
    (d : Denom) (hd : ∀ k : PoolKey, d ≠ liqTokenDenom env k) :
    supply ss.st d ≤ supply s d + builtinsCreated s d + recreated env s d +
      (if d = .mel ∨ d = .sym then U128_MAX / (if s.tip902 then THROTTLER_902 else THROTTLER_PRE) else 0) +
      (if d = .sym ∧ s.tip909 = true then
        2 ^ SUBSIDY_LOG2 / 2 ^ ((s.height - TIP_909_HEIGHT) / SUBSIDY_HALVING) else 0) := by
  have h1 := WholeL.seal_sharp env s a ss h hp hl d hd
  have h2 := C01_builtins_sharp s d hp.poolKeys
  rw [WholeL.midPart_eq] at h1
  unfold recreated
  omega

/-- each of the two creation terms is at most `2 · 10^9` (a denomination sits on one side of two builtin pools), and
    zero for every denomination other than MEL, SYM, ERG -/
theorem C01_recreated_le (env : Env) (s : State) (d : Denom) :
    recreated env s d ≤ 2 * (MICRO_CONVERTER * BUILTIN_LIQ_MULT) := builtinsCreated_le _ d

/-- Conservation across sealing: for every denomination that is not a liquidity token (those are covered by
    `C16_backed_seal`), the supply after `sealState` — with or without a proposer action — exceeds the supply before
    by at most the seal allowance -/
theorem C01_seal_whole (env : Env) (s : State) (a : Option ProposerAction) (ss : Sealed)
    (h : sealState env s a = .ok ss) (hp : SealPre s) (hl : legacyDeposit s = false)
    (hfresh : s.coins.getCoin { txhash := env.rewardId s.height, index := 0 } = none)
    (d : Denom) (hd : ∀ k : PoolKey, d ≠ liqTokenDenom env k) :
    supply ss.st d ≤ supply s d + sealAllowance s d := by
  have h1 := C01_seal_whole_sharp env s a ss h hp hl hfresh d hd
  have h2 := builtinsCreated_le s d
  have h3 := C01_recreated_le env s d
  unfold sealAllowance
  omega

/-- conservation across a whole block: one batch, the seal, the opening of the next block -/
theorem C01_block_whole (env : Env) (s s₁ s₂ : State) (txs : List Tx) (fb : Header) (a : Option ProposerAction)
    (ss : Sealed)
    (hb : applyBatch env s txs fb = .ok s₁) (hs : sealState env s₁ a = .ok ss)
    (hn : nextUnsealed env ss = .ok s₂)
    (hk : (s.coins.coins.map (·.1)).Nodup) (hp : SealPre s₁) (hl : legacyDeposit s₁ = false)
    (hfresh : s₁.coins.getCoin { txhash := env.rewardId s₁.height, index := 0 } = none)
    (d : Denom) (hd : ∀ k : PoolKey, d ≠ liqTokenDenom env k) :
    supply s₂ d ≤ supply s d + batchIssuance txs d + sealAllowance s₁ d := by
  have h1 := C01_apply env s s₁ txs fb hb hk d
  have h2 := C01_seal_whole env s₁ a ss hs hp hl hfresh d hd
  rw [WholeL.nextUnsealed_supply env ss s₂ hn d]
  omega

/-- In particular: a block without faucet / mint / new-token transactions on a chain where the builtin pools
    exist and record liquidity (an emptied builtin pool is created afresh — F23 — which adds its nobody-owned 10^9
    of each side), for a denomination other than MEL, SYM and liquidity tokens, creates nothing but
    `recreated env s₁ d`: the default reserves of a builtin pool that this very block's withdrawals emptied and the
    second `create_builtins` made afresh (F24).  `supply s₂ d ≤ supply s d` is false: a block that redeems the whole
    liquidity of the ERG/SYM pool pays its reserves out and gets a fresh pool, 10^9 ERG more
    (`C01_recreation_witness`); it holds when no builtin pool is emptied (`C01_block_closed_kept`). -/
theorem C01_block_closed (env : Env) (s s₁ s₂ : State) (txs : List Tx) (fb : Header) (a : Option ProposerAction)
    (ss : Sealed)
    (hb : applyBatch env s txs fb = .ok s₁) (hs : sealState env s₁ a = .ok ss)
    (hn : nextUnsealed env ss = .ok s₂)
    (hk : (s.coins.coins.map (·.1)).Nodup) (hp : SealPre s₁) (hl : legacyDeposit s₁ = false)
    (hfresh : s₁.coins.getCoin { txhash := env.rewardId s₁.height, index := 0 } = none)
    (hc : ∀ tx ∈ txs, tx.kind ≠ .faucet ∧ tx.kind ≠ .doscMint ∧ ∀ o ∈ tx.outputs, o.denom ≠ .newCustom)
    (hbuilt : ∀ k ∈ [poolMelSym, poolMelErg, poolErgSym], ∃ p, s₁.pools.get k = some p ∧ p.liqs ≠ 0)
    (d : Denom) (hd : ∀ k : PoolKey, d ≠ liqTokenDenom env k) (hmel : d ≠ .mel) (hsym : d ≠ .sym) :
    supply s₂ d ≤ supply s d + recreated env s₁ d := by
  have h1 := C01_apply_closed env s s₁ txs fb hb hk hc d
  have h2 := WholeL.seal_sharp env s₁ a ss hs hp hl d hd
  rw [WholeL.createBuiltins_noop s₁ hbuilt, WholeL.midPart_zero s₁ d hmel hsym] at h2
  rw [WholeL.nextUnsealed_supply env ss s₂ hn d]
  unfold recreated
  omega

/-- when moreover the settlement of the block leaves the builtin pools with liquidity
    (no withdrawal of this block redeems a builtin pool's whole liquidity), nothing at all is created -/
theorem C01_block_closed_kept (env : Env) (s s₁ s₂ : State) (txs : List Tx) (fb : Header) (a : Option ProposerAction)
    (ss : Sealed)
    (hb : applyBatch env s txs fb = .ok s₁) (hs : sealState env s₁ a = .ok ss)
    (hn : nextUnsealed env ss = .ok s₂)
    (hk : (s.coins.coins.map (·.1)).Nodup) (hp : SealPre s₁) (hl : legacyDeposit s₁ = false)
    (hfresh : s₁.coins.getCoin { txhash := env.rewardId s₁.height, index := 0 } = none)
    (hc : ∀ tx ∈ txs, tx.kind ≠ .faucet ∧ tx.kind ≠ .doscMint ∧ ∀ o ∈ tx.outputs, o.denom ≠ .newCustom)
    (hbuilt : ∀ k ∈ [poolMelSym, poolMelErg, poolErgSym], ∃ p, s₁.pools.get k = some p ∧ p.liqs ≠ 0)
    (hkept : ∀ k ∈ [poolMelSym, poolMelErg, poolErgSym], ∃ p, (settled env s₁).pools.get k = some p ∧ p.liqs ≠ 0)
    (d : Denom) (hd : ∀ k : PoolKey, d ≠ liqTokenDenom env k) (hmel : d ≠ .mel) (hsym : d ≠ .sym) :
    supply s₂ d ≤ supply s d := by
  have h := C01_block_closed env s s₁ s₂ txs fb a ss hb hs hn hk hp hl hfresh hc hbuilt d hd hmel hsym
  unfold recreated at h
  rw [builtinsCreated_zero _ d hkept] at h
  exact h

/-- Why the second creation term cannot be dropped: sealing `drainedErgSymState` (Props/C16.lean — all three
    builtin pools exist with liquidity, the block redeems the ERG/SYM pool's whole liquidity) leaves more ERG than
    before: the 5000 ERG of the
    old pool are paid out to the withdrawer and a fresh pool with 10^9 ERG is made; `recreated` is exactly that 10^9 -/
theorem C01_recreation_witness :
    ∃ ss, sealState drainEnv (drainedErgSymState drainEnv) none = .ok ss ∧
      supply (drainedErgSymState drainEnv) .erg = 1000005000 ∧ supply ss.st .erg = 2000000925 ∧
      builtinsCreated (drainedErgSymState drainEnv) .erg = 0 ∧
      recreated drainEnv (drainedErgSymState drainEnv) .erg = 1000000000 := by
  have hv : ((sealState drainEnv (drainedErgSymState drainEnv) none).okAnd fun ss =>
      decide (supply (drainedErgSymState drainEnv) .erg = 1000005000 ∧ supply ss.st .erg = 2000000925 ∧
        builtinsCreated (drainedErgSymState drainEnv) .erg = 0 ∧
        recreated drainEnv (drainedErgSymState drainEnv) .erg = 1000000000)) = true := by decide +kernel
  obtain ⟨ss, hs, h⟩ := Outcome.exists_of_okAnd hv
  exact ⟨ss, hs, of_decide_eq_true h⟩

/-- the proposer reward is paid out of the fee pool and the tips: sealing with an action and sealing without one
    end with the same total supply of every denomination -/
theorem C01_action_neutral (env : Env) (s : State) (a : ProposerAction) (ss ss' : Sealed)
    (h : sealState env s (some a) = .ok ss) (h' : sealState env s none = .ok ss')
    (hk : (s.coins.coins.map (·.1)).Nodup)
    (hfresh : s.coins.getCoin { txhash := env.rewardId s.height, index := 0 } = none)
    (d : Denom) : supply ss.st d = supply ss'.st d := by
  obtain ⟨s2, h2, _⟩ := sealState_eq_ok_iff.mp h
  obtain ⟨s2', h2', _⟩ := sealState_eq_ok_iff.mp h'
  cases Outcome.ok.inj (h2'.symm.trans h2)
  rw [WholeL.seal_action h h2 hk hfresh d, WholeL.seal_action h' h2 hk hfresh d]

/-- non-vacuity: a concrete state with a pool and a swap request satisfies the hypotheses of `C01_seal_whole` -/
theorem C01_seal_whole_nonvacuous :
    ∃ (env : Env) (s : State) (ss : Sealed), sealState env s none = .ok ss ∧ SealPre s ∧ legacyDeposit s = false ∧
      s.txs ≠ [] ∧ s.coins.getCoin { txhash := env.rewardId s.height, index := 0 } = none := by
  open WholeL.Witness in
  obtain ⟨ss, hss⟩ := Outcome.exists_ok_of_isOk seals
  exact ⟨env, st, ss, hss, sealPre_st, by decide, by simp [st], rfl⟩

end Mel

#print axioms Mel.C01_pegging_bounded
#print axioms Mel.C01_pegging_step
#print axioms Mel.C01_seal_whole
#print axioms Mel.C01_seal_whole_sharp
#print axioms Mel.C01_recreated_le
#print axioms Mel.C01_block_whole
#print axioms Mel.C01_block_closed
#print axioms Mel.C01_block_closed_kept
#print axioms Mel.C01_recreation_witness
#print axioms Mel.C01_action_neutral
#print axioms Mel.C01_seal_whole_nonvacuous

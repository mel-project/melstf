/-
  C02 — Exact UTXO transition: no double spend, no lost coin, rejection is a no-op.
-/
import MelModel.ApplyTx
import MelModel.Lemmas.Batch
namespace Mel

def batchInputs (txs : List Tx) : List CoinID := txs.flatMap (·.inputs)

/-- the coins the batch creates: every output not sent to the destruction address, with the declared
    value, covenant hash and additional data, the creating block's height, and `NewCustom` rewritten to
    the creating transaction's hash (later transactions with the same hash overwrite earlier ones) -/
def batchCreated (height : Nat) (txs : List Tx) : AList CoinID CoinDataHeight :=
  txs.foldl (fun acc tx => acc.extend (outputCoinsFromTx tx height)) []

/-- the faucet de-duplication markers the batch inserts -/
def markerIds (env : Env) (txs : List Tx) : List CoinID :=
  (txs.filter fun tx => tx.kind = .faucet && !env.isGrandfathered tx.hash).map fun tx => { txhash := env.fdp tx.hash, index := 0 }

def markerCoin : CoinDataHeight :=
  { coinData := { denom := .mel, value := 0, additionalData := [], covhash := zeroHash }, height := 0 }

/-- hash hypothesis: marker ids live in a range disjoint from transaction hashes, so they are neither
    inputs nor outputs of the batch (DESIGN §2.2: keyed hashes are domain-separated) -/
def MarkersApart (env : Env) (height : Nat) (txs : List Tx) : Prop :=
  ∀ m ∈ markerIds env txs, m ∉ batchInputs txs ∧ (batchCreated height txs).get m = none

/-- Exact transition: after an accepted batch the coin set is exactly the previous set minus every
    input plus every created coin (plus faucet markers). -/
theorem C02_exact (env : Env) (s s' : State) (txs : List Tx) (fb : Header)
    (h : applyBatch env s txs fb = .ok s') (hm : MarkersApart env s.height txs) (id : CoinID) :
    s'.coins.getCoin id =
      if id ∈ batchInputs txs then none
      else match (batchCreated s.height txs).get id with
        | some c => some c
        | none => if id ∈ markerIds env txs then some markerCoin else s.coins.getCoin id := by
  have hm1 : ∀ m ∈ markerIdsOf env txs, m ∉ txs.flatMap (·.inputs) := fun m hmm => (hm m hmm).1
  have hm2 : ∀ m ∈ markerIdsOf env txs, (createdOf s.height txs).get m = none := fun m hmm => (hm m hmm).2
  exact applyBatch_getCoin h hm1 hm2 id

/-- created coins carry what was declared -/
theorem C02_created_content (height : Nat) (txs : List Tx) (id : CoinID) (c : CoinDataHeight)
    (hwf : ∀ tx ∈ txs, tx.outputs.length ≤ 256)
    (h : (batchCreated height txs).get id = some c) :
    c.height = height ∧ c.coinData.covhash ≠ coinDestroy ∧ c.coinData.denom ≠ .newCustom ∧
    ∃ tx ∈ txs, ∃ o ∈ tx.outputs, id.txhash = tx.hash ∧ tx.outputs[id.index]? = some o ∧
      c.coinData.value = o.value ∧ c.coinData.covhash = o.covhash ∧ c.coinData.additionalData = o.additionalData ∧
      c.coinData.denom = (if o.denom = .newCustom then .custom tx.hash else o.denom) := by
  exact createdOf_content hwf h

/-- no double spend: an accepted batch consumes no coin twice -/
theorem C02_no_double_spend (env : Env) (s s' : State) (txs : List Tx) (fb : Header)
    (h : applyBatch env s txs fb = .ok s') : (batchInputs txs).Nodup := by
  obtain ⟨rel, _, _, h1, -⟩ := applyBatch_ok h
  exact (loadRelevantCoins_ok h1).nodup

/-- every input of an accepted batch was unspent before or is created inside the batch -/
theorem C02_inputs_exist (env : Env) (s s' : State) (txs : List Tx) (fb : Header)
    (h : applyBatch env s txs fb = .ok s') (id : CoinID) (hid : id ∈ batchInputs txs) :
    (s.coins.getCoin id).isSome ∨ ((batchCreated s.height txs).get id).isSome := by
  obtain ⟨rel, _, _, h1, -⟩ := applyBatch_ok h
  exact (loadRelevantCoins_ok h1).inputs id hid

/-- every transaction of an accepted batch is individually well-formed and passes the validity check
    (balanced, authorised, unlocked) against the coins of the state and of the batch -/
theorem C02_each_valid (env : Env) (s s' : State) (txs : List Tx) (fb : Header)
    (h : applyBatch env s txs fb = .ok s') (tx : Tx) (htx : tx ∈ txs) :
    tx.isWellFormed = true ∧
    ∃ rel newStakes, loadRelevantCoins s txs = .ok rel ∧ loadStakeInfo s txs = .ok newStakes ∧
      checkTxValidity env s (lastHeaderOf s fb) tx rel newStakes = .ok () := by
  obtain ⟨rel, newStakes, _, h1, h2, h3, -⟩ := applyBatch_ok h
  exact ⟨((loadRelevantCoins_ok h1).wf tx htx).1, rel, newStakes, h1, h2, h3 tx htx⟩

/-- a batch with a repeated input is rejected -/
theorem C02_repeat_rejected (env : Env) (s : State) (txs : List Tx) (fb : Header)
    (h : ¬ (batchInputs txs).Nodup) : ∃ e, applyBatch env s txs fb = .reject e ∨ ∃ c, applyBatch env s txs fb = .crash c := by
  cases hr : applyBatch env s txs fb with
  | ok s' => exact absurd (C02_no_double_spend env s s' txs fb hr) h
  | reject e => exact ⟨e, Or.inl rfl⟩
  | crash c => exact ⟨default, Or.inr ⟨c, rfl⟩⟩

/-- a batch referencing a coin that is neither unspent nor created in the batch is rejected -/
theorem C02_missing_rejected (env : Env) (s : State) (txs : List Tx) (fb : Header) (id : CoinID)
    (hid : id ∈ batchInputs txs) (h1 : s.coins.getCoin id = none) (h2 : (batchCreated s.height txs).get id = none) :
    applyBatch env s txs fb = .reject .malformedTx ∨ applyBatch env s txs fb = .reject .nonexistentCoin := by
  exact applyBatch_missing hid h1 h2

/-- `apply_tx_batch(&mut self, …)`: the state is replaced only on success — rejection is a no-op -/
def applyTxBatchMut (env : Env) (s : State) (txs : List Tx) (fb : Header) : State × Outcome Unit :=
  match applyBatch env s txs fb with
  | .ok s' => (s', .ok ())
  | .reject e => (s, .reject e)
  | .crash c => (s, .crash c)

theorem C02_reject_noop (env : Env) (s : State) (txs : List Tx) (fb : Header) (e : StateError)
    (h : (applyTxBatchMut env s txs fb).2 = .reject e) : (applyTxBatchMut env s txs fb).1 = s := by
  unfold applyTxBatchMut at h ⊢
  cases hr : applyBatch env s txs fb with
  | ok s' => rw [hr] at h; cases h
  | reject e' => rfl
  | crash c => rfl

end Mel

#print axioms Mel.C02_exact
#print axioms Mel.C02_created_content
#print axioms Mel.C02_no_double_spend
#print axioms Mel.C02_inputs_exist
#print axioms Mel.C02_each_valid
#print axioms Mel.C02_repeat_rejected
#print axioms Mel.C02_missing_rejected
#print axioms Mel.C02_reject_noop

/-
  C13 — the constants the property's statement (and the recorded deviations) fix, stated of the values regenerated
  from /repo's source (Generated/Tables.lean): the two legacy windows recorded as known deviation K2 (stake
  registration below 500000, stake lock below 900000, Mainnet/Testnet only): a wider window is a new violation, not
  the recorded one. The model is parametric in these constants: a changed constant breaks these theorems instead of
  being followed silently.
-/
import MelModel.Generated.Tables
namespace Mel
open Mel.Gen

theorem C13_pin_LEGACY_STAKE_REG_HEIGHT : LEGACY_STAKE_REG_HEIGHT = 500000 := rfl
theorem C13_pin_LEGACY_STAKE_LOCK_HEIGHT : LEGACY_STAKE_LOCK_HEIGHT = 900000 := rfl

end Mel

#print axioms Mel.C13_pin_LEGACY_STAKE_REG_HEIGHT
#print axioms Mel.C13_pin_LEGACY_STAKE_LOCK_HEIGHT

/-
  C05, over blocks and histories — the exact accounting of the two fee accumulators (`fee_pool`, `tips`) across one
  block of the chain (an accepted batch, the seal, the opening of the next block), as a corollary of the one-step
  theorems of Props/C05.lean (`C05_split_exact`, `C05_reward`, `C05_seal_structure`), and what follows along any
  run of the chain (`ChainRun`, Props/C13Life.lean).

  The quantities: sealing a state `u` first runs Melmint (`presealMelmint env u = .ok s1`; `s1.feePool = u.feePool`,
  `s1.tips = u.tips`), then — once TIP-909 is active — the block subsidy (`applyTip909 s1 = .ok s2`; it swaps freshly
  made SYM into the MEL/SYM pool and adds the MEL it gets to the fee pool: `u.feePool ≤ s2.feePool`, tips untouched).
  `s2` is "the state after Melmint and the subsidy"; with a proposer action the reward `s2.feePool / 65536 + u.tips`
  leaves the two accumulators for a new coin, without an action nothing else happens.  `next_unsealed` keeps both
  accumulators and the coins.
-/
import MelModel.Props.C05
import MelModel.Props.C13Life
import MelModel.Props.Reach
import MelModel.Lemmas.FeeHistL
namespace Mel
open Mel.Gen

/-- One sealed block with a proposer action, fee side: with `s2` the state after Melmint and the subsidy
    (fee pool at least that of `u`, tips those of `u`), the block that opens next starts with zero tips, its fee
    pool is the post-subsidy fee pool less one 65536th, and the coin `proposer_reward(height)` holds exactly what
    left the two accumulators: `s2.feePool / 65536 + u.tips`, in MEL, to the action's destination -/
theorem C05_block_fees_action (env : Env) (u : State) (a : ProposerAction) (ss : Sealed) (s' : State)
    (hs : sealState env u (some a) = .ok ss) (hn : nextUnsealed env ss = .ok s') :
    ∃ s1 s2, presealMelmint env u = .ok s1 ∧ (if s1.tip909 then applyTip909 s1 else .ok s1) = .ok s2 ∧
      s1.feePool = u.feePool ∧ u.feePool ≤ s2.feePool ∧ s2.tips = u.tips ∧
      s'.tips = 0 ∧
      s'.feePool + s2.feePool / 65536 = s2.feePool ∧
      s'.coins.getCoin { txhash := env.rewardId u.height, index := 0 } =
        some { coinData := { covhash := a.rewardDest, value := s2.feePool / 65536 + u.tips, denom := .mel,
                             additionalData := [] }, height := u.height } ∧
      s'.feePool + s'.tips + (s2.feePool / 65536 + u.tips) = s2.feePool + u.tips := by
  obtain ⟨s1, s2, h1, h2, _, h3⟩ := C05_seal_structure env u (some a) ss hs
  simp only at h3
  obtain ⟨r1, r2, r3, -⟩ := C05_reward env _ ss.st a h3
  obtain ⟨n1, n2, -⟩ := FeeHistL.nextUnsealed_fee hn
  obtain ⟨f1, f2, t2, hh2⟩ := FeeHistL.sealPre_fees h1 h2
  have r2' : s'.feePool + s2.feePool / 65536 = s2.feePool := by rw [n1]; exact r2
  refine ⟨s1, s2, h1, h2, f1, f2, t2, by rw [n2]; exact r3, r2', ?_, ?_⟩
  · rw [nextUnsealed_getCoin hn, ← hh2, ← t2]
    exact r1
  · rw [n2, r3, Nat.add_zero, ← Nat.add_assoc, r2']

/-- One sealed block without a proposer action, fee side: tips are carried over unchanged, the fee pool is the
    post-subsidy fee pool; no reward coin is made -/
theorem C05_block_fees_none (env : Env) (u : State) (ss : Sealed) (s' : State)
    (hs : sealState env u none = .ok ss) (hn : nextUnsealed env ss = .ok s') :
    ∃ s1 s2, presealMelmint env u = .ok s1 ∧ (if s1.tip909 then applyTip909 s1 else .ok s1) = .ok s2 ∧
      s1.feePool = u.feePool ∧ u.feePool ≤ s2.feePool ∧
      s'.tips = u.tips ∧ s'.feePool = s2.feePool ∧
      ∀ id, s'.coins.getCoin id = s2.coins.getCoin id := by
  obtain ⟨s1, s2, h1, h2, _, h3⟩ := C05_seal_structure env u none ss hs
  simp only at h3
  obtain ⟨n1, n2, -⟩ := FeeHistL.nextUnsealed_fee hn
  obtain ⟨f1, f2, t2, -⟩ := FeeHistL.sealPre_fees h1 h2
  refine ⟨s1, s2, h1, h2, f1, f2, ?_, ?_, ?_⟩
  · rw [n2, h3, t2]
  · rw [n1, h3]
  · intro id; rw [nextUnsealed_getCoin hn, h3]

/-- Exact accounting of one whole block (batch, seal with a proposer action, next block): what the two
    accumulators hold when the next block opens, plus the proposer's reward, is what they held before the batch plus
    every fee paid by the batch plus the block subsidy's MEL (`s2.feePool - u.feePool`, zero before TIP-909).
    Nothing is lost to rounding: the 65536th is subtracted from the pool exactly as it is added to the coin.
    `hp`, `ht`, `hcap` (no u128 saturation in the batch) are those of `C05_split_exact`. -/
theorem C05_block_exact (env : Env) (s u : State) (txs : List Tx) (fb : Header) (a : ProposerAction)
    (ss : Sealed) (s' : State)
    (hb : applyBatch env s txs fb = .ok u) (hs : sealState env u (some a) = .ok ss)
    (hn : nextUnsealed env ss = .ok s')
    (hp : s.feePool ≤ U128_MAX) (ht : s.tips ≤ U128_MAX)
    (hcap : s.feePool + s.tips + (txs.map (·.fee)).sum ≤ U128_MAX) :
    ∃ s1 s2, presealMelmint env u = .ok s1 ∧ (if s1.tip909 then applyTip909 s1 else .ok s1) = .ok s2 ∧
      u.feePool ≤ s2.feePool ∧ s'.tips = 0 ∧
      s'.coins.getCoin { txhash := env.rewardId u.height, index := 0 } =
        some { coinData := { covhash := a.rewardDest, value := s2.feePool / 65536 + u.tips, denom := .mel,
                             additionalData := [] }, height := u.height } ∧
      s'.feePool + s'.tips + (s2.feePool / 65536 + u.tips) =
        s.feePool + s.tips + (txs.map (·.fee)).sum + (s2.feePool - u.feePool) := by
  obtain ⟨s1, s2, h1, h2, _, f2, _, t0, _, r1, tot⟩ := C05_block_fees_action env u a ss s' hs hn
  have hx := C05_split_exact env s u txs fb hb hp ht hcap
  refine ⟨s1, s2, h1, h2, f2, t0, r1, ?_⟩
  rw [tot, ← hx, Nat.add_right_comm, Nat.add_sub_cancel' f2]

/-- … and without a proposer action: everything stays in the two accumulators -/
theorem C05_block_exact_none (env : Env) (s u : State) (txs : List Tx) (fb : Header)
    (ss : Sealed) (s' : State)
    (hb : applyBatch env s txs fb = .ok u) (hs : sealState env u none = .ok ss)
    (hn : nextUnsealed env ss = .ok s')
    (hp : s.feePool ≤ U128_MAX) (ht : s.tips ≤ U128_MAX)
    (hcap : s.feePool + s.tips + (txs.map (·.fee)).sum ≤ U128_MAX) :
    ∃ s1 s2, presealMelmint env u = .ok s1 ∧ (if s1.tip909 then applyTip909 s1 else .ok s1) = .ok s2 ∧
      u.feePool ≤ s2.feePool ∧ s'.tips = u.tips ∧
      s'.feePool + s'.tips = s.feePool + s.tips + (txs.map (·.fee)).sum + (s2.feePool - u.feePool) := by
  obtain ⟨s1, s2, h1, h2, _, f2, t0, f0, _⟩ := C05_block_fees_none env u ss s' hs hn
  have hx := C05_split_exact env s u txs fb hb hp ht hcap
  refine ⟨s1, s2, h1, h2, f2, t0, ?_⟩
  rw [f0, t0, ← hx, Nat.add_right_comm, Nat.add_sub_cancel' f2]

/-- After any block sealed with a proposer action the next open block starts with zero tips — wherever in a
    history (`ChainRun`) the block sits, and whatever the run did before -/
theorem C05_tips_zero_after_action (env : Env) (s m s' : State) (ss : Sealed) (a : ProposerAction)
    (_hrun : ChainRun env s m) (hs : sealState env m (some a) = .ok ss) (hn : nextUnsealed env ss = .ok s') :
    s'.tips = 0 ∧ s'.txs = [] := by
  obtain ⟨_, _, _, _, _, _, _, t0, _⟩ := C05_block_fees_action env m a ss s' hs hn
  exact ⟨t0, nextUnsealed_txs hn⟩

/-- a run of the chain every block of which is sealed with a proposer action (as every block of a real chain is:
    `apply_block` of a block carrying its proposer's action) -/
inductive ActionRun (env : Env) : State → State → Prop
  | refl (s : State) : ActionRun env s s
  | batch {s m s' : State} {txs : List Tx} {fb : Header} :
      ActionRun env s m → applyBatch env m txs fb = .ok s' → ActionRun env s s'
  | block {s m s' : State} {ss : Sealed} {a : ProposerAction} :
      ActionRun env s m → sealState env m (some a) = .ok ss → nextUnsealed env ss = .ok s' → ActionRun env s s'

theorem ActionRun.toRun {env : Env} {s s' : State} (h : ActionRun env s s') : ChainRun env s s' := by
  induction h with
  | refl => exact .refl _
  | batch _ hb ih => exact .step ih (.batch hb)
  | block _ hs hn ih => exact .step ih (.block hs hn)

/-- The invariant over runs: along a run whose blocks all carry a proposer action, a block without transactions
    has no tips — tips are only ever what the transactions of the current block paid above their minimum fee; every
    seal hands all of them to the proposer -/
theorem C05_tips_zero_block_start (env : Env) (s s' : State) (hrun : ActionRun env s s')
    (h0 : s.txs = [] → s.tips = 0) : s'.txs = [] → s'.tips = 0 := by
  induction hrun with
  | refl => exact h0
  | @batch m s' txs fb _ hb ih =>
    intro hnil
    obtain ⟨e1, e2⟩ := FeeHistL.applyBatch_txs_nil hb hnil
    subst e1
    have hsame : applyBatch env m [] fb = .ok m := rfl
    rw [hsame] at hb
    cases hb
    exact ih e2
  | @block m s' ss a hr hs hn _ =>
    intro _
    exact (C05_tips_zero_after_action env s m s' ss a hr.toRun hs hn).1

/-- … in particular from a genesis state -/
theorem C05_tips_zero_from_genesis (env : Env) (cfg : GenesisConfig) (s' : State)
    (hrun : ActionRun env (genesisState cfg) s') : s'.txs = [] → s'.tips = 0 :=
  C05_tips_zero_block_start env (genesisState cfg) s' hrun (fun _ => rfl)

namespace C05HistWitness
open ReachWitness

/-- an ordinary transaction spending the initial coin of `ReachWitness.cfg` (5 MEL): 3 MEL out, 2 MEL fee; the fee
    multiplier is 0, so the minimum fee is 0 and all of the fee is a tip -/
def pz : Tx := {
  kind := .normal, inputs := [⟨zeroHash, 0⟩], outputs := [(⟨[8], 3, .mel, []⟩ : CoinData)], fee := 2,
  covenants := [C03Witness.cov], data := [], sigs := [], hash := [4], rawLen := 0, covHashes := [[7]] }

def act : ProposerAction := { feeMultiplierDelta := 0, rewardDest := [6] }

def q1 : State := getOk (applyBatch env (genesisState cfg) [pz] default)
def qs : Sealed := getOk (sealState env q1 (some act))
def q2 : State := getOk (nextUnsealed env qs)
def ns : Sealed := getOk (sealState env q1 none)
def n2 : State := getOk (nextUnsealed env ns)

/-- (next block) a transaction spending `pz`'s output `([4], 0)` (3 MEL): 2 MEL out, 1 MEL fee (all of it a tip) -/
def pz2 : Tx := {
  kind := .normal, inputs := [⟨[4], 0⟩], outputs := [(⟨[8], 2, .mel, []⟩ : CoinData)], fee := 1,
  covenants := [C03Witness.cov], data := [], sigs := [], hash := [5], rawLen := 0, covHashes := [[8]] }
/-- the batch `[pz2]` on `n2` (pending tips 2) -/
def u1 : State := getOk (applyBatch env n2 [pz2] default)

/-- what is evaluated about the two histories, in one run of the kernel: every step succeeds; fee pool and tips
    after the batch; with the action, the next fee pool and the proposer's coin; without it, the tips stay -/
theorem facts :
    ((applyBatch env (genesisState cfg) [pz] default).isOk = true ∧ (sealState env q1 (some act)).isOk = true ∧
      (nextUnsealed env qs).isOk = true ∧ (sealState env q1 none).isOk = true ∧ (nextUnsealed env ns).isOk = true ∧
      (applyBatch env n2 [pz2] default).isOk = true) ∧
    (q1.feePool = 0 ∧ q1.tips = 2) ∧
    (q2.feePool = 1038158 ∧
      q2.coins.getCoin { txhash := env.rewardId q1.height, index := 0 } =
        some { coinData := { covhash := act.rewardDest, value := 17, denom := .mel, additionalData := [] },
               height := 0 }) ∧
    (ns.st.tips = 2 ∧ n2.txs = [] ∧ n2.tips = 2) := by decide +kernel

theorem batch_ok : applyBatch env (genesisState cfg) [pz] default = .ok q1 := eq_getOk facts.1.1
theorem seal_ok : sealState env q1 (some act) = .ok qs := eq_getOk facts.1.2.1
theorem next_ok : nextUnsealed env qs = .ok q2 := eq_getOk facts.1.2.2.1
theorem sealNone_ok : sealState env q1 none = .ok ns := eq_getOk facts.1.2.2.2.1
theorem nextNone_ok : nextUnsealed env ns = .ok n2 := eq_getOk facts.1.2.2.2.2.1
theorem u1_ok : applyBatch env n2 [pz2] default = .ok u1 := eq_getOk facts.1.2.2.2.2.2

theorem tips_kept : ns.st.tips = 2 ∧ n2.txs = [] ∧ n2.tips = 2 := facts.2.2.2

end C05HistWitness

/-- non-vacuity of `C05_block_exact` (and of `ActionRun` / `C05_tips_zero_from_genesis`): from a genesis state, a
    batch whose one transaction pays 2 MEL of fee (all of it a tip), sealed with a proposer action.  The subsidy
    brings the fee pool to 1038173; the proposer's coin holds 1038173 / 65536 + 2 = 17 MEL, the next block opens
    with a fee pool of 1038158 and no tips: 1038158 + 0 + 17 = 0 + 0 + 2 + 1038173. -/
theorem C05_block_exact_nonvacuous :
    ∃ (env : Env) (cfg : GenesisConfig) (u : State) (txs : List Tx) (fb : Header) (a : ProposerAction)
      (ss : Sealed) (s' : State),
      applyBatch env (genesisState cfg) txs fb = .ok u ∧ sealState env u (some a) = .ok ss ∧
      nextUnsealed env ss = .ok s' ∧ ActionRun env (genesisState cfg) s' ∧
      (genesisState cfg).feePool + (genesisState cfg).tips + (txs.map (·.fee)).sum ≤ U128_MAX ∧
      (txs.map (·.fee)).sum = 2 ∧ u.feePool = 0 ∧ u.tips = 2 ∧ s'.feePool = 1038158 ∧ s'.tips = 0 ∧ s'.txs = [] ∧
      s'.coins.getCoin { txhash := env.rewardId u.height, index := 0 } =
        some { coinData := { covhash := a.rewardDest, value := 17, denom := .mel, additionalData := [] },
               height := 0 } := by
  open C05HistWitness in
  obtain ⟨-, ⟨hf1, ht1⟩, ⟨hf2, hcoin⟩, -⟩ := facts
  have h0 := C05_tips_zero_after_action _ _ q1 q2 qs act (.step (.refl _) (.batch batch_ok)) seal_ok next_ok
  exact ⟨ReachWitness.env, ReachWitness.cfg, q1, [pz], default, act, qs, q2, batch_ok, seal_ok, next_ok,
    .block (.batch (.refl _) batch_ok) seal_ok next_ok, by decide, by decide, hf1, ht1, hf2, h0.1, h0.2, hcoin⟩

/-- Why `C05_tips_zero_block_start` is about runs whose blocks carry an action: the same batch sealed without a
    proposer action — a `ChainRun` from the same genesis state — opens the next block with no transaction and the
    2 MEL of tips still pending (they go to the proposer of a later block) -/
theorem C05_tips_carried_without_action :
    ∃ (env : Env) (cfg : GenesisConfig) (s' : State), ChainRun env (genesisState cfg) s' ∧
      (genesisState cfg).tips = 0 ∧ s'.txs = [] ∧ s'.tips = 2 := by
  open C05HistWitness in
  exact ⟨ReachWitness.env, ReachWitness.cfg, n2,
    .step (.step (.refl _) (.batch batch_ok)) (.block sealNone_ok nextNone_ok), rfl, tips_kept.2.1,
    tips_kept.2.2⟩

end Mel

#print axioms Mel.C05_block_fees_action
#print axioms Mel.C05_block_fees_none
#print axioms Mel.C05_block_exact
#print axioms Mel.C05_block_exact_none
#print axioms Mel.C05_tips_zero_after_action
#print axioms Mel.ActionRun.toRun
#print axioms Mel.C05_tips_zero_block_start
#print axioms Mel.C05_tips_zero_from_genesis
#print axioms Mel.C05_block_exact_nonvacuous
#print axioms Mel.C05_tips_carried_without_action

/-
  C13 — Staked SYM is locked for the life of the stake; voting power follows the stakes.
-/
import MelModel.Chain
import MelModel.Lemmas.StakeL
import MelModel.Lemmas.Blocks
namespace Mel
open Mel.Gen C3

/-- a stake transaction registers the stake document `d` in state `s` -/
def Registers (s : State) (tx : Tx) (d : StakeDoc) : Prop :=
  tx.kind = .stake ∧ legacyStakeReg s = false ∧ tx.stakeDoc = some d ∧
  ∃ first, tx.outputs.head? = some first ∧ first.denom = .sym ∧
    d.eStart > s.epoch ∧ d.ePostEnd > d.eStart ∧ d.symsStaked = first.value

/-- registration happens exactly under the stated conditions (transactions of a batch have distinct hashes) -/
theorem C13_register_iff (env : Env) (s s' : State) (txs : List Tx) (fb : Header)
    (h : applyBatch env s txs fb = .ok s') (hu : (txs.map (·.hash)).Nodup) (k : Hash) (d : StakeDoc) :
    s'.stakes.getStake k = some d ↔
      (∃ tx ∈ txs, tx.hash = k ∧ Registers s tx d) ∨
      ((∀ tx ∈ txs, tx.hash = k → ∀ d', ¬ Registers s tx d') ∧ s.stakes.getStake k = some d) := by
  obtain ⟨_, ns, _, _, _, hns, _, _, _, _⟩ := applyBatch_iff.mp h
  have hiff := fun d => stakeMap_get_iff (loadStake_iff.mp hns).1 hu k d
  rw [(applyBatch_frame h).stakes k]
  cases hk : (SeqL.stakeMap s txs).get k with
  | some v =>
    have hreg := (hiff v).mp hk
    rw [Option.some_or]
    constructor
    · intro e; cases e
      exact .inl hreg
    · rintro (hd | ⟨hall, _⟩)
      · exact hk.symm.trans ((hiff d).mpr hd)
      · obtain ⟨tx, ht, htk, hr⟩ := hreg
        exact absurd hr (hall tx ht htk v)
  | none =>
    rw [Option.none_or]
    constructor
    · intro hs
      refine .inr ⟨fun tx ht htk d' hr => ?_, hs⟩
      have := (hiff d').mpr ⟨tx, ht, htk, hr⟩
      rw [hk] at this; cases this
    · rintro (hd | ⟨_, hold⟩)
      · have := (hiff d).mpr hd
        rw [hk] at this; cases this
      · exact hold

/-- outside the legacy window a stake transaction with undecodable data, no output, or a first output
    that is not SYM makes the batch fail -/
theorem C13_malformed (env : Env) (s : State) (txs : List Tx) (fb : Header) (tx : Tx) (htx : tx ∈ txs)
    (hk : tx.kind = .stake) (hl : legacyStakeReg s = false)
    (hbad : tx.stakeDoc = none ∨ tx.outputs = [] ∨ ∃ o, tx.outputs.head? = some o ∧ o.denom ≠ .sym) :
    ∀ s', applyBatch env s txs fb ≠ .ok s' := by
  intro s' h
  obtain ⟨_, ns, _, _, _, hns, _, _, _, _⟩ := applyBatch_iff.mp h
  obtain ⟨v, hv⟩ := (loadStake_iff.mp hns).1 tx htx
  exact stakeRes_malformed s tx hk hl hbad v hv

/-- while a stake is registered (or being registered in this batch) no output of its transaction can be
    spent (outside the legacy window) -/
theorem C13_locked (env : Env) (s : State) (txs : List Tx) (fb : Header) (tx : Tx) (htx : tx ∈ txs)
    (id : CoinID) (hid : id ∈ tx.inputs) (hl : legacyStakeLock s = false)
    (hst : (s.stakes.getStake id.txhash).isSome ∨ ∃ t ∈ txs, t.hash = id.txhash ∧ ∃ d, Registers s t d) :
    ∀ s', applyBatch env s txs fb ≠ .ok s' := by
  intro s' h
  obtain ⟨rel, ns, _, hns, hchk, _⟩ := applyBatch_stakes env s s' txs fb h
  obtain ⟨hok, rfl⟩ := loadStake_iff.mp hns
  have hv := Outcome.forM'_ok_mem hchk htx
  refine checkTxValidity_locked env s _ tx rel _ id hid hl ?_ hv
  rcases hst with hst | ⟨t, ht, hth, d, hreg⟩
  · simp [hst]
  · obtain ⟨o, ho⟩ := hok t ht
    have := stakeMap_contains (ho.trans (congrArg _ ((stakeRes_ok ho d).mpr hreg))) ht
    rw [hth] at this
    simp [this]

/-- … and for a single otherwise-loadable transaction the error is `CoinLocked` -/
theorem C13_locked_error (env : Env) (s : State) (tx : Tx) (fb : Header) (rel : Relevant)
    (hrel : loadRelevantCoins s [tx] = .ok rel) (hns : tx.kind ≠ .stake)
    (id : CoinID) (hfirst : tx.inputs.head? = some id) (hl : legacyStakeLock s = false)
    (hst : (s.stakes.getStake id.txhash).isSome) :
    applyBatch env s [tx] fb = .reject .coinLocked := by
  have hns : loadStakeInfo s [tx] = .ok [] := by
    rw [loadStakeInfo_eq]
    simp [Outcome.foldlM', stakeRes, hns, Outcome.bind_ok, stakeEntries, AList.extend]
  obtain ⟨rest, hin⟩ : ∃ rest, tx.inputs = id :: rest := by
    cases hi : tx.inputs with
    | nil => rw [hi] at hfirst; cases hfirst
    | cons a rest => rw [hi] at hfirst; simp at hfirst; exact ⟨rest, by rw [hfirst]⟩
  have hchk : ∀ lh, checkTxValidity env s lh tx rel [] = .reject .coinLocked := by
    intro lh
    have hstep : ∀ acc, inStep env s lh tx rel [] acc (id, 0) = .reject .coinLocked := fun acc => by
      simp [inStep, hst, hl]
    rw [checkTxValidity_eq, hin, List.zipIdx_cons, Outcome.foldlM'_cons, hstep, Outcome.bind_reject, Outcome.bind_reject]
  unfold applyBatch
  simp only [hrel, hns, Outcome.bind_ok, Outcome.forM'_cons, hchk, Outcome.bind_reject]

/-- opening a block drops exactly the stakes whose end epoch is before the new block's epoch: a stake with
    end field `e` stays registered (hence locked) through the last block of epoch `e` and is gone from the
    first block of epoch `e + 1` on -/
theorem C13_unlock (env : Env) (ss : Sealed) (s' : State) (h : nextUnsealed env ss = .ok s')
    (hu : (ss.st.stakes.map (·.1)).Nodup) (k : Hash) :
    s'.stakes.getStake k =
      match ss.st.stakes.getStake k with
      | some d => if d.ePostEnd ≥ (ss.st.height + 1) / STAKE_EPOCH then some d else none
      | none => none := by
  obtain ⟨hdr, c, -, e, -⟩ := nextUnsealed_shape h
  rw [congrArg State.stakes e]
  unfold StakeSet.unlockOld StakeSet.getStake
  rw [AList.get_filter _ _ hu]
  cases AList.get ss.st.stakes k with
  | none => rfl
  | some d => simp

theorem C13_seal_keeps_stakes (env : Env) (s : State) (a : Option ProposerAction) (ss : Sealed)
    (h : sealState env s a = .ok ss) : ss.st.stakes = s.stakes := by
  exact (sealState_keeps h).stakes

/-- voting power of a key = sum of its registered stakes with start ≤ epoch < end -/
theorem C13_votes (st : StakeSet) (epoch : Nat) (key : Bytes) :
    st.votes epoch key =
      ((st.filter fun e => e.2.eStart ≤ epoch ∧ epoch < e.2.ePostEnd ∧ e.2.pubkey = key).map (·.2.symsStaked)).sum := by
  unfold StakeSet.votes
  congr 2
  apply List.filter_congr
  intro e _
  by_cases hk : e.2.pubkey = key <;> simp [StakeSet.active, Bool.and_assoc, hk]

theorem C13_total_votes (st : StakeSet) (epoch : Nat) :
    st.totalVotes epoch = ((st.filter fun e => e.2.eStart ≤ epoch ∧ epoch < e.2.ePostEnd).map (·.2.symsStaked)).sum := by
  unfold StakeSet.totalVotes
  congr 2
  apply List.filter_congr
  intro e _
  simp [StakeSet.active]

/-- the total is the sum of the per-key tallies over the distinct keys (no vote is lost or double counted) -/
theorem C13_total_is_sum_of_keys (st : StakeSet) (epoch : Nat) (keys : List Bytes) (hn : keys.Nodup)
    (hall : ∀ e ∈ st, e.2.pubkey ∈ keys) :
    st.totalVotes epoch = (keys.map (st.votes epoch)).sum := by
  exact (StakeSet.sum_votes_eq_total st epoch keys hn (fun e he _ => hall e he)).symm

/-- known deviation (K2): inside the legacy window stake transactions are let through unregistered -/
theorem C13_legacy_window (s : State) (txs : List Tx) (h : legacyStakeReg s = true) :
    loadStakeInfo s txs = .ok [] := by
  exact loadStakeInfo_legacy s txs h

end Mel

#print axioms Mel.C13_register_iff
#print axioms Mel.C13_malformed
#print axioms Mel.C13_locked
#print axioms Mel.C13_locked_error
#print axioms Mel.C13_unlock
#print axioms Mel.C13_seal_keeps_stakes
#print axioms Mel.C13_votes
#print axioms Mel.C13_total_votes
#print axioms Mel.C13_total_is_sum_of_keys
#print axioms Mel.C13_legacy_window

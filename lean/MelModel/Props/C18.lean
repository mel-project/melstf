/-
  C18 — ERG is minted only against valid sequential work, within the reward formula.
-/
import MelModel.ApplyTx
import MelModel.Lemmas.Batch
namespace Mel
open Mel.Gen

/-- the measured speed: (100 for the TIP-910 hash) · 2^difficulty / coin age -/
def speedOf (tip910 : Bool) (difficulty age : Nat) : Nat := (if tip910 then 100 else 1) * 2 ^ difficulty / age

/-- the reward in real DOSC: work · speed · 10^6 / (previous speed² · 2880), saturating at u128 -/
def rewardOf (tip910 : Bool) (difficulty speed prevSpeed : Nat) : Nat :=
  min ((if tip910 then min (2 ^ difficulty * 100) U128_MAX else 2 ^ difficulty) * speed * 1000000 / (prevSpeed ^ 2 * 2880)) U128_MAX

/-- soundness: an accepted ERG mint carries a valid MelPoW proof (legacy or TIP-910 hash) for the puzzle
    seeded by the header at the spent coin's creation height and that coin's id, at the stated difficulty; on
    mainnet the coin is at least 100 blocks old; the speed is the measured one; the ERG created does not exceed
    the inflated reward. -/
theorem C18_sound (env : Env) (s : State) (rel : Relevant) (tx : Tx) (sp : Nat)
    (h : validateDoscmint env s rel tx = .ok sp) :
    ∃ coinId coin seedHdr prevHdr difficulty tip910 erg,
      tx.inputs.head? = some coinId ∧ rel.get coinId = some coin ∧ coin.height < s.height ∧
      s.history.get coin.height = some seedHdr ∧ s.history.get (s.height - 1) = some prevHdr ∧
      tx.powDifficulty = some difficulty ∧ tx.powProofParses = true ∧
      env.powOk (env.hdrHash seedHdr) coinId difficulty tx.hash = (if tip910 then PowVerdict.tip910 else PowVerdict.legacy) ∧
      (s.network = .mainnet → 100 ≤ s.height - coin.height) ∧
      sp = speedOf tip910 difficulty (s.height - coin.height) ∧
      doscToErg s.height (rewardOf tip910 difficulty sp prevHdr.doscSpeed) = .ok erg ∧
      (tx.totalOutputs.get .erg).getD 0 ≤ erg := by
  rw [validateDoscmint_eq] at h
  obtain ⟨⟨coinId, coin, seedHdr, difficulty⟩, hp, h⟩ := Outcome.bind_eq_ok.mp h
  obtain ⟨hi, hrel, -, hage, hseed, hd, hpp⟩ := doscPre_ok hp
  dsimp only at h
  -- both accepting verdicts lead to the same arithmetic, with the TIP-910 factors or without
  obtain ⟨b, hv, ht⟩ : ∃ b : Bool, env.powOk (env.hdrHash seedHdr) coinId difficulty tx.hash =
      (if b then PowVerdict.tip910 else PowVerdict.legacy) ∧ doscTail s tx coin difficulty b = .ok sp := by
    cases hv : env.powOk (env.hdrHash seedHdr) coinId difficulty tx.hash with
    | panics => rw [hv] at h; cases h
    | invalid => rw [hv] at h; cases h
    | legacy => rw [hv] at h; exact ⟨false, rfl, h⟩
    | tip910 => rw [hv] at h; exact ⟨true, rfl, h⟩
  obtain ⟨hlt, hsp, prev, erg, hprev, herg, hle⟩ := doscTail_ok ht
  have h1 : sp = speedOf b difficulty (s.height - coin.height) := hsp
  have h2 : doscToErg s.height (rewardOf b difficulty sp prev.doscSpeed) = .ok erg := herg
  exact ⟨coinId, coin, seedHdr, prev, difficulty, b, erg, hi, hrel, hlt, hseed, hprev, hd, hpp, hv, hage, h1, h2, hle⟩

/-- each failing condition rejects: an invalid proof — one on which `melpow::Proof::verify` answers `false`, or
    (since the fix for F9) one on which it panics because the proof lacks nodes the verifier looks up -/
theorem C18_invalid_proof (env : Env) (s : State) (rel : Relevant) (tx : Tx) (coinId : CoinID) (coin : CoinDataHeight)
    (seedHdr : Header) (d : Nat) (hi : tx.inputs.head? = some coinId) (hc : rel.get coinId = some coin)
    (hs : s.history.get coin.height = some seedHdr) (hd : tx.powDifficulty = some d)
    (hv : env.powOk (env.hdrHash seedHdr) coinId d tx.hash = .invalid ∨
          env.powOk (env.hdrHash seedHdr) coinId d tx.hash = .panics) :
    ∀ sp, validateDoscmint env s rel tx ≠ .ok sp := by
  intro sp h
  obtain ⟨coinId', coin', seedHdr', _, d', t, _, hi', hc', _, hs', _, hd', _, hv', _⟩ := C18_sound env s rel tx sp h
  rw [hi] at hi'; injection hi' with hi'; subst hi'
  rw [hc] at hc'; injection hc' with hc'; subst hc'
  rw [hs] at hs'; injection hs' with hs'; subst hs'
  rw [hd] at hd'; injection hd' with hd'; subst hd'
  rcases hv with hv | hv <;> rw [hv] at hv' <;> cases t <;> simp at hv'

/-- … and the answer is exactly `InvalidMelPoW` once the checks before the proof check pass (the spent coin is
    known and not from the future, the seed header is recorded, difficulty and proof decode), whether the verifier
    says "invalid" or panics.  (A coin too young on mainnet gives the same answer, so no age hypothesis.) -/
theorem C18_bad_proof_rejected (env : Env) (s : State) (rel : Relevant) (tx : Tx) (coinId : CoinID)
    (coin : CoinDataHeight) (seedHdr : Header) (d : Nat)
    (hi : tx.inputs.head? = some coinId) (hc : rel.get coinId = some coin) (hle : coin.height ≤ s.height)
    (hs : s.history.get coin.height = some seedHdr) (hd : tx.powDifficulty = some d)
    (hparse : tx.powProofParses = true)
    (hv : env.powOk (env.hdrHash seedHdr) coinId d tx.hash = .invalid ∨
          env.powOk (env.hdrHash seedHdr) coinId d tx.hash = .panics) :
    validateDoscmint env s rel tx = .reject .invalidMelPoW := by
  rw [validateDoscmint_eq, doscPre_eq_of hi hc hle hs hd hparse]
  split
  · rfl
  · rcases hv with hv | hv <;> simp only [Outcome.bind, hv]

/-- the fix for F9: a DoscMint whose proof makes `melpow::Proof::verify` panic is rejected with
    `InvalidMelPoW` — not a crash, and certainly not accepted -/
theorem C18_panicking_proof_rejected (env : Env) (s : State) (rel : Relevant) (tx : Tx) (coinId : CoinID)
    (coin : CoinDataHeight) (seedHdr : Header) (d : Nat)
    (hi : tx.inputs.head? = some coinId) (hc : rel.get coinId = some coin) (hle : coin.height ≤ s.height)
    (hs : s.history.get coin.height = some seedHdr) (hd : tx.powDifficulty = some d)
    (hparse : tx.powProofParses = true)
    (hv : env.powOk (env.hdrHash seedHdr) coinId d tx.hash = .panics) :
    validateDoscmint env s rel tx = .reject .invalidMelPoW :=
  C18_bad_proof_rejected env s rel tx coinId coin seedHdr d hi hc hle hs hd hparse (Or.inr hv)

/-- … in particular it is not accepted, under the hypotheses of `C18_invalid_proof` alone -/
theorem C18_panicking_proof_not_accepted (env : Env) (s : State) (rel : Relevant) (tx : Tx) (coinId : CoinID)
    (coin : CoinDataHeight) (seedHdr : Header) (d : Nat) (hi : tx.inputs.head? = some coinId)
    (hc : rel.get coinId = some coin) (hs : s.history.get coin.height = some seedHdr)
    (hd : tx.powDifficulty = some d)
    (hv : env.powOk (env.hdrHash seedHdr) coinId d tx.hash = .panics) :
    ∀ sp, validateDoscmint env s rel tx ≠ .ok sp :=
  C18_invalid_proof env s rel tx coinId coin seedHdr d hi hc hs hd (Or.inr hv)

/-- … undecodable data -/
theorem C18_undecodable (env : Env) (s : State) (rel : Relevant) (tx : Tx) (h : tx.powDifficulty = none) :
    ∀ sp, validateDoscmint env s rel tx ≠ .ok sp := by
  intro sp h'
  obtain ⟨_, _, _, _, d', _, _, _, _, _, _, _, hd', _⟩ := C18_sound env s rel tx sp h'
  rw [h] at hd'; cases hd'

/-- … a coin younger than 100 blocks on mainnet -/
theorem C18_too_recent (env : Env) (s : State) (rel : Relevant) (tx : Tx) (coinId : CoinID) (coin : CoinDataHeight)
    (hi : tx.inputs.head? = some coinId) (hc : rel.get coinId = some coin) (hn : s.network = .mainnet)
    (hy : s.height - coin.height < 100) : ∀ sp, validateDoscmint env s rel tx ≠ .ok sp := by
  intro sp h
  obtain ⟨coinId', coin', _, _, _, _, _, hi', hc', _, _, _, _, _, _, hage, _⟩ := C18_sound env s rel tx sp h
  rw [hi] at hi'; injection hi' with hi'; subst hi'
  rw [hc] at hc'; injection hc' with hc'; subst hc'
  have := hage hn
  omega

/-- every ERG-minting transaction of an accepted batch went through that validation -/
theorem C18_batch_validates (env : Env) (s s' : State) (txs : List Tx) (fb : Header)
    (h : applyBatch env s txs fb = .ok s') (tx : Tx) (htx : tx ∈ txs) (hk : tx.kind = .doscMint) :
    ∃ rel sp, loadRelevantCoins s txs = .ok rel ∧ validateDoscmint env s rel tx = .ok sp ∧ sp ≤ s'.doscSpeed := by
  obtain ⟨rel, hrel, hf⟩ := applyBatch_speed h
  obtain ⟨sp, hv, hle⟩ := (spFold_spec hf).bound tx htx hk
  exact ⟨rel, sp, hrel, hv, hle⟩

/-- only ERG-mint (and faucet) transactions may create ERG: every other accepted transaction's ERG outputs are
    matched by ERG inputs -/
theorem C18_erg_balanced (kind : TxKind) (inCoins outCoins : AList Denom Nat) (hk : kind ≠ .doscMint) (hf : kind ≠ .faucet)
    (h : checkBalanced kind inCoins outCoins = .ok ()) (v : Nat) (hv : (.erg, v) ∈ outCoins) :
    inCoins.get .erg = some v := by
  unfold checkBalanced at h
  rw [if_neg hf] at h
  have := Outcome.forM'_ok_mem h hv
  simp only [hk] at this
  cases hg : inCoins.get Denom.erg with
  | none => rw [hg] at this; simp at this
  | some iv =>
    rw [hg] at this
    simp only at this
    by_cases hne : v ≠ iv
    · rw [if_pos hne] at this; cases this
    · simp at hne; rw [hne]

/-- the DOSC speed never decreases, and without ERG mints it does not change -/
theorem C18_speed_monotone (env : Env) (s s' : State) (txs : List Tx) (fb : Header)
    (h : applyBatch env s txs fb = .ok s') : s.doscSpeed ≤ s'.doscSpeed := by
  obtain ⟨rel, _, hf⟩ := applyBatch_speed h
  exact (spFold_spec hf).le

theorem C18_speed_unchanged (env : Env) (s s' : State) (txs : List Tx) (fb : Header)
    (h : applyBatch env s txs fb = .ok s') (hn : ∀ tx ∈ txs, tx.kind ≠ .doscMint) : s'.doscSpeed = s.doscSpeed := by
  obtain ⟨rel, _, hf⟩ := applyBatch_speed h
  exact (spFold_spec hf).noMint hn

/-- … it is the maximum of the previous value and the speeds demonstrated in the batch -/
theorem C18_speed_is_max (env : Env) (s s' : State) (txs : List Tx) (fb : Header)
    (h : applyBatch env s txs fb = .ok s') :
    s'.doscSpeed = s.doscSpeed ∨
    ∃ tx ∈ txs, tx.kind = .doscMint ∧ ∃ rel, loadRelevantCoins s txs = .ok rel ∧ validateDoscmint env s rel tx = .ok s'.doscSpeed := by
  obtain ⟨rel, hrel, hf⟩ := applyBatch_speed h
  rcases (spFold_spec hf).attained with h3 | ⟨tx, hm, hk, hv⟩
  · exact Or.inl h3
  · exact Or.inr ⟨tx, hm, hk, rel, hrel, hv⟩

end Mel

#print axioms Mel.C18_sound
#print axioms Mel.C18_invalid_proof
#print axioms Mel.C18_bad_proof_rejected
#print axioms Mel.C18_panicking_proof_rejected
#print axioms Mel.C18_panicking_proof_not_accepted
#print axioms Mel.C18_undecodable
#print axioms Mel.C18_too_recent
#print axioms Mel.C18_batch_validates
#print axioms Mel.C18_erg_balanced
#print axioms Mel.C18_speed_monotone
#print axioms Mel.C18_speed_unchanged
#print axioms Mel.C18_speed_is_max

/-
  C20 — the constants the property's statement (and the recorded deviations) fix, stated of the values regenerated
  from /repo's source (Generated/Tables.lean): TIP-906 activates at height 830000 on Mainnet and with all TIPs at
  height 500 on Testnet. The model is parametric in these constants: a changed constant breaks these theorems instead
  of being followed silently.
-/
import MelModel.Generated.Tables
namespace Mel
open Mel.Gen

theorem C20_pin_TIP_906_HEIGHT : TIP_906_HEIGHT = 830000 := rfl
theorem C20_pin_TESTNET_TIP_HEIGHT : TESTNET_TIP_HEIGHT = 500 := rfl

end Mel

#print axioms Mel.C20_pin_TIP_906_HEIGHT
#print axioms Mel.C20_pin_TESTNET_TIP_HEIGHT

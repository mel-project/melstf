/-
  C02, over histories — no double spend over the whole life of the chain: a coin that is absent at some point of a run
  after its creating transaction was applied (in particular: after it was spent) is absent at every later point, so no
  later batch that has it among its inputs is accepted.

  What can make a coin id `⟨h, i⟩` appear:
  * a batch containing a transaction with hash `h` (its outputs) — excluded by hash freshness (`t.hash ≠ h`, as in
    `ChainRunAvoiding h` of Props/C13Life.lean: collision-freeness of the transaction hash);
  * a (non-grandfathered) faucet transaction whose de-duplication marker id is `h` — domain separation of
    `faucet_dedup_pseudocoin` from transaction hashes;
  * sealing with a proposer action at a height whose reward id is `h` — domain separation of
    `CoinID::proposer_reward`;
  * settlement at sealing: it rewrites slot 0 of a pool request of the block — but only while the slot-0 coin is still
    there, so it never resurrects a spent coin — and it creates slot 1 of a liquidity withdrawal of the block (the
    second payout coin).  The latter is the one structural premise (`i = 1 → no withdrawal with hash h in the block
    being sealed`); it is needed (`C02_withdrawal_slot1_appears`) and it is vacuous once the block that contained the
    transaction with hash `h` has been sealed.
  The premises are bundled in `SpentRun` (in the style of `RunClearOf`, Props/C19Life.lean).
-/
import MelModel.Chain
import MelModel.Props.C02
import MelModel.Props.C13Life
import MelModel.Props.C05Hist
import MelModel.Lemmas.SpentL
import MelModel.Lemmas.FLifeL
namespace Mel
open Mel.Gen

/-- a run of the chain along which the coin id `⟨h, i⟩` cannot be created: no transaction applied on the way has hash
    `h` or (if it is a faucet transaction that writes a marker) marker id `h`, no sealed height has reward id `h`, and —
    for slot 1 only — no block is sealed while it contains a liquidity withdrawal with hash `h` -/
inductive SpentRun (env : Env) (h : Hash) (i : Nat) : State → State → Prop
  | refl (s : State) : SpentRun env h i s s
  | batch {s x s' : State} {txs : List Tx} {fb : Header} : SpentRun env h i s x →
      (∀ t ∈ txs, t.hash ≠ h) →
      (∀ t ∈ txs, t.kind = .faucet → env.isGrandfathered t.hash = false → env.fdp t.hash ≠ h) →
      applyBatch env x txs fb = .ok s' → SpentRun env h i s s'
  | block {s x s' : State} {ss : Sealed} {a : Option ProposerAction} : SpentRun env h i s x →
      env.rewardId x.height ≠ h →
      (i = 1 → ∀ t ∈ x.txs, t.hash = h → t.kind ≠ .liqWithdraw) →
      sealState env x a = .ok ss → nextUnsealed env ss = .ok s' → SpentRun env h i s s'

theorem SpentRun.toRun {env : Env} {h : Hash} {i : Nat} {s s' : State} (hrun : SpentRun env h i s s') :
    ChainRun env s s' := by
  induction hrun with
  | refl => exact .refl _
  | batch _ _ _ hb ih => exact .step ih (.batch hb)
  | block _ _ _ h1 h2 ih => exact .step ih (.block h1 h2)

/-- domain separation of a hash `h` from the two keyed-hash families of pseudo-coin ids, stated globally -/
def HashApart (env : Env) (h : Hash) : Prop := (∀ x, env.fdp x ≠ h) ∧ (∀ n, env.rewardId n ≠ h)

/-- an accepted batch without a transaction of hash `h` (or marker id `h`) keeps `⟨h, i⟩` absent -/
theorem C02_batch_keeps_absent (env : Env) (s s' : State) (txs : List Tx) (fb : Header) (h : Hash) (i : Nat)
    (hb : applyBatch env s txs fb = .ok s') (hfresh : ∀ t ∈ txs, t.hash ≠ h)
    (hmk : ∀ t ∈ txs, t.kind = .faucet → env.isGrandfathered t.hash = false → env.fdp t.hash ≠ h)
    (hn : s.coins.getCoin ⟨h, i⟩ = none) : s'.coins.getCoin ⟨h, i⟩ = none :=
  SpentL.applyBatch_absent hb hmk (.inr ⟨hn, hfresh⟩)

/-- A spent coin is gone: after an accepted batch every input is absent (no marker of the batch landing on it) -/
theorem C02_spent_after_batch (env : Env) (s s' : State) (txs : List Tx) (fb : Header) (id : CoinID)
    (hb : applyBatch env s txs fb = .ok s') (hin : id ∈ batchInputs txs)
    (hmk : ∀ t ∈ txs, t.kind = .faucet → env.isGrandfathered t.hash = false → env.fdp t.hash ≠ id.txhash) :
    s'.coins.getCoin id = none :=
  SpentL.applyBatch_absent hb hmk (.inl hin)

/-- sealing keeps `⟨h, i⟩` absent: settlement rewrites slot 0 of a pool request only while that coin is there, and
    creates only slot 1 of a liquidity withdrawal; the proposer action writes only the reward coin -/
theorem C02_seal_keeps_absent (env : Env) (s : State) (a : Option ProposerAction) (ss : Sealed) (h : Hash) (i : Nat)
    (hs : sealState env s a = .ok ss) (hrew : env.rewardId s.height ≠ h)
    (hw : i = 1 → ∀ t ∈ s.txs, t.hash = h → t.kind ≠ .liqWithdraw)
    (hn : s.coins.getCoin ⟨h, i⟩ = none) : ss.st.coins.getCoin ⟨h, i⟩ = none :=
  SpentL.sealState_absent hs hn hrew hw

theorem C02_next_keeps_coins (env : Env) (ss : Sealed) (s' : State) (hn : nextUnsealed env ss = .ok s')
    (id : CoinID) : s'.coins.getCoin id = ss.st.coins.getCoin id :=
  nextUnsealed_getCoin hn id

/-- Spent stays spent: a coin `⟨h, i⟩` that is absent at some point of a run is absent at every later point, as
    long as no later batch contains a transaction with hash `h` and the domain-separation premises of `SpentRun`
    hold -/
theorem C02_spent_stays_spent (env : Env) (h : Hash) (i : Nat) (s s' : State) (hrun : SpentRun env h i s s')
    (hn : s.coins.getCoin ⟨h, i⟩ = none) : s'.coins.getCoin ⟨h, i⟩ = none := by
  induction hrun with
  | refl => exact hn
  | batch _ hfresh hmk hb ih => exact C02_batch_keeps_absent env _ _ _ _ h i hb hfresh hmk ih
  | block _ hrew hw hs hnx ih =>
    rw [C02_next_keeps_coins env _ _ hnx]
    exact C02_seal_keeps_absent env _ _ _ h i hs hrew hw ih

/-- a run avoiding `h`, from a state whose block holds no transaction with hash `h` (e.g. any state after the block of
    the creating transaction was sealed), with `h` apart from the pseudo-coin ids, is a `SpentRun` for every slot -/
theorem SpentRun.of_avoiding {env : Env} {h : Hash} {s s' : State} (i : Nat) (hrun : ChainRunAvoiding env h s s')
    (hap : HashApart env h) (hstart : ∀ t ∈ s.txs, t.hash ≠ h) :
    SpentRun env h i s s' ∧ ∀ t ∈ s'.txs, t.hash ≠ h := by
  induction hrun with
  | refl => exact ⟨.refl _, hstart⟩
  | batch _ hne hb ih =>
    refine ⟨.batch ih.1 hne (fun t _ _ _ => hap.1 _) hb, fun t ht => ?_⟩
    rcases SpentL.applyBatch_mem_txs hb ht with ht | ht
    · exact hne t ht
    · exact ih.2 t ht
  | block _ hs hn ih =>
    refine ⟨.block ih.1 (hap.2 _) (fun _ t ht e => absurd e (ih.2 t ht)) hs hn, fun t ht => ?_⟩
    rw [nextUnsealed_txs hn] at ht
    cases ht

/-- … and for every slot other than 1 no condition on the starting block is needed -/
theorem SpentRun.of_avoiding_slot {env : Env} {h : Hash} {s s' : State} {i : Nat} (hrun : ChainRunAvoiding env h s s')
    (hap : HashApart env h) (hi : i ≠ 1) : SpentRun env h i s s' := by
  induction hrun with
  | refl => exact .refl _
  | batch _ hne hb ih => exact .batch ih hne (fun t _ _ _ => hap.1 _) hb
  | block _ hs hn ih => exact .block ih (hap.2 _) (fun e => absurd e hi) hs hn

/-- Spent stays spent, along `ChainRunAvoiding` (the form over the runs of Props/C13Life.lean): `h` apart from the
    marker and reward ids, and the starting block without a transaction of hash `h` -/
theorem C02_spent_stays_spent_avoiding (env : Env) (h : Hash) (i : Nat) (s s' : State)
    (hrun : ChainRunAvoiding env h s s') (hn : s.coins.getCoin ⟨h, i⟩ = none)
    (hap : HashApart env h) (hstart : ∀ t ∈ s.txs, t.hash ≠ h) : s'.coins.getCoin ⟨h, i⟩ = none :=
  C02_spent_stays_spent env h i s s' (SpentRun.of_avoiding i hrun hap hstart).1 hn

/-- … for a slot other than 1 from any state, e.g. one in the very block of the creating transaction (a coin created
    and spent in the same block) -/
theorem C02_spent_stays_spent_avoiding_slot (env : Env) (h : Hash) (i : Nat) (s s' : State)
    (hrun : ChainRunAvoiding env h s s') (hn : s.coins.getCoin ⟨h, i⟩ = none)
    (hap : HashApart env h) (hi : i ≠ 1) : s'.coins.getCoin ⟨h, i⟩ = none :=
  C02_spent_stays_spent env h i s s' (SpentRun.of_avoiding_slot hrun hap hi) hn

theorem batchCreated_get_none {txs : List Tx} {id : CoinID} (height : Nat) (hfresh : ∀ t ∈ txs, t.hash ≠ id.txhash) :
    (batchCreated height txs).get id = none := by
  cases hc : (batchCreated height txs).get id with
  | none => rfl
  | some c =>
    obtain ⟨tx, htx, hm⟩ := createdOf_get_some (height := height) (txs := txs) hc
    obtain ⟨j, o, -, hk, -⟩ := mem_outputCoinsFromTx hm
    exact absurd (congrArg CoinID.txhash hk).symm (hfresh tx htx)

/-- an input of an accepted batch none of whose transactions has the input's hash existed before the batch -/
theorem C02_input_existed (env : Env) (s s' : State) (txs : List Tx) (fb : Header) (id : CoinID)
    (hb : applyBatch env s txs fb = .ok s') (hin : id ∈ batchInputs txs) (hfresh : ∀ t ∈ txs, t.hash ≠ id.txhash) :
    (s.coins.getCoin id).isSome = true := by
  rcases C02_inputs_exist env s s' txs fb hb id hin with h | h
  · exact h
  · rw [batchCreated_get_none _ hfresh] at h
    cases h

/-- No double spend, ever: once an accepted batch of the run has `⟨h, i⟩` among its inputs, a later batch of the
    run that has it among its inputs (such a batch cannot create the coin itself: hash freshness) is rejected:
    `MalformedTx` (if some transaction of the batch is malformed) or `NonexistentCoin` -/
theorem C02_second_spend_rejected (env : Env) (h : Hash) (i : Nat) (m s s' : State) (txs₀ : List Tx) (fb₀ : Header)
    (h₀ : applyBatch env m txs₀ fb₀ = .ok s) (hin₀ : (⟨h, i⟩ : CoinID) ∈ batchInputs txs₀)
    (hmk₀ : ∀ t ∈ txs₀, t.kind = .faucet → env.isGrandfathered t.hash = false → env.fdp t.hash ≠ h)
    (hrun : SpentRun env h i s s')
    (txs : List Tx) (fb : Header) (hfresh : ∀ t ∈ txs, t.hash ≠ h) (hin : (⟨h, i⟩ : CoinID) ∈ batchInputs txs) :
    applyBatch env s' txs fb = .reject .malformedTx ∨ applyBatch env s' txs fb = .reject .nonexistentCoin :=
  C02_missing_rejected env s' txs fb ⟨h, i⟩ hin
    (C02_spent_stays_spent env h i s s' hrun (C02_spent_after_batch env m s txs₀ fb₀ ⟨h, i⟩ h₀ hin₀ hmk₀))
    (batchCreated_get_none _ hfresh)

/-- … in particular it is not accepted -/
theorem C02_no_double_spend_ever (env : Env) (h : Hash) (i : Nat) (m s s' : State) (txs₀ : List Tx) (fb₀ : Header)
    (h₀ : applyBatch env m txs₀ fb₀ = .ok s) (hin₀ : (⟨h, i⟩ : CoinID) ∈ batchInputs txs₀)
    (hmk₀ : ∀ t ∈ txs₀, t.kind = .faucet → env.isGrandfathered t.hash = false → env.fdp t.hash ≠ h)
    (hrun : SpentRun env h i s s')
    (txs : List Tx) (fb : Header) (hfresh : ∀ t ∈ txs, t.hash ≠ h) (hin : (⟨h, i⟩ : CoinID) ∈ batchInputs txs) :
    ∀ s'', applyBatch env s' txs fb ≠ .ok s'' := by
  intro s'' hb
  rcases C02_second_spend_rejected env h i m s s' txs₀ fb₀ h₀ hin₀ hmk₀ hrun txs fb hfresh hin with e | e
  · cases hb.symm.trans e
  · cases hb.symm.trans e

/-- the same along `ChainRunAvoiding`, for a coin in slot 0 (or any slot but 1) -/
theorem C02_no_double_spend_ever_avoiding (env : Env) (h : Hash) (i : Nat) (m s s' : State) (txs₀ : List Tx)
    (fb₀ : Header) (h₀ : applyBatch env m txs₀ fb₀ = .ok s) (hin₀ : (⟨h, i⟩ : CoinID) ∈ batchInputs txs₀)
    (hap : HashApart env h) (hi : i ≠ 1) (hrun : ChainRunAvoiding env h s s')
    (txs : List Tx) (fb : Header) (hfresh : ∀ t ∈ txs, t.hash ≠ h) (hin : (⟨h, i⟩ : CoinID) ∈ batchInputs txs) :
    ∀ s'', applyBatch env s' txs fb ≠ .ok s'' :=
  C02_no_double_spend_ever env h i m s s' txs₀ fb₀ h₀ hin₀ (fun _ _ _ _ => hap.1 _)
    (SpentRun.of_avoiding_slot hrun hap hi) txs fb hfresh hin

namespace C02HistWitness
open ReachWitness (env cfg getOk eq_getOk)
open C05HistWitness (pz q1 ns n2 pz2 u1 batch_ok sealNone_ok nextNone_ok u1_ok)

/-- a liquidity withdrawal with one output (10 liquidity tokens of the MEL/SYM pool), hash `[4]` -/
def wd : Tx := {
  kind := .liqWithdraw, inputs := [], outputs := [(⟨[8], 10, .custom [115], []⟩ : CoinData)], fee := 0,
  covenants := [], data := [115], sigs := [], hash := [4], rawLen := 0, covHashes := [] }
/-- a state whose block holds `wd`, whose slot-0 coin is there; the coin `([4], 1)` does not exist -/
def xw : State := {
  network := .custom02, height := 0, history := [],
  coins := { coins := [(⟨[4], 0⟩, ⟨⟨[8], 10, .custom [115], []⟩, 0⟩)], counts := [([8], 1)] },
  txs := [wd], feePool := 0, feeMultiplier := 0, tips := 0, doscSpeed := 1000000,
  pools := [(poolMelSym, { lefts := 1000000, rights := 1000000, priceAccum := 0, liqs := 1000000 })], stakes := [] }
def xws : Sealed := getOk (sealState env xw none)
theorem xw_facts : (sealState env xw none).isOk = true ∧ xw.coins.getCoin ⟨[4], 1⟩ = none ∧
    (xws.st.coins.getCoin ⟨[4], 1⟩).isSome = true := by decide +kernel
theorem xw_seal : sealState env xw none = .ok xws := eq_getOk xw_facts.1

/-- (block 2) tries to spend `([4], 0)` again -/
def sp2 : Tx := {
  kind := .normal, inputs := [⟨[4], 0⟩], outputs := [(⟨[8], 2, .mel, []⟩ : CoinData)], fee := 1,
  covenants := [C03Witness.cov], data := [], sigs := [], hash := [6], rawLen := 0, covHashes := [[8]] }

def us1 : Sealed := getOk (sealState env u1 none)
def v1 : State := getOk (nextUnsealed env us1)

/-- what is evaluated about this history, in one run of the kernel: the three steps succeed; the coin is there
    before the spend; the block raises the height; the second spend is rejected before and after the block -/
theorem facts :
    ((sealState env u1 none).isOk = true ∧ (nextUnsealed env us1).isOk = true) ∧
    (n2.coins.getCoin ⟨[4], 0⟩).isSome = true ∧ u1.height < v1.height ∧
    (applyBatch env u1 [sp2] default).rejectedWith .nonexistentCoin = true ∧
    (applyBatch env v1 [sp2] default).rejectedWith .nonexistentCoin = true := by
  decide +kernel

theorem us1_ok : sealState env u1 none = .ok us1 := eq_getOk facts.1.1
theorem v1_ok : nextUnsealed env us1 = .ok v1 := eq_getOk facts.1.2

theorem spentRun : SpentRun env [4] 0 u1 v1 :=
  .block (.refl _) (by decide) (fun e => absurd e (by decide)) us1_ok v1_ok

theorem pz2_noMarker : ∀ t ∈ [pz2], t.kind = .faucet → env.isGrandfathered t.hash = false → env.fdp t.hash ≠ [4] := by
  intro t ht hk
  cases List.mem_singleton.1 ht
  cases hk

theorem sp2_fresh : ∀ t ∈ [sp2], t.hash ≠ [4] := by
  intro t ht
  cases List.mem_singleton.1 ht
  decide

end C02HistWitness

/-- The slot-1 premise of `SpentRun` is needed: the literal state `xw` (its block holds the one-output liquidity
    withdrawal `wd` with hash `[4]`, whose slot-0 coin is there) has no coin `([4], 1)`; sealing it succeeds and creates
    `([4], 1)` — the second payout coin of the withdrawal — although no batch ran and the reward id is not `[4]` -/
theorem C02_withdrawal_slot1_appears :
    ∃ (env : Env) (x : State) (ss : Sealed) (h : Hash), sealState env x none = .ok ss ∧
      env.rewardId x.height ≠ h ∧ x.coins.getCoin ⟨h, 1⟩ = none ∧ (ss.st.coins.getCoin ⟨h, 1⟩).isSome = true ∧
      ∃ t ∈ x.txs, t.hash = h ∧ t.kind = .liqWithdraw := by
  open C02HistWitness in
  obtain ⟨-, hnone, hsome⟩ := xw_facts
  exact ⟨ReachWitness.env, xw, xws, [4], xw_seal, by decide, hnone, hsome, wd, List.mem_cons_self, rfl, rfl⟩

/-- non-vacuity — a literal run of three blocks: block 0 creates the coin `([4], 0)` (transaction `pz`), block 1
    spends it (transaction `pz2`, the batch is accepted), block 1 is sealed and block 2 opened — a `SpentRun` for
    `([4], 0)`; the coin existed before the spend, is absent after it and after the block, and in block 2 (as in
    block 1) the batch `[sp2]` that spends it again is rejected with `NonexistentCoin` -/
theorem C02_no_double_spend_ever_nonvacuous :
    ∃ (env : Env) (cfg : GenesisConfig) (m s s' : State) (h : Hash) (txs₀ txs : List Tx) (fb : Header),
      ChainRun env (genesisState cfg) m ∧ (m.coins.getCoin ⟨h, 0⟩).isSome = true ∧
      applyBatch env m txs₀ fb = .ok s ∧ (⟨h, 0⟩ : CoinID) ∈ batchInputs txs₀ ∧
      SpentRun env h 0 s s' ∧ s.height < s'.height ∧
      s.coins.getCoin ⟨h, 0⟩ = none ∧ s'.coins.getCoin ⟨h, 0⟩ = none ∧
      (∀ t ∈ txs, t.hash ≠ h) ∧ (⟨h, 0⟩ : CoinID) ∈ batchInputs txs ∧
      applyBatch env s txs fb = .reject .nonexistentCoin ∧ applyBatch env s' txs fb = .reject .nonexistentCoin := by
  open C02HistWitness C05HistWitness in
  obtain ⟨-, hsome, hlt, hrej₁, hrej₂⟩ := C02HistWitness.facts
  have hin₀ : (⟨[4], 0⟩ : CoinID) ∈ batchInputs [pz2] := by decide
  have hn₁ := C02_spent_after_batch ReachWitness.env n2 u1 [pz2] default ⟨[4], 0⟩ u1_ok hin₀ pz2_noMarker
  exact ⟨ReachWitness.env, ReachWitness.cfg, n2, u1, v1, [4], [pz2], [sp2], default,
    .step (.step (.refl _) (.batch batch_ok)) (.block sealNone_ok nextNone_ok), hsome, u1_ok, hin₀, spentRun, hlt,
    hn₁, C02_spent_stays_spent ReachWitness.env [4] 0 u1 v1 spentRun hn₁, sp2_fresh, by decide,
    Outcome.eq_reject hrej₁, Outcome.eq_reject hrej₂⟩

/-- … and the hypotheses of `C02_no_double_spend_ever` / `C02_second_spend_rejected` are met by that run -/
example : ∀ s'', applyBatch ReachWitness.env C02HistWitness.v1 [C02HistWitness.sp2] default ≠ .ok s'' := by
  open C02HistWitness C05HistWitness in
  exact C02_no_double_spend_ever ReachWitness.env [4] 0 n2 u1 v1 [pz2] default u1_ok (by decide)
    pz2_noMarker spentRun [sp2] default sp2_fresh (by decide)

end Mel

#print axioms Mel.SpentRun.toRun
#print axioms Mel.C02_batch_keeps_absent
#print axioms Mel.C02_spent_after_batch
#print axioms Mel.C02_seal_keeps_absent
#print axioms Mel.C02_next_keeps_coins
#print axioms Mel.C02_spent_stays_spent
#print axioms Mel.SpentRun.of_avoiding
#print axioms Mel.SpentRun.of_avoiding_slot
#print axioms Mel.C02_spent_stays_spent_avoiding
#print axioms Mel.C02_spent_stays_spent_avoiding_slot
#print axioms Mel.C02_input_existed
#print axioms Mel.C02_no_double_spend_ever
#print axioms Mel.C02_second_spend_rejected
#print axioms Mel.C02_no_double_spend_ever_avoiding
#print axioms Mel.C02_withdrawal_slot1_appears
#print axioms Mel.C02_no_double_spend_ever_nonvacuous

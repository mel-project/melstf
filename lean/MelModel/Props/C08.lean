/-
  C08 — Restart equivalence: a state rebuilt from its block behaves identically.
-/
import MelModel.Chain
import MelModel.Lemmas.Restart
namespace Mel
open Mel.Gen

/-- the transaction list of a state is kept sorted by hash with distinct hashes -/
def TxsSorted : List Tx → Prop
  | [] => True
  | [_] => True
  | a :: b :: rest => bytesLt a.hash b.hash = true ∧ TxsSorted (b :: rest)

/-- the two sorted-ness predicates (`SortedTxs` of Props/C03.lean) are the same text -/
theorem txsSorted_iff_sortedTxs : ∀ (l : List Tx), TxsSorted l ↔ SortedTxs l
  | [] => Iff.rfl
  | [_] => Iff.rfl
  | a :: b :: rest => by
    unfold TxsSorted SortedTxs
    rw [txsSorted_iff_sortedTxs (b :: rest)]

theorem txsSorted_iff_pairwise {l : List Tx} : TxsSorted l ↔ l.Pairwise C3.TxLt :=
  (txsSorted_iff_sortedTxs l).trans sortedTxs_iff_pairwise

theorem C08_insert_sorted (txs : List Tx) (tx : Tx) (h : TxsSorted txs) : TxsSorted (State.insertTx txs tx) :=
  txsSorted_iff_pairwise.mpr (C3.insertTx_sorted tx (txsSorted_iff_pairwise.mp h))

theorem C08_rebuild_sorted (txs : List Tx) (h : TxsSorted txs) : txs.foldl State.insertTx [] = txs :=
  foldl_insertTx_pairwise (txsSorted_iff_pairwise.mp h)

/-- restoring from the block (with the stake set and the trees the header's roots denote) gives back every
    field of the state except the pending tips, which the block does not carry -/
theorem C08_roundtrip (env : Env) (ss : Sealed) (blk : Block) (h : toBlock env ss = .ok blk) (hs : TxsSorted ss.st.txs) :
    fromBlock blk ss.st.stakes ss.st.coins ss.st.history ss.st.pools =
      { st := { ss.st with tips := 0 }, action := ss.action } := by
  unfold toBlock at h
  obtain ⟨hd, hhd, h⟩ := Outcome.bind_eq_ok.mp h
  cases h
  unfold headerOf at hhd
  obtain ⟨p, _, hhd⟩ := Outcome.bind_eq_ok.mp hhd
  cases hhd
  simp only [fromBlock, C08_rebuild_sorted _ hs]

/-- Restart equivalence at restart points without pending tips: the rebuilt state *is* the original, so every
    continuation — batches, blocks, proposer actions — gives the same headers and the same verdicts -/
theorem C08_restart_partial (env : Env) (ss : Sealed) (blk : Block) (h : toBlock env ss = .ok blk)
    (hs : TxsSorted ss.st.txs) (ht : ss.st.tips = 0) :
    fromBlock blk ss.st.stakes ss.st.coins ss.st.history ss.st.pools = ss := by
  rw [C08_roundtrip env ss blk h hs, ← ht]

/-- tips are zero after sealing with a proposer action (so those are always faithful restart points) -/
theorem C08_tips_zero_after_action (env : Env) (s : State) (a : ProposerAction) (ss : Sealed)
    (h : sealState env s (some a) = .ok ss) : ss.st.tips = 0 := by
  obtain ⟨p, -, -, hp⟩ := sealState_eq_ok_iff.mp h
  rw [(applyProposerAction_eq_ok_iff.mp hp).2]

/-- known finding (F6): sealing without an action keeps the pending tips, `next_unsealed` carries them, but the
    rebuilt state has none — so with pending tips the next proposer reward differs after a restart -/
theorem C08_tips_kept_without_action (env : Env) (s : State) (ss : Sealed) (h : sealState env s none = .ok ss) :
    ss.st.tips = s.tips := by
  obtain ⟨p, hp, -, e⟩ := sealState_eq_ok_iff.mp h
  rw [e]
  exact (sealPre_frame hp).tips

theorem C08_tips_lost_on_restore (blk : Block) (stakes : StakeSet) (coins : CoinMap) (hist : AList Nat Header)
    (pools : AList PoolKey PoolState) : (fromBlock blk stakes coins hist pools).st.tips = 0 := by
  rfl

/-- the reward a proposer collects depends on the pending tips: different tips, different reward coin -/
theorem C08_reward_depends_on_tips (env : Env) (s₁ s₂ s₁' s₂' : State) (a : ProposerAction)
    (hf : s₁.feePool = s₂.feePool) (_hh : s₁.height = s₂.height) (ht : s₁.tips ≠ s₂.tips)
    (h₁ : collectProposerFee env s₁ a = .ok s₁') (h₂ : collectProposerFee env s₂ a = .ok s₂') :
    s₁'.coins.getCoin { txhash := env.rewardId s₁.height, index := 0 } ≠
    s₂'.coins.getCoin { txhash := env.rewardId s₂.height, index := 0 } := by
  unfold collectProposerFee at h₁ h₂
  simp only at h₁ h₂
  split at h₁
  · cases h₁
  split at h₂
  · cases h₂
  cases h₁; cases h₂
  simp only [CoinMap.getCoin_insertCoin_self]
  intro heq
  have hv := congrArg (fun o : Option CoinDataHeight => o.map (·.coinData.value)) heq
  simp only [Option.map_some, Option.some.injEq, hf] at hv
  exact ht (Nat.add_left_cancel hv)

end Mel

#print axioms Mel.C08_insert_sorted
#print axioms Mel.C08_rebuild_sorted
#print axioms Mel.C08_roundtrip
#print axioms Mel.C08_restart_partial
#print axioms Mel.C08_tips_zero_after_action
#print axioms Mel.C08_tips_kept_without_action
#print axioms Mel.C08_tips_lost_on_restore
#print axioms Mel.C08_reward_depends_on_tips

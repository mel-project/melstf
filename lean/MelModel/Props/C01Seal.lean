/-
  C01 — conservation of every denomination: the sealing part (Melmint settlement, pegging, TIP-909 subsidy,
  proposer reward).
-/
import MelModel.Seal
import MelModel.SupplyDefs
import MelModel.Lemmas.BackL
namespace Mel
open Mel.Gen

/-- the settlement phases of `preseal_melmint` (everything but the builtin-pool creation and the pegging) -/
def settle (env : Env) (s : State) : Outcome State :=
  (processSwaps s).bind fun s1 => (processDeposits env s1).bind fun s2 => processWithdrawals env s2

/-- the coins of the block's own transactions are exactly what the transactions declared (this is what
    `C02_exact` establishes for the transactions applied in this block) -/
def Faithful (s : State) : Prop :=
  ∀ tx ∈ s.txs, ∀ i o c, tx.outputs[i]? = some o → s.coins.getCoin ⟨tx.hash, i⟩ = some c →
    c.coinData.value = o.value ∧ c.coinData.denom = createdDenom tx o

/-- standing assumptions about the state being sealed: unique keys, distinct transaction hashes, the block's
    coins as declared, and no denomination's coin total beyond a u128 (C09's supply precondition) -/
structure SealPre (s : State) : Prop where
  coinKeys : (s.coins.coins.map (·.1)).Nodup
  poolKeys : (s.pools.map (·.1)).Nodup
  txHashes : (s.txs.map (·.hash)).Nodup
  faithful : Faithful s
  bounded : ∀ d, coinsTotal s.coins d ≤ U128_MAX

/-- `presealMelmint`, taken apart: the builtin pools, the settlement, the builtin pools again (F24), the
    peg adjustment -/
theorem presealMelmint_settle {env : Env} {s s' : State} (h : presealMelmint env s = .ok s') :
    ∃ s3, settle env (createBuiltins s) = .ok s3 ∧ processPegging (createBuiltins s3) = .ok s' := by
  obtain ⟨_, s1, s2, s3, h1, h2, h3, h4⟩ := presealMelmint_eq_ok_iff.mp h
  exact ⟨s3, Outcome.bind_eq_ok.mpr ⟨s1, h1, Outcome.bind_eq_ok.mpr ⟨s2, h2, h3⟩⟩, h4⟩

/-- settlement, phase after phase, for a denomination `d` that is no canonical pool's token or the token of
    `k` only: the state stays well-keyed, and what exists of `d` beyond the liquidity `k` records does not grow -/
theorem settle_chain {env : Env} {s s' : State} (h : settle env s = .ok s') (hp : SealPre s)
    (hl : legacyDeposit s = false) (d : Denom) (k : PoolKey)
    (hdk : ∀ k', canonicalPoolKey k'.toBytes = some k' → liqTokenDenom env k' = d → k' = k) :
    Good s s' ∧ BackL.Step env d k s s' := by
  unfold settle at h
  obtain ⟨s1, h1, h⟩ := Outcome.bind_eq_ok.mp h
  obtain ⟨s2, h2, h3⟩ := Outcome.bind_eq_ok.mp h
  have hfaith : ∀ tx ∈ s.txs, FaithfulTx s.coins tx := hp.faithful
  obtain ⟨g1, l1⟩ := BackL.swaps_phase env d k h1 hp.coinKeys hp.poolKeys hp.txHashes hp.coinKeys
    hp.bounded (fun _ _ _ _ => rfl) (fun tx htx _ => hfaith tx htx)
  have same1 := processSwaps_keeps_others h1 hp.txHashes
  obtain ⟨g2, l2⟩ := BackL.deposits_phase env d k h2
    ((legacyDeposit_congr g1.height g1.network).trans hl) hdk g1.coinKeys g1.poolKeys
    (g1.txs ▸ hp.txHashes) hp.coinKeys hp.bounded
    (fun tx htx hk => same1 tx (g1.txs ▸ htx) (by rw [hk]; decide))
    (fun tx htx _ => hfaith tx (g1.txs ▸ htx))
  have g12 := g1.trans g2
  have same2 := processDeposits_keeps_others h2 (g1.txs ▸ hp.txHashes)
  obtain ⟨g3, l3⟩ := BackL.withdrawals_phase env d k h3 g2.coinKeys g2.poolKeys (g12.txs ▸ hp.txHashes)
    hp.coinKeys hp.bounded
    (fun tx htx hk i => (same2 tx (g2.txs ▸ htx) (by rw [hk]; decide) i).trans
      (same1 tx (g12.txs ▸ htx) (by rw [hk]; decide) i))
    (fun tx htx _ => hfaith tx (g12.txs ▸ htx))
  exact ⟨g12.trans g3, (l1.trans l2).trans l3⟩

/-- Settlement conserves: outside the legacy deposit window, swaps, deposits and withdrawals — any number,
    against any pools, in one block — leave no more of any denomination in existence than before (liquidity
    tokens themselves are the subject of C16) -/
theorem C01_settlement (env : Env) (s s' : State) (h : settle env s = .ok s') (hp : SealPre s)
    (hl : legacyDeposit s = false) (d : Denom) (hd : ∀ k : PoolKey, d ≠ liqTokenDenom env k) :
    supply s' d ≤ supply s d := by
  obtain ⟨g, l⟩ := settle_chain h hp hl d poolMelSym (fun k' _ e => absurd e.symm (hd k'))
  unfold BackL.Step at l
  rw [if_neg (fun e => hd _ e.symm), if_neg (fun e => hd _ e.symm)] at l
  unfold supply
  rw [g.feePool, g.tips]
  exact Nat.add_le_add_right l _

/-- what `create_builtins` creates of denomination `d` in state `s`: the default reserves (10^9 on each side) of each
    builtin pool it makes — MEL/SYM, MEL/ERG and, once TIP-902 is active, ERG/SYM, whenever that pool is absent or
    records no liquidity (the keys are distinct, so "missing" can be read off `s.pools` for all three) -/
def builtinsCreated (s : State) (d : Denom) : Nat :=
  (if builtinMissing s.pools poolMelSym then pc d (poolMelSym, builtinDefault) else 0) +
  (if builtinMissing s.pools poolMelErg then pc d (poolMelErg, builtinDefault) else 0) +
  (if s.tip902 && builtinMissing s.pools poolErgSym then pc d (poolErgSym, builtinDefault) else 0)

/-- the state `preseal_melmint` hands to its second `create_builtins` (F24): `s` with the
    builtin pools created and the block's swaps, deposits and withdrawals settled. (When the settlement does not
    succeed there is no such state and sealing fails; the value is then immaterial.) -/
def settled (env : Env) (s : State) : State :=
  match settle env (createBuiltins s) with
  | .ok s3 => s3
  | _ => createBuiltins s

theorem settled_eq {env : Env} {s s3 : State} (h : settle env (createBuiltins s) = .ok s3) : settled env s = s3 := by
  unfold settled; rw [h]

theorem builtinMissing_fixBuiltin_ne (m : AList PoolKey PoolState) {k k' : PoolKey} (hne : k' ≠ k) :
    builtinMissing (fixBuiltin m k) k' = builtinMissing m k' := by
  unfold builtinMissing
  rw [get_fixBuiltin_ne m hne]

theorem poolsTotal_fixBuiltin (pools : AList PoolKey PoolState) (k : PoolKey) (d : Denom)
    (hn : (pools.map (·.1)).Nodup) :
    ((fixBuiltin pools k).map (·.1)).Nodup ∧
    poolsTotal (fixBuiltin pools k) d ≤
      poolsTotal pools d + (if builtinMissing pools k then pc d (k, builtinDefault) else 0) := by
  unfold fixBuiltin
  cases builtinMissing pools k with
  | false => exact ⟨hn, by simp⟩
  | true =>
    simp only [if_true]
    refine ⟨pools_nodup_set hn k _, ?_⟩
    have h1 := poolsTotal_set hn d k builtinDefault
    omega

/-- The builtin pools, sharp: `create_builtins` adds to the supply of `d` at most `builtinsCreated s d` — the
    default reserves of exactly the pools it makes — and nothing else (what a replaced pool held disappears) -/
theorem C01_builtins_sharp (s : State) (d : Denom) (hk : (s.pools.map (·.1)).Nodup) :
    supply (createBuiltins s) d ≤ supply s d + builtinsCreated s d := by
  have h1 := poolsTotal_fixBuiltin s.pools poolMelSym d hk
  have h2 := poolsTotal_fixBuiltin (fixBuiltin s.pools poolMelSym) poolMelErg d h1.1
  have h3 := poolsTotal_fixBuiltin (fixBuiltin (fixBuiltin s.pools poolMelSym) poolMelErg) poolErgSym d h2.1
  rw [builtinMissing_fixBuiltin_ne _ poolMelSym_ne_poolMelErg.symm] at h2
  rw [builtinMissing_fixBuiltin_ne _ poolMelErg_ne_poolErgSym.symm,
    builtinMissing_fixBuiltin_ne _ poolMelSym_ne_poolErgSym.symm] at h3
  have a1 := h1.2
  have a2 := h2.2
  have a3 := h3.2
  unfold supply builtinsCreated
  show coinsTotal s.coins d + poolsTotal (createBuiltins s).pools d +
    (if d = .mel then s.feePool + s.tips else 0) ≤ _
  rw [createBuiltins_pools]
  cases s.tip902 with
  | true => simp only [if_true, Bool.true_and]; omega
  | false => simp only [Bool.false_eq_true, if_false, Bool.false_and]; omega

/-- each denomination sits on one side of at most two builtin pools: one `create_builtins` creates at most
    `2 · 10^9` of it -/
theorem builtinsCreated_le (s : State) (d : Denom) :
    builtinsCreated s d ≤ 2 * (MICRO_CONVERTER * BUILTIN_LIQ_MULT) := by
  have hl : builtinDefault.lefts = MICRO_CONVERTER * BUILTIN_LIQ_MULT := rfl
  have hr : builtinDefault.rights = MICRO_CONVERTER * BUILTIN_LIQ_MULT := rfl
  have drop (c : Prop) [Decidable c] (a : Nat) : (if c then a else 0) ≤ a := by
    split
    · exact Nat.le_refl a
    · exact Nat.zero_le a
  unfold builtinsCreated
  -- at worst all three pools are made: MEL/SYM, ERG/MEL, ERG/SYM
  refine Nat.le_trans (Nat.add_le_add (Nat.add_le_add (drop _ _) (drop _ _)) (drop _ _)) ?_
  simp only [pc, poolMelSym_eq, poolMelErg_eq, poolErgSym_eq, hl, hr]
  generalize MICRO_CONVERTER * BUILTIN_LIQ_MULT = X
  cases d <;> simp <;> omega

/-- creating a missing builtin pool — or replacing one that records no liquidity (F23) — adds
    its nobody-owned initial liquidity (10^9 on each side) and nothing else (what a replaced pool held disappears) -/
theorem C01_builtins (s : State) (d : Denom) (hk : (s.pools.map (·.1)).Nodup) :
    supply (createBuiltins s) d ≤ supply s d + 3 * (2 * (MICRO_CONVERTER * BUILTIN_LIQ_MULT)) ∧
    (createBuiltins s).coins = s.coins ∧ (createBuiltins s).feePool = s.feePool ∧ (createBuiltins s).tips = s.tips := by
  refine ⟨?_, rfl, rfl, rfl⟩
  have h1 := C01_builtins_sharp s d hk
  have h2 := builtinsCreated_le s d
  omega

theorem builtinsCreated_other (s : State) (d : Denom) (hm : d ≠ .mel) (hs : d ≠ .sym) (he : d ≠ .erg) :
    builtinsCreated s d = 0 := by
  unfold builtinsCreated
  simp only [pc, poolMelSym_eq, poolMelErg_eq, poolErgSym_eq]
  cases d <;> simp_all

theorem builtinsCreated_zero (s : State) (d : Denom)
    (hb : ∀ k ∈ [poolMelSym, poolMelErg, poolErgSym], ∃ p, s.pools.get k = some p ∧ p.liqs ≠ 0) :
    builtinsCreated s d = 0 := by
  have hm : ∀ k ∈ [poolMelSym, poolMelErg, poolErgSym], builtinMissing s.pools k = false := by
    intro k hk
    obtain ⟨p, hp, hl⟩ := hb k hk
    unfold builtinMissing
    rw [hp]
    simpa using hl
  unfold builtinsCreated
  simp [hm poolMelSym (by simp), hm poolMelErg (by simp), hm poolErgSym (by simp)]

/-- pegging touches nothing but the MEL/SYM pool (coins, fee pool, tips and all other pools are unchanged) -/
theorem C01_pegging_local (s s' : State) (h : processPegging s = .ok s') :
    s'.coins = s.coins ∧ s'.feePool = s.feePool ∧ s'.tips = s.tips ∧
    ∀ k, k ≠ poolMelSym → s'.pools.get k = s.pools.get k := by
  obtain ⟨_, rfl⟩ := processPegging_state h
  exact ⟨rfl, rfl, rfl, fun k hk => AList.get_set_ne _ _ hk⟩

/-- what the TIP-909 subsidy may add to the supply of `d` -/
def subsidyPart (s : State) (d : Denom) : Nat :=
  if d = .sym then tip909Reward s.height else 0

/-- the subsidy creates SYM only (at most the block's subsidy), for every denomination: the SYM goes into the
    MEL/SYM and ERG/SYM pools, the MEL bought with it moves from the pool to the fee pool -/
theorem tip909_supply (s s' : State) (h : applyTip909 s = .ok s') (hk : (s.pools.map (·.1)).Nodup) (d : Denom) :
    supply s' d ≤ supply s d + subsidyPart s d := by
  obtain ⟨sm, es, _, hsm, h1, _, hes, h2, rfl⟩ := applyTip909_inv h
  generalize sm.swapped 0 (tip909FeeSubsidy s) = sm', sm.swapLW 0 (tip909FeeSubsidy s) = mel at h1 ⊢
  generalize es.swapped 0 (tip909ErgSubsidy s) = es' at h2 ⊢
  obtain ⟨m1, m2⟩ := swapMany_le h1
  obtain ⟨e1, e2⟩ := swapMany_le h2
  rw [Nat.add_zero] at m1 e1
  have t1 := poolsTotal_set hk d poolMelSym sm'
  have t2 := poolsTotal_set (pools_nodup_set hk poolMelSym sm') d poolErgSym es'
  rw [AList.at?_some hsm, pc_melSym, pc_melSym] at t1
  rw [AList.at?_some ((AList.get_set_ne _ _ poolMelSym_ne_poolErgSym.symm).trans hes), pc_ergSym, pc_ergSym] at t2
  -- each reserve bound, counted only when `d` is the side's denomination
  have a1 := ite_le_ite (P := d = .mel) m1
  have a2 := ite_le_ite (P := d = .sym) (Nat.le_trans (Nat.le_add_right _ _) m2)
  have a3 := ite_le_ite (P := d = .erg) (Nat.le_trans (Nat.le_add_right _ _) e1)
  have a4 := ite_le_ite (P := d = .sym) (Nat.le_trans (Nat.le_add_right _ _) e2)
  have a5 := congrArg (fun n => if d = .sym then n else 0) (tip909_subsidies s)
  rw [ite_add] at a1 a2 a4 a5
  show coinsTotal s.coins d + poolsTotal ((s.pools.set poolMelSym sm').set poolErgSym es') d +
      (if d = .mel then s.feePool + mel + s.tips else 0) ≤
    coinsTotal s.coins d + poolsTotal s.pools d + (if d = .mel then s.feePool + s.tips else 0) +
      (if d = .sym then tip909Reward s.height else 0)
  rw [ite_add, ite_add, ite_add]
  omega

/-- the TIP-909 subsidy: SYM enters the MEL/SYM and ERG/SYM pools (at most `2^20 >> halvings` in total), the MEL
    bought with it moves from the pool to the fee pool (MEL is conserved), nothing else changes -/
theorem C01_subsidy (s s' : State) (h : applyTip909 s = .ok s') (hk : (s.pools.map (·.1)).Nodup) :
    s'.coins = s.coins ∧ s'.tips = s.tips ∧
    supply s' .mel ≤ supply s .mel ∧ supply s' .erg ≤ supply s .erg ∧
    supply s' .sym ≤ supply s .sym + 2 ^ SUBSIDY_LOG2 / 2 ^ ((s.height - TIP_909_HEIGHT) / SUBSIDY_HALVING) := by
  have hz : ∀ d, d ≠ .sym → supply s' d ≤ supply s d := fun d hd => by
    have := tip909_supply s s' h hk d
    rwa [subsidyPart, if_neg hd] at this
  have hs := tip909_supply s s' h hk .sym
  rw [subsidyPart, if_pos rfl, tip909Reward] at hs
  exact ⟨applyTip909_coins_eq h, (applyTip909_frame h).tips, hz _ (by decide), hz _ (by decide), hs⟩

/-- the proposer reward moves MEL from the fee pool and the tips into one coin: nothing is created -/
theorem C01_reward (env : Env) (s s' : State) (a : ProposerAction) (h : collectProposerFee env s a = .ok s')
    (hk : (s.coins.coins.map (·.1)).Nodup)
    (hfresh : s.coins.getCoin { txhash := env.rewardId s.height, index := 0 } = none) (d : Denom) :
    supply s' d = supply s d := by
  unfold collectProposerFee at h
  simp only at h
  split at h
  · cases h
  · cases h
    have hc := coinsTotal_insertCoin hk d { txhash := env.rewardId s.height, index := 0 }
      { coinData := { covhash := a.rewardDest, value := s.feePool / 2 ^ REWARD_SHIFT + s.tips, denom := .mel,
                      additionalData := [] }, height := s.height } s.tip906
    rw [cwAt_none hfresh] at hc
    have hle : s.feePool / 2 ^ REWARD_SHIFT ≤ s.feePool := Nat.div_le_self _ _
    unfold supply
    simp only [cval] at hc ⊢
    by_cases hd : d = .mel
    · subst hd
      simp only [if_true] at hc ⊢
      omega
    · have hd' : ¬ Denom.mel = d := fun e => hd e.symm
      simp only [hd, hd', if_false] at hc ⊢
      omega

/-- without the assumption that the reward coin's slot is free the reward still creates nothing: a coin it
    overwrites only disappears -/
theorem reward_supply_le {env : Env} {s s' : State} {a : ProposerAction}
    (h : applyProposerAction env s a = .ok s') (hk : s.coins.Nodup) (d : Denom) : supply s' d ≤ supply s d := by
  rw [(applyProposerAction_eq_ok_iff.mp h).2]
  have hc := coinsTotal_insertCoin hk d { txhash := env.rewardId s.height, index := 0 }
    { coinData := { covhash := a.rewardDest, value := s.feePool / 2 ^ REWARD_SHIFT + s.tips, denom := .mel,
                    additionalData := [] }, height := s.height } s.tip906
  change _ = _ + (if Denom.mel = d then s.feePool / 2 ^ REWARD_SHIFT + s.tips else 0) at hc
  have hle : s.feePool / 2 ^ REWARD_SHIFT ≤ s.feePool := Nat.div_le_self _ _
  show coinsTotal (s.coins.insertCoin _ _ _) d + poolsTotal s.pools d +
      (if d = .mel then s.feePool - s.feePool / 2 ^ REWARD_SHIFT + 0 else 0) ≤
    coinsTotal s.coins d + poolsTotal s.pools d + (if d = .mel then s.feePool + s.tips else 0)
  by_cases hd : d = .mel
  · rw [if_pos hd.symm] at hc
    rw [if_pos hd, if_pos hd]
    omega
  · rw [if_neg (fun e => hd e.symm)] at hc
    rw [if_neg hd, if_neg hd]
    omega

/-- known deviation (K-legacy-deposit): inside the legacy window the deposited second coin is not consumed,
    so a deposit duplicates its right-hand amount. Witness at the level of the per-pool step: the coin removal
    is skipped. -/
theorem C01_legacy_deposit_keeps_coin (env : Env) (k : PoolKey) (s s' : State) (tx : Tx)
    (hl : legacyDeposit s = true) (h : processDepositsForPool env k s [tx] = .ok s') (c : CoinDataHeight)
    (hc : s.coins.getCoin (outCoinID tx 1) = some c) : s'.coins.getCoin (outCoinID tx 1) = some c := by
  unfold processDepositsForPool at h
  simp only at h
  split at h
  · cases h
  · cases h
  · split at h
    · cases h; exact hc
    · obtain ⟨coins, hf, h2⟩ := Outcome.bind_eq_ok.mp h
      cases h2
      -- (`split at h` above has already resolved `if legacyDeposit s` with `hl`)
      simp only [Outcome.foldlM'] at hf
      split at hf
      · next b1 hb1 =>
        cases hf
        obtain ⟨v, _, hb1⟩ := Outcome.bind_eq_ok.mp hb1
        cases hb1
        simp only
        rw [CoinMap.getCoin_insertCoin_ne _ _ _ (by unfold outCoinID; intro e; cases e)]
        exact hc
      · cases hf
      · cases hf

end Mel

#print axioms Mel.C01_settlement
#print axioms Mel.C01_builtins
#print axioms Mel.C01_builtins_sharp
#print axioms Mel.builtinsCreated_le
#print axioms Mel.C01_pegging_local
#print axioms Mel.C01_subsidy
#print axioms Mel.C01_reward
#print axioms Mel.C01_legacy_deposit_keeps_coin

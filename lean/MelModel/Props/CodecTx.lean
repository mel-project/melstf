/-
  The serialisation of a transaction (MelModel/Stdcode.lean: `encodeTx`, byte for byte what `stdcode::serialize(tx)`
  writes — compared with the real bytes on the transactions of the stdcode stream) is what `txLen` measures (C05) and it is
  injective: two transactions with the same bytes have the same content.  The transaction hashes are hashes of these
  bytes (`hash_nosigs`: with the signatures cleared), so the hypothesis the state-level theorems make about hashes —
  "equal signature-free hash ⇒ equal signature-free content" (C02, C03, C06, C19, C20) — is, by `Codec_nosigs_injective`,
  exactly collision-freeness of the hash function on byte strings and nothing about the serialisation.
  That every component of the encoding is self-delimiting is proved in MelModel/Lemmas/CodecTxL.lean.
-/
import MelModel.Stdcode
import MelModel.Props.Codec
import MelModel.Lemmas.CodecTxL
namespace Mel
open Mel.Stdcode

/-- the size term of the weight is the length of the serialisation -/
theorem C05_size_is_encoding_length (tx : Tx) (hi : ∀ c ∈ tx.inputs, c.txhash.length = 32)
    (ho : ∀ o ∈ tx.outputs, o.covhash.length = 32) : (encodeTx tx).length = txLen tx := by
  unfold encodeTx txLen
  simp only [List.length_append, putBytes_length, putVarint_length]
  rw [encodeList_length encodeCoinID (fun _ => 33) tx.inputs (fun c hc => encodeCoinID_length c (hi c hc)),
    encodeList_length encodeCoinData coinDataLen tx.outputs (fun o h => encodeCoinData_length o (ho o h)),
    encodeList_length putBytes bytesLen tx.covenants (fun b _ => putBytes_length b),
    encodeList_length putBytes bytesLen tx.sigs (fun b _ => putBytes_length b), sum_map_const]
  rfl

theorem Codec_encodeTx_injective (tx tx' : Tx) (h : TxOk tx) (h' : TxOk tx') (he : encodeTx tx = encodeTx tx') :
    tx.kind = tx'.kind ∧ tx.inputs = tx'.inputs ∧ tx.outputs = tx'.outputs ∧ tx.fee = tx'.fee ∧
    tx.covenants = tx'.covenants ∧ tx.data = tx'.data ∧ tx.sigs = tx'.sigs :=
  (encodeTx_cancel tx tx' h h' [] [] (congrArg (· ++ []) he)).1

/-- the preimage of the signature-free hash determines everything but the signatures -/
theorem Codec_nosigs_injective (tx tx' : Tx) (h : TxOk tx) (h' : TxOk tx')
    (he : encodeTxNoSigs tx = encodeTxNoSigs tx') :
    tx.kind = tx'.kind ∧ tx.inputs = tx'.inputs ∧ tx.outputs = tx'.outputs ∧ tx.fee = tx'.fee ∧
    tx.covenants = tx'.covenants ∧ tx.data = tx'.data := by
  obtain ⟨h1, h2, h3, h4, h5, h6, _⟩ :=
    Codec_encodeTx_injective _ _ (TxOk_clear_sigs h) (TxOk_clear_sigs h') he
  exact ⟨h1, h2, h3, h4, h5, h6⟩

/-- the signature-free preimage does not see the signatures: malleating them leaves the hash alone -/
theorem Codec_nosigs_ignores_sigs (tx : Tx) (sigs : List Bytes) :
    encodeTxNoSigs { tx with sigs := sigs } = encodeTxNoSigs tx := by
  rfl

/-- the serialisation is self-delimiting: no transaction's bytes are a proper prefix of another's -/
theorem Codec_encodeTx_prefix_free (tx tx' : Tx) (h : TxOk tx) (h' : TxOk tx') (t : Bytes)
    (he : encodeTx tx ++ t = encodeTx tx') : t = [] :=
  (encodeTx_cancel tx tx' h h' t [] (he.trans (List.append_nil _).symm)).2

theorem Codec_denom_bytes_injective (d d' : Denom) (h : DenomOk d) (h' : DenomOk d') (he : d.toBytes = d'.toBytes) :
    d = d' :=
  denom_bytes_injective d d' h h' he

/-- without `DenomOk` they do not: a "custom token" whose name is the one byte `m` spells MEL -/
theorem Codec_denom_needs_ok : (Denom.custom [109]).toBytes = Denom.mel.toBytes ∧ Denom.custom [109] ≠ Denom.mel := by
  decide +kernel

/-! ### non-vacuity -/

example : TxOk { kind := .normal, inputs := [{ txhash := List.replicate 32 1, index := 0 }],
                 outputs := [{ covhash := List.replicate 32 2, value := 5, denom := .mel, additionalData := [] }],
                 fee := 1, covenants := [[9]], data := [], sigs := [List.replicate 64 3], hash := [], rawLen := 0,
                 covHashes := [] } := by
  refine ⟨by decide, ?_, by decide, by decide, by decide, by decide, by decide⟩
  intro o ho
  cases List.mem_singleton.mp ho
  exact ⟨by decide, by decide, trivial, by decide⟩

example : encodeTx { kind := .faucet, inputs := [], outputs := [], fee := 300, covenants := [], data := [7], sigs := [],
                     hash := [], rawLen := 0, covHashes := [] } = [255, 0, 0, 251, 44, 1, 0, 1, 7, 0] := by
  decide +kernel

end Mel

#print axioms Mel.C05_size_is_encoding_length
#print axioms Mel.Codec_encodeTx_injective
#print axioms Mel.Codec_nosigs_injective
#print axioms Mel.Codec_nosigs_ignores_sigs
#print axioms Mel.Codec_encodeTx_prefix_free
#print axioms Mel.Codec_denom_bytes_injective
#print axioms Mel.Codec_denom_needs_ok

/-
  C05 — the constants the property's statement (and the recorded deviations) fix, stated of the values regenerated
  from /repo's source (Generated/Tables.lean): the proposer receives 1/65536 (= 2^-16) of the fee pool. The model is
  parametric in these constants: a changed constant breaks these theorems instead of being followed silently.
-/
import MelModel.Generated.Tables
namespace Mel
open Mel.Gen

theorem C05_pin_REWARD_SHIFT : REWARD_SHIFT = 16 := rfl

end Mel

#print axioms Mel.C05_pin_REWARD_SHIFT

/-
  The theorems of C05 / C13 / C18 restated over the *content* of a transaction.
  `Tx` carries three facts next to the content (`rawLen`, `stakeDoc`, `powDifficulty`), supplied by the
  implementation; `Stdcode.suppliedAgrees` says they are the ones the content determines.  The driver refuses
  (`stdcode-mismatch`) every batch and block with a transaction for which this fails, so every transaction the
  correspondence check runs is `SelfDescribed`, and for such transactions the property theorems speak about
  `tx.data` and the serialised size directly.
-/
import MelModel.Props.C05
import MelModel.Props.C13
import MelModel.Props.C18
import MelModel.Props.Codec
namespace Mel
open Mel.Stdcode Mel.Gen

/-- the facts carried next to the content are the ones the content determines -/
def Tx.SelfDescribed (tx : Tx) : Prop := suppliedAgrees tx = true

theorem Tx.selfDescribed_iff (tx : Tx) :
    tx.SelfDescribed ↔ tx.rawLen = txLen tx ∧ tx.stakeDoc = decodeStakeDoc tx.data ∧
      tx.powDifficulty = (decodePow tx.data).map (·.1) := by
  simp [Tx.SelfDescribed, suppliedAgrees, Bool.and_eq_true, and_assoc]

/-- every transaction can be completed to a self-described one without touching its content -/
theorem Tx.selfDescribed_complete (tx : Tx) :
    ({ tx with rawLen := txLen tx, stakeDoc := decodeStakeDoc tx.data,
               powDifficulty := (decodePow tx.data).map (·.1) } : Tx).SelfDescribed := by
  rw [Tx.selfDescribed_iff]
  exact ⟨by simp [txLen], rfl, rfl⟩

/-- C05: the weight is a function of the transaction's content: its serialised size (computed, not supplied) plus
    the covenant weights plus 1000 per output minus 1000 per input -/
theorem C05_weight_of_content (tx : Tx) (hsd : tx.SelfDescribed) (w : Nat) (h : tx.weight = .ok w) :
    w = min (min (txLen tx + (tx.covenants.map covenantWeightFromBytes).sum) U128_MAX + tx.outputs.length * 1000) U128_MAX
          - tx.inputs.length * 1000 := by
  have := C05_weight tx w h
  rwa [((Tx.selfDescribed_iff tx).mp hsd).1] at this

/-- C05: two self-described transactions with the same content weigh the same, whatever else they carry -/
theorem C05_weight_content_only (tx tx' : Tx) (h : tx.SelfDescribed) (h' : tx'.SelfDescribed)
    (hi : tx.inputs.length = tx'.inputs.length) (ho : tx.outputs = tx'.outputs) (hf : tx.fee = tx'.fee)
    (hc : tx.covenants = tx'.covenants) (hd : tx.data = tx'.data) (hs : tx.sigs = tx'.sigs)
    (w w' : Nat) (hw : tx.weight = .ok w) (hw' : tx'.weight = .ok w') : w = w' := by
  rw [C05_weight_of_content tx h w hw, C05_weight_of_content tx' h' w' hw',
    C05_size_of_content tx tx' hi ho hf hc hd hs, hc, ho, hi]

/-- C13: the stake that gets registered is the one the transaction's data spells: the data is a complete stdcode
    encoding (35 to 67 bytes, nothing after it) of a document whose fields fit their types -/
theorem C13_registered_is_declared (s : State) (tx : Tx) (d : StakeDoc) (hsd : tx.SelfDescribed)
    (h : Registers s tx d) :
    decodeStakeDoc tx.data = some d ∧ StakeDoc.Fits d ∧ 35 ≤ tx.data.length ∧ tx.data.length ≤ 67 := by
  have hd : decodeStakeDoc tx.data = some d := by
    rw [← ((Tx.selfDescribed_iff tx).mp hsd).2.1]; exact h.2.2.1
  exact ⟨hd, C13_stakedoc_decoded_fits _ _ hd, C13_stakedoc_length _ _ hd⟩

/-- C13: data that is not a stake document registers nothing -/
theorem C13_undecodable_registers_nothing (s : State) (tx : Tx) (hsd : tx.SelfDescribed)
    (hnone : decodeStakeDoc tx.data = none) (d : StakeDoc) : ¬ Registers s tx d := by
  intro h
  have := (C13_registered_is_declared s tx d hsd h).1
  rw [hnone] at this; cases this

/-- C18: an accepted mint states its difficulty in its data: the data is a complete stdcode encoding of
    (difficulty : u32, proof bytes) -/
theorem C18_difficulty_is_stated (env : Env) (s : State) (rel : Relevant) (tx : Tx) (sp : Nat) (hsd : tx.SelfDescribed)
    (h : validateDoscmint env s rel tx = .ok sp) :
    ∃ difficulty proof, decodePow tx.data = some (difficulty, proof) ∧ tx.powDifficulty = some difficulty ∧
      difficulty < 2 ^ 32 ∧ proof.length + 2 ≤ tx.data.length := by
  obtain ⟨_, _, _, _, difficulty, _, _, _, _, _, _, _, hpd, _⟩ := C18_sound env s rel tx sp h
  have hm := ((Tx.selfDescribed_iff tx).mp hsd).2.2
  rw [hpd] at hm
  cases hdp : decodePow tx.data with
  | none => rw [hdp] at hm; cases hm
  | some p =>
    obtain ⟨d', proof⟩ := p
    rw [hdp] at hm
    have hdd : d' = difficulty := by simpa using hm.symm
    subst hdd
    exact ⟨d', proof, rfl, hpd, C18_pow_decoded_bounds _ _ _ hdp⟩

/-- C18: data that does not decode mints nothing -/
theorem C18_undecodable_mints_nothing (env : Env) (s : State) (rel : Relevant) (tx : Tx) (hsd : tx.SelfDescribed)
    (hnone : decodePow tx.data = none) : ∀ sp, validateDoscmint env s rel tx ≠ .ok sp := by
  intro sp h
  obtain ⟨d, p, hd, _⟩ := C18_difficulty_is_stated env s rel tx sp hsd h
  rw [hnone] at hd; cases hd

end Mel

#print axioms Mel.Tx.selfDescribed_iff
#print axioms Mel.Tx.selfDescribed_complete
#print axioms Mel.C05_weight_of_content
#print axioms Mel.C05_weight_content_only
#print axioms Mel.C13_registered_is_declared
#print axioms Mel.C13_undecodable_registers_nothing
#print axioms Mel.C18_difficulty_is_stated
#print axioms Mel.C18_undecodable_mints_nothing

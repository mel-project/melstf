/-
  C16 — Built-in pools always exist with reserves; liquidity tokens stay fully backed.
-/
import MelModel.Seal
import MelModel.Lemmas.Pools
import MelModel.Lemmas.TotalSeal
namespace Mel
open Mel.Gen

/-- the builtin pools of a state (ERG/SYM only once TIP-902 is active) -/
def builtinKeys (s : State) : List PoolKey := [poolMelSym, poolMelErg] ++ (if s.tip902 then [poolErgSym] else [])

def HasReserves (p : PoolState) : Prop := 0 < p.lefts ∧ 0 < p.rights

/-- every pool that has issued liquidity has reserves on both sides, and the builtin pools that exist have
    reserves and at least the nobody-owned initial liquidity -/
def PoolsSane (s : State) : Prop :=
  (∀ k p, s.pools.get k = some p → p.liqs ≠ 0 → HasReserves p) ∧
  (∀ k ∈ [poolMelSym, poolMelErg, poolErgSym], ∀ p, s.pools.get k = some p → HasReserves p ∧ 0 < p.liqs)

theorem mem_builtinKeys_iff {s : State} {k : PoolKey} :
    k ∈ builtinKeys s ↔ k = poolMelSym ∨ k = poolMelErg ∨ (s.tip902 = true ∧ k = poolErgSym) := by
  unfold builtinKeys
  cases s.tip902 <;> simp

theorem createBuiltins_get_builtin (s : State) (k : PoolKey) (hk : k ∈ builtinKeys s) :
    (createBuiltins s).pools.get k = some (fixedPool (s.pools.get k)) :=
  createBuiltins_get_fixed s k (mem_builtinKeys_iff.mp hk)

/-- `create_builtins` makes every builtin pool exist: the default pool when it was missing or records no
    liquidity at all (the fix for F23), unchanged when it records liquidity -/
theorem C16_builtins_created (s : State) (k : PoolKey) (hk : k ∈ builtinKeys s) :
    ∃ p, (createBuiltins s).pools.get k = some p ∧
      (s.pools.get k = none → p = builtinDefault) ∧
      (∀ q, s.pools.get k = some q → q.liqs = 0 → p = builtinDefault) ∧
      (∀ q, s.pools.get k = some q → q.liqs ≠ 0 → p = q) := by
  refine ⟨_, createBuiltins_get_builtin s k hk, ?_, ?_, ?_⟩
  · intro h; rw [h]; rfl
  · intro q h hq; rw [h]; simp [fixedPool, hq]
  · intro q h hq; rw [h]; simp [fixedPool, hq]

theorem C16_builtins_have_liquidity (s : State) (k : PoolKey) (hk : k ∈ builtinKeys s) :
    ∃ p, (createBuiltins s).pools.get k = some p ∧ p.liqs ≠ 0 :=
  ⟨_, createBuiltins_get_builtin s k hk, fixedPool_liqs_ne _⟩

/-- a builtin pool whose only depositors withdrew everything is created afresh -/
theorem C16_emptied_builtin_recreated (s : State) (k : PoolKey) (p : PoolState) (hk : k ∈ builtinKeys s)
    (hp : s.pools.get k = some p) (hz : p.liqs = 0) :
    (createBuiltins s).pools.get k = some builtinDefault := by
  rw [createBuiltins_get_builtin s k hk, hp]
  simp [fixedPool, hz]

/-- F23 in general: once TIP-902 is active, pegging on a state whose ERG/SYM pool has an empty SYM side crashes
    (the implied price is a fraction with denominator zero) -/
theorem C16_pegging_crashes_on_empty_ergsym (s : State) (p : PoolState) (ht : s.tip902 = true)
    (hp : s.pools.get poolErgSym = some p) (hr : p.rights = 0) :
    processPegging s = .crash "melswap.rs: implied_price Ratio::new(_, 0)" := by
  unfold processPegging
  simp only [ht, hp, if_true, Outcome.bind, hr]

/-- the TIP-902 activation height of the main network: the two older builtin pools as created, and an ERG/SYM pool
    whose only depositor has withdrawn everything (`withdraw` leaves (0, 0, _, 0)) -/
def emptiedErgSymState : State :=
  { (default : State) with
    network := .mainnet
    height := TIP_902_HEIGHT
    pools := [(poolMelSym, builtinDefault), (poolMelErg, builtinDefault),
              (poolErgSym, { lefts := 0, rights := 0, priceAccum := 7, liqs := 0 })] }

/-- F23 on a concrete state: before the fix `create_builtins` only looked at whether the ERG/SYM pool existed, so
    it left the emptied pool as it was, and pegging on it crashes at the TIP-902 activation height -/
theorem C16_old_emptied_ergsym_crashes :
    emptiedErgSymState.tip902 = true ∧
    (emptiedErgSymState.pools.get poolErgSym).isNone = false ∧
    processPegging emptiedErgSymState = .crash "melswap.rs: implied_price Ratio::new(_, 0)" := by
  have ht : emptiedErgSymState.tip902 = true := by decide
  have hp : emptiedErgSymState.pools.get poolErgSym =
      some { lefts := 0, rights := 0, priceAccum := 7, liqs := 0 } := by decide
  exact ⟨ht, by rw [hp]; rfl, C16_pegging_crashes_on_empty_ergsym _ _ ht hp rfl⟩

/-- since the fix `create_builtins` puts the default ERG/SYM pool back, so pegging reads reserves of 10^9 on
    both sides -/
theorem C16_emptied_ergsym_fixed :
    (createBuiltins emptiedErgSymState).pools.get poolErgSym = some builtinDefault :=
  C16_emptied_builtin_recreated _ _ _ (by decide) (by decide : emptiedErgSymState.pools.get poolErgSym =
    some { lefts := 0, rights := 0, priceAccum := 7, liqs := 0 }) rfl

/-! Finding F24: a builtin pool emptied by the withdrawals of the block being sealed.

  `create_builtins` ran only at the start of `preseal_melmint`; a builtin pool whose whole liquidity is redeemed in the
  block (the only holder of a user-opened pre-TIP-902 ERG/SYM pool; faucet-minted tokens, K-faucet-liq) left the
  withdrawal phase with no reserves, and pegging (and the TIP-909 subsidy) divided by zero. Since the fix the
  builtin pools are made again after the withdrawal phase. -/

/-- `preseal_melmint` before the fix for F24: no second `create_builtins` -/
def presealMelmintOld (env : Env) (s : State) : Outcome State :=
  let s0 := createBuiltins s
  if s0.pools.length < 2 then .crash "assert!(pools.count() >= 2)" else
  (processSwaps s0).bind fun s1 =>
  (processDeposits env s1).bind fun s2 =>
  (processWithdrawals env s2).bind fun s3 =>
  processPegging s3

/-- the state handed to pegging has every due builtin pool (MEL/SYM, MEL/ERG, and ERG/SYM once TIP-902 is active),
    with liquidity, whatever the withdrawals of the block did to it -/
theorem C16_builtins_priced_after_withdrawals (env : Env) (s s' : State) (h : presealMelmint env s = .ok s') :
    ∃ s1 s2 s3, processSwaps (createBuiltins s) = .ok s1 ∧ processDeposits env s1 = .ok s2 ∧
      processWithdrawals env s2 = .ok s3 ∧ processPegging (createBuiltins s3) = .ok s' ∧
      ∀ k ∈ builtinKeys s, ∃ p, (createBuiltins s3).pools.get k = some p ∧ p.liqs ≠ 0 := by
  obtain ⟨_, s1, s2, s3, h1, h2, h3, h4⟩ := presealMelmint_eq_ok_iff.mp h
  refine ⟨s1, s2, s3, h1, h2, h3, h4, ?_⟩
  have hs := (((createBuiltins_frame s).trans (processSwaps_frame h1)).trans
    (processDeposits_frame h2)).trans (processWithdrawals_frame h3)
  have hk : builtinKeys s3 = builtinKeys s := by
    unfold builtinKeys
    rw [hs.tip902]
  intro k hk'
  exact C16_builtins_have_liquidity s3 k (by rw [hk]; exact hk')

/-- a withdrawal of a pool's whole liquidity leaves it with no reserves and no liquidity (one of more than that is
    skipped by the guard, `C16_withdraw_guard`) -/
theorem C16_full_withdraw_empties (p : PoolState) (hq : p.liqs ≠ 0) :
    p.withdraw p.liqs = .ok ({ p with liqs := 0, lefts := 0, rights := 0 }, p.lefts, p.rights) :=
  PoolState.withdraw_eq_ok_iff.mpr ⟨Nat.le_refl _, hq, Or.inl ⟨rfl, rfl⟩⟩

def drainTx (env : Env) : Tx := {
  kind := .liqWithdraw, inputs := [], outputs := [(⟨[7], 5000, liqTokenDenom env poolErgSym, []⟩ : CoinData)],
  fee := 0, covenants := [], data := poolErgSym.toBytes, sigs := [], hash := [2], rawLen := 0, covHashes := [] }

/-- the state of F24 (off the main network, so TIP-902 is active): MEL/SYM and MEL/ERG as created, ERG/SYM a
    user-opened pool (5000 ERG, 7000 SYM, 5000 liquidity tokens, none of them nobody-owned), and the block contains
    `drainTx`, which redeems all 5000 tokens; the token coin sits at the transaction's output slot, as
    `get_withdrawal_transactions` requires -/
def drainedErgSymState (env : Env) : State := {
  network := .custom02, height := 10, history := [],
  coins := { coins := [(⟨[2], 0⟩, ⟨⟨[7], 5000, liqTokenDenom env poolErgSym, []⟩, 10⟩)], counts := [([7], 1)] },
  txs := [drainTx env], feePool := 0, feeMultiplier := 0, tips := 0, doscSpeed := 0,
  pools := [(poolMelSym, builtinDefault), (poolMelErg, builtinDefault),
            (poolErgSym, { lefts := 5000, rights := 7000, priceAccum := 0, liqs := 5000 })],
  stakes := [] }

theorem drained_tip902 (env : Env) : (drainedErgSymState env).tip902 = true := rfl

theorem drained_canon : canonicalPoolKey poolErgSym.toBytes = some poolErgSym := by decide

theorem drained_builtins (env : Env) : createBuiltins (drainedErgSymState env) = drainedErgSymState env := rfl
theorem drained_swaps (env : Env) : processSwaps (drainedErgSymState env) = .ok (drainedErgSymState env) := rfl
theorem drained_deposits (env : Env) :
    processDeposits env (drainedErgSymState env) = .ok (drainedErgSymState env) := rfl

theorem drained_request (env : Env) : isWithdrawRequest env (drainedErgSymState env) (drainTx env) = true := by
  have hc : canonicalPoolKey (drainTx env).data = some poolErgSym := drained_canon
  have hg : ((drainedErgSymState env).coins.getCoin (outCoinID (drainTx env) 0)).isSome = true := rfl
  have hp : ((drainedErgSymState env).pools.get poolErgSym).isSome = true := rfl
  unfold isWithdrawRequest
  rw [show (drainTx env).outputs = [(⟨[7], 5000, liqTokenDenom env poolErgSym, []⟩ : CoinData)] from rfl]
  simp only [hc, hg, hp]
  simp [drainTx]

def drainedAfterWithdrawals (env : Env) : State := {
  network := .custom02, height := 10, history := [],
  coins := { coins := [(⟨[2], 1⟩, ⟨⟨[7], 7000, .sym, []⟩, 10⟩), (⟨[2], 0⟩, ⟨⟨[7], 5000, .erg, []⟩, 10⟩)],
             counts := [([7], 2)] },
  txs := [drainTx env], feePool := 0, feeMultiplier := 0, tips := 0, doscSpeed := 0,
  pools := [(poolErgSym, { lefts := 0, rights := 0, priceAccum := 0, liqs := 0 }),
            (poolMelSym, builtinDefault), (poolMelErg, builtinDefault)],
  stakes := [] }

/-- the withdrawal phase empties the ERG/SYM pool: the reserves (5000 ERG, 7000 SYM) are paid out, no liquidity
    is left -/
theorem C16_drained_withdrawals (env : Env) :
    processWithdrawals env (drainedErgSymState env) = .ok (drainedAfterWithdrawals env) := by
  unfold processWithdrawals
  have hf : (drainedErgSymState env).txs.filter (isWithdrawRequest env (drainedErgSymState env))
      = [drainTx env] := by
    show [drainTx env].filter _ = _
    simp [List.filter, drained_request]
  simp only [hf]
  have hk : extractPoolKeysSorted [drainTx env] = [poolErgSym] := by
    unfold extractPoolKeysSorted
    simp only [List.filterMap, show canonicalPoolKey (drainTx env).data = some poolErgSym from drained_canon]
    rfl
  have ht : transactionsForPool [drainTx env] poolErgSym = [drainTx env] := by
    unfold transactionsForPool
    simp [List.filter, show canonicalPoolKey (drainTx env).data = some poolErgSym from drained_canon]
  rw [hk]
  simp only [Outcome.foldlM', ht]
  have hhead : (drainTx env).outputs.headD default = ⟨[7], 5000, liqTokenDenom env poolErgSym, []⟩ := rfl
  have hg : (drainedErgSymState env).pools.get poolErgSym =
      some { lefts := 5000, rights := 7000, priceAccum := 0, liqs := 5000 } := rfl
  have hT : satSum [5000] = 5000 := rfl
  have hw : ({ lefts := 5000, rights := 7000, priceAccum := 0, liqs := 5000 } : PoolState).withdraw 5000 =
      .ok ({ lefts := 0, rights := 0, priceAccum := 0, liqs := 0 }, 5000, 7000) := rfl
  have m1 : multiplyFrac 5000 5000 5000 = .ok 5000 := rfl
  have m2 : multiplyFrac 7000 5000 5000 = .ok 7000 := rfl
  unfold processWithdrawalsForPool
  simp only [hg, List.map, hhead, hT, hw, Outcome.foldlM', m1, m2, Outcome.bind]
  rfl

/-- before the fix for F24 this seal crashed: the emptied ERG/SYM pool goes to pegging, whose implied price is a
    fraction with denominator zero -/
theorem C16_old_drained_ergsym_crashes (env : Env) :
    presealMelmintOld env (drainedErgSymState env) = .crash "melswap.rs: implied_price Ratio::new(_, 0)" := by
  unfold presealMelmintOld
  simp only
  rw [drained_builtins, if_neg (show ¬ (drainedErgSymState env).pools.length < 2 by show ¬ 3 < 2; omega),
    drained_swaps]
  simp only [Outcome.bind]
  rw [drained_deposits]
  simp only
  rw [C16_drained_withdrawals]
  exact C16_pegging_crashes_on_empty_ergsym _ { lefts := 0, rights := 0, priceAccum := 0, liqs := 0 } rfl rfl rfl

theorem C16_old_drained_ergsym_crashes' (env : Env) :
    ∃ c, presealMelmintOld env (drainedErgSymState env) = .crash c :=
  ⟨_, C16_old_drained_ergsym_crashes env⟩

/-- since the fix the second `create_builtins` puts the default ERG/SYM pool back, and that is the pool pegging
    (and the subsidy) read -/
theorem C16_drained_ergsym_recreated (env : Env) :
    presealMelmint env (drainedErgSymState env) = processPegging (createBuiltins (drainedAfterWithdrawals env)) ∧
    (createBuiltins (drainedAfterWithdrawals env)).pools.get poolErgSym = some builtinDefault ∧
    (createBuiltins (drainedAfterWithdrawals env)).pools.get poolMelSym = some builtinDefault ∧
    (createBuiltins (drainedAfterWithdrawals env)).pools.get poolMelErg = some builtinDefault := by
  refine ⟨?_, rfl, rfl, rfl⟩
  unfold presealMelmint
  simp only
  rw [drained_builtins, if_neg (show ¬ (drainedErgSymState env).pools.length < 2 by show ¬ 3 < 2; omega),
    drained_swaps]
  simp only [Outcome.bind]
  rw [drained_deposits]
  simp only
  rw [C16_drained_withdrawals]

/-! The fields of `SealTotalPre` (Props/C09Seal.lean) hold of the state. -/

theorem drained_counts (env : Env) : CountsOk (drainedErgSymState env).coins := by
  refine ⟨?_, ?_, ?_, ?_⟩
  · show ([⟨[2], 0⟩] : List CoinID).Nodup
    decide
  · show ([[7]] : List Hash).Nodup
    decide
  · intro a
    show (AList.get [(([7] : Hash), 1)] a).getD 0 =
      ([(⟨[2], 0⟩, ⟨⟨[7], 5000, liqTokenDenom env poolErgSym, []⟩, 10⟩)].filter
        fun (e : CoinID × CoinDataHeight) => e.2.coinData.covhash = a).length
    by_cases ha : ([7] : Hash) = a
    · subst ha; simp [AList.get]
    · simp [AList.get, ha]
  · intro e he
    have : e = (([7] : Hash), 1) := by simpa [drainedErgSymState] using he
    rw [this]; decide

theorem drained_faithful (env : Env) : TotalSealL.Faithful (drainedErgSymState env).txs (drainedErgSymState env).coins := by
  intro tx htx i o c ho hc
  have htx' : tx = drainTx env := by simpa [drainedErgSymState] using htx
  subst htx'
  match i with
  | 0 =>
    have e1 : o = ⟨[7], 5000, liqTokenDenom env poolErgSym, []⟩ := by
      have : (drainTx env).outputs[0]? = some ⟨[7], 5000, liqTokenDenom env poolErgSym, []⟩ := rfl
      rw [this] at ho; exact (Option.some.inj ho).symm
    have e2 : c = ⟨⟨[7], 5000, liqTokenDenom env poolErgSym, []⟩, 10⟩ := by
      have : (drainedErgSymState env).coins.getCoin ⟨(drainTx env).hash, 0⟩ =
          some ⟨⟨[7], 5000, liqTokenDenom env poolErgSym, []⟩, 10⟩ := rfl
      rw [this] at hc; exact (Option.some.inj hc).symm
    rw [e1, e2]
  | n + 1 =>
    have : (drainTx env).outputs[n + 1]? = none := rfl
    rw [this] at ho; cases ho

theorem drained_pools (env : Env) (k : PoolKey) (p : PoolState) (h : (drainedErgSymState env).pools.get k = some p) :
    p = builtinDefault ∨ p = { lefts := 5000, rights := 7000, priceAccum := 0, liqs := 5000 } := by
  simp only [drainedErgSymState, AList.get] at h
  split at h
  · cases h; exact Or.inl rfl
  split at h
  · cases h; exact Or.inl rfl
  split at h
  · cases h; exact Or.inr rfl
  · cases h

theorem drained_sane (env : Env) (k : PoolKey) (p : PoolState) (h : (drainedErgSymState env).pools.get k = some p)
    (_ : p.liqs ≠ 0) : 0 < p.lefts ∧ 0 < p.rights := by
  rcases drained_pools env k p h with rfl | rfl <;> decide

theorem drained_reserve (env : Env) (p : PoolState) (h : (drainedErgSymState env).pools.get poolMelSym = some p) :
    p.lefts ≤ 2 ^ 125 := by
  rcases drained_pools env _ p h with rfl | rfl <;> decide

theorem drained_inflow (env : Env) : ((drainedErgSymState env).txs.map fun tx =>
    if (tx.outputs.headD default).denom = .mel then (tx.outputs.headD default).value else 0).sum ≤ 2 ^ 124 := by
  show (if (liqTokenDenom env poolErgSym) = Denom.mel then 5000 else 0) + 0 ≤ 2 ^ 124
  rw [if_neg (by intro e; cases e)]; decide

theorem drained_fee (env : Env) : (drainedErgSymState env).feePool + (drainedErgSymState env).tips + 2 ^ 21 ≤ 2 ^ 127 := by
  show 0 + 0 + 2 ^ 21 ≤ 2 ^ 127; decide

theorem drained_hashes (env : Env) : ((drainedErgSymState env).txs.map (·.hash)).Nodup := by
  show ([[2]] : List Hash).Nodup; decide

theorem drained_height (env : Env) : (drainedErgSymState env).height < TIP_909_HEIGHT + 128 * SUBSIDY_HALVING := by
  show 10 < TIP_909_HEIGHT + 128 * SUBSIDY_HALVING; decide

/-- the state of F24 seals, and in the sealed state every builtin pool, the re-created ERG/SYM pool included, has
    liquidity and reserves on both sides -/
theorem C16_drained_ergsym_seals (env : Env) (a : Option ProposerAction) :
    ∃ ss, sealState env (drainedErgSymState env) a = .ok ss ∧
      ∀ k ∈ [poolMelSym, poolMelErg, poolErgSym],
        ∃ p, ss.st.pools.get k = some p ∧ p.liqs ≠ 0 ∧ 0 < p.lefts ∧ 0 < p.rights := by
  obtain ⟨ss, h, hpo⟩ := sealState_ok_pools env (drainedErgSymState env) a (fun _ => drained_counts env)
    (drained_faithful env) (drained_hashes env) (drained_sane env) (drained_reserve env) (drained_inflow env)
    (drained_fee env) (drained_height env)
  refine ⟨ss, h, ?_⟩
  intro k hk
  obtain ⟨p, hp, h1, h2, h3⟩ := hpo.builtins k (by rw [drained_tip902]; exact hk)
  exact ⟨p, hp, by omega, h1, h2⟩

def drainEnv : Env := {
  vm := { hash := id, sigOk := fun _ _ _ => true },
  liqHash := id, fdp := fun h => 9 :: h, rewardId := fun _ => [], hdrHash := fun _ => [],
  powOk := fun _ _ _ _ => .invalid, isGrandfathered := fun _ => false,
  historyRoot := fun _ => [], coinsRoot := fun _ => [], txsRoot := fun _ _ => [],
  poolsRoot := fun _ => [], stakesRoot := fun _ => [] }

/-- the same by evaluation in `drainEnv`: the ERG/SYM pool is the default pool moved by the TIP-909 subsidy swap
    (4096 SYM in, 4075 ERG out), and the withdrawer holds the old reserves -/
theorem C16_drained_ergsym_sealed_values :
    ∃ ss, sealState drainEnv (drainedErgSymState drainEnv) none = .ok ss ∧
      ss.st.pools.get poolErgSym =
        some { lefts := 999995925, rights := 1000004096, priceAccum := 999991, liqs := 1000000000 } ∧
      ss.st.coins.getCoin ⟨[2], 0⟩ = some ⟨⟨[7], 5000, .erg, []⟩, 10⟩ ∧
      ss.st.coins.getCoin ⟨[2], 1⟩ = some ⟨⟨[7], 7000, .sym, []⟩, 10⟩ := by
  have hv : ((sealState drainEnv (drainedErgSymState drainEnv) none).okAnd fun ss =>
      decide (ss.st.pools.get poolErgSym =
          some { lefts := 999995925, rights := 1000004096, priceAccum := 999991, liqs := 1000000000 } ∧
        ss.st.coins.getCoin ⟨[2], 0⟩ = some ⟨⟨[7], 5000, .erg, []⟩, 10⟩ ∧
        ss.st.coins.getCoin ⟨[2], 1⟩ = some ⟨⟨[7], 7000, .sym, []⟩, 10⟩)) = true := by decide +kernel
  obtain ⟨ss, hs, h⟩ := Outcome.exists_of_okAnd hv
  exact ⟨ss, hs, of_decide_eq_true h⟩

theorem C16_default_has_reserves : HasReserves builtinDefault ∧ builtinDefault.liqs = 1000000000 := by
  simp [HasReserves, builtinDefault, MICRO_CONVERTER, BUILTIN_LIQ_MULT]

theorem C16_builtins_exist (env : Env) (s : State) (a : Option ProposerAction) (ss : Sealed)
    (h : sealState env s a = .ok ss) (k : PoolKey) (hk : k ∈ builtinKeys s) :
    ∃ p, ss.st.pools.get k = some p := by
  obtain ⟨p, hp, _⟩ := C16_builtins_created s k hk
  have := sealState_grow h (k := k) (by rw [hp]; rfl)
  exact Option.isSome_iff_exists.mp this

theorem C16_partial_withdraw_keeps_reserves (p p' : PoolState) (q pl pr : Nat)
    (h : p.withdraw q = .ok (p', pl, pr)) (hr : HasReserves p) (hq : q < p.liqs) :
    HasReserves p' ∧ 0 < p'.liqs := by
  obtain ⟨hl, hrr⟩ := hr
  obtain ⟨_, _, ⟨e, _⟩ | ⟨_, e⟩⟩ := PoolState.withdraw_eq_ok_iff.mp h
  · omega
  · cases e
    -- a proper part of the liquidity takes a proper part of either reserve
    exact ⟨⟨Nat.sub_pos_of_lt (mul_div_lt hq hl), Nat.sub_pos_of_lt (mul_div_lt hq hrr)⟩, Nat.sub_pos_of_lt hq⟩

theorem C16_deposit_keeps_reserves (p p' : PoolState) (l r minted : Nat)
    (h : p.deposit l r = .ok (p', minted)) (hl : 0 < l) (hr : 0 < r)
    (hp : p.liqs ≠ 0 → HasReserves p) : HasReserves p' := by
  rcases PoolState.deposit_eq_ok_iff.mp h with ⟨_, e⟩ | ⟨hne, _, e⟩
  · cases e; exact ⟨hl, hr⟩
  · cases e
    obtain ⟨hpl, hpr⟩ := hp hne
    exact ⟨Nat.add_pos_left hpl _, Nat.add_pos_left hpr _⟩

/-- the deposit selector only lets through deposits with both amounts positive -/
theorem C16_deposit_amounts_positive (s : State) (tx : Tx) (h : isDepositRequest s tx = true) :
    ∃ o0 o1 rest, tx.outputs = o0 :: o1 :: rest ∧ 0 < o0.value ∧ 0 < o1.value := by
  obtain ⟨_, o0, o1, rest, _, ho, h0, h1, _⟩ := isDepositRequest_iff.mp h
  exact ⟨o0, o1, rest, ho, h0, h1⟩

/-- backing at issue (F10): the liquidity tokens handed to the depositors of one pool in one block add up to
    no more than the liquidity the pool recorded for them -/
theorem C16_issue_backed (totalLiqs : Nat) (ws : List Nat) (hpos : 0 < ws.sum) (hfit : ws.sum ≤ U128_MAX) :
    (ws.map fun w => min (totalLiqs * w / ws.sum) U128_MAX).sum ≤ totalLiqs := by
  have _ := hfit   -- not needed: the bound holds for any list with a positive sum
  have h := shares_sum_mul_le totalLiqs ws.sum U128_MAX ws
  rw [Nat.mul_comm totalLiqs] at h
  rw [Nat.mul_comm _ ws.sum] at h
  exact Nat.le_of_mul_le_mul_left h hpos

/-- F10 before the fix: with the old denominator ⌊√Σa⌋·⌊√Σb⌋ two (1,1) deposits into a fresh pool are issued
    2 + 2 tokens against a recorded liquidity of 2 -/
theorem C16_old_overissue :
    let total := 2          -- pool.deposit(2, 2) on an empty pool
    let oldDenominator := Nat.sqrt (1 + 1) * Nat.sqrt (1 + 1)
    (total * (Nat.sqrt 1 * Nat.sqrt 1) / oldDenominator) + (total * (Nat.sqrt 1 * Nat.sqrt 1) / oldDenominator) = 4 := by
  intro total oldDenominator
  have h2 : Nat.sqrt (1 + 1) = 1 := sqrt_two
  simp only [total, oldDenominator, sqrt_one, h2]

/-- requests to redeem more liquidity than the pool records are ignored (they would trip
    `assert!(self.liqs >= liqs)` in `PoolState::withdraw`) -/
theorem C16_withdraw_guard (k : PoolKey) (s : State) (reqs : List Tx) (p : PoolState)
    (hp : s.pools.get k = some p)
    (hmore : p.liqs < satSum (reqs.map fun tx => (tx.outputs.headD default).value)) :
    processWithdrawalsForPool k s reqs = .ok s :=
  processWithdrawalsForPool_skip hp hmore

/-- pegging and the TIP-909 subsidy only add to a builtin pool's side through `swap_many`, which keeps reserves
    (`C15_swap_keeps_reserves`); stated for the subsidy step -/
theorem C16_subsidy_keeps_reserves (s s' : State) (h : applyTip909 s = .ok s') :
    ∀ k ∈ [poolMelSym, poolErgSym], ∀ p', s'.pools.get k = some p' → HasReserves p' := by
  obtain ⟨_, _, _, _, hsm, _, _, hes, e⟩ := applyTip909_inv h
  have r1 := swapMany_keeps_reserves (tip909_subsidies_le s).1 hsm
  have r2 := swapMany_keeps_reserves (tip909_subsidies_le s).2 hes
  intro k hk p' hp'
  rw [e] at hp'
  simp only [List.mem_cons, List.not_mem_nil, or_false] at hk
  rcases hk with rfl | rfl
  · rw [AList.get_set_ne _ _ poolMelSym_ne_poolErgSym, AList.get_set_self] at hp'
    cases hp'; exact r1
  · rw [AList.get_set_self] at hp'
    cases hp'; exact r2

end Mel

#print axioms Mel.createBuiltins_get_builtin
#print axioms Mel.C16_builtins_created
#print axioms Mel.C16_builtins_have_liquidity
#print axioms Mel.C16_emptied_builtin_recreated
#print axioms Mel.C16_pegging_crashes_on_empty_ergsym
#print axioms Mel.C16_old_emptied_ergsym_crashes
#print axioms Mel.C16_emptied_ergsym_fixed
#print axioms Mel.C16_builtins_priced_after_withdrawals
#print axioms Mel.C16_full_withdraw_empties
#print axioms Mel.C16_drained_withdrawals
#print axioms Mel.C16_old_drained_ergsym_crashes
#print axioms Mel.C16_old_drained_ergsym_crashes'
#print axioms Mel.C16_drained_ergsym_recreated
#print axioms Mel.C16_drained_ergsym_seals
#print axioms Mel.C16_drained_ergsym_sealed_values
#print axioms Mel.C16_default_has_reserves
#print axioms Mel.C16_builtins_exist
#print axioms Mel.C16_partial_withdraw_keeps_reserves
#print axioms Mel.C16_deposit_keeps_reserves
#print axioms Mel.C16_deposit_amounts_positive
#print axioms Mel.C16_issue_backed
#print axioms Mel.C16_old_overissue
#print axioms Mel.C16_withdraw_guard
#print axioms Mel.C16_subsidy_keeps_reserves

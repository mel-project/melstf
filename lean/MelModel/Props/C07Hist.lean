/-
  C07 over histories — the history tree of every reachable state is the chain of its ancestors' headers, linked by
  hashes; the header of a sealed reachable state continues that chain; the network never changes along a chain.
  (`Props/C07Chain.lean` has the one-step statement `C07_chain`.)
-/
import MelModel.Props.Reach
import MelModel.Props.C09Reach
import MelModel.Props.C13Life
import MelModel.Props.C07Chain
import MelModel.Lemmas.BlockHistL
import MelModel.Lemmas.SealCongL
namespace Mel
open Mel.Gen

theorem exists_list_of_total {α : Type} (f : Nat → Option α) (n : Nat) (hf : ∀ i, i < n → ∃ x, f i = some x) :
    ∃ l : List α, l.length = n ∧ ∀ i, i < n → l[i]? = f i := by
  induction n with
  | zero => exact ⟨[], rfl, fun i hi => absurd hi (Nat.not_lt_zero i)⟩
  | succ n ih =>
    obtain ⟨l, hl, h⟩ := ih fun i hi => hf i (Nat.lt_succ_of_lt hi)
    obtain ⟨y, hy⟩ := hf n (Nat.lt_succ_self n)
    refine ⟨l ++ [y], by rw [List.length_append, hl]; rfl, fun i hi => ?_⟩
    rcases Nat.lt_succ_iff_lt_or_eq.1 hi with hlt | rfl
    · rw [List.getElem?_append_left (hl ▸ hlt)]
      exact h i hlt
    · rw [hy, ← hl, List.getElem?_append_right (Nat.le_refl _), Nat.sub_self]
      rfl

/-- The history of a reachable state is the hash-linked chain of its ancestors' headers: it holds a header at
    exactly the heights below the state's; the header at height `h` has height `h` and the state's network; the
    first header's `previous` is the zero hash; and every header's `previous` is the hash of the header one
    below it -/
theorem C07_history_linked (env : Env) (s : State) (hr : Reachable env s) :
    (∀ h x, s.history.get h = some x → h < s.height ∧ x.height = h ∧ x.network = s.network) ∧
    (∀ h, h < s.height → ∃ x, s.history.get h = some x) ∧
    (∀ x, s.history.get 0 = some x → x.previous = zeroHash) ∧
    (∀ h x y, s.history.get h = some x → s.history.get (h + 1) = some y →
      y.previous = env.hdrHash x ∧ y.height = x.height + 1 ∧ y.network = x.network) := by
  have hc := reachable_histChain hr
  refine ⟨fun h x hx => ⟨hc.below h x hx, hc.heights h x hx, hc.networks h x hx⟩, hc.full, hc.first, ?_⟩
  intro h x y hx hy
  refine ⟨hc.linked h x y hx hy, ?_, ?_⟩
  · rw [hc.heights h x hx, hc.heights _ y hy]
  · rw [hc.networks h x hx, hc.networks _ y hy]

/-- … so from any recorded header one can walk down to the first one: for every height `h` below the state's
    there is the whole chain `x₀, …, x_h` of recorded headers, each linked to its predecessor -/
theorem C07_history_chain (env : Env) (s : State) (hr : Reachable env s) (h : Nat) (hlt : h < s.height) :
    ∃ chain : List Header, chain.length = h + 1 ∧
      (∀ i, i ≤ h → ∃ x, chain[i]? = some x ∧ s.history.get i = some x) ∧
      (∀ i x y, chain[i]? = some x → chain[i + 1]? = some y → y.previous = env.hdrHash x) ∧
      (∀ x, chain[0]? = some x → x.previous = zeroHash) := by
  have hc := reachable_histChain hr
  obtain ⟨chain, hl, hget⟩ := exists_list_of_total s.history.get (h + 1) fun i hi =>
    hc.full i (Nat.lt_of_lt_of_le hi hlt)
  have hlen : ∀ {i x}, chain[i]? = some x → i < h + 1 := fun e => hl ▸ (List.getElem?_eq_some_iff.1 e).1
  refine ⟨chain, hl, fun i hi => ?_, fun i x y hx hy => ?_, fun x hx => hc.first x ?_⟩
  · obtain ⟨x, hx⟩ := hc.full i (Nat.lt_of_le_of_lt hi hlt)
    exact ⟨x, (hget i (Nat.lt_succ_of_le hi)).trans hx, hx⟩
  · have hi := hlen hy
    rw [hget i (Nat.lt_of_succ_lt hi)] at hx
    rw [hget _ hi] at hy
    exact hc.linked i x y hx hy
  · rwa [hget 0 (hlen hx)] at hx

/-- The header of a sealed reachable state continues the chain: it has the state's height and network, and
    (above height 0) its `previous` is the hash of the header recorded one below; at height 0 it is the zero
    hash.  (Reachability is what makes the recorded header exist, `C07_header_exists_reachable`; the equations
    themselves hold of every sealed state.) -/
theorem C07_header_of_reachable (env : Env) (s : State) (a : Option ProposerAction) (ss : Sealed) (hdr : Header)
    (_hr : Reachable env s) (hs : sealState env s a = .ok ss) (hh : headerOf env ss = .ok hdr) :
    hdr.height = s.height ∧ hdr.network = s.network ∧
    (0 < s.height → ∃ p, s.history.get (s.height - 1) = some p ∧ hdr.previous = env.hdrHash p) ∧
    (s.height = 0 → hdr.previous = zeroHash) := by
  obtain ⟨e1, e2, e3⟩ := sealState_hhn _ _ _ _ hs
  obtain ⟨p, hp, hhdr⟩ := headerOf_ok env ss hdr hh
  have h1 : hdr.height = ss.st.height := by rw [hhdr]
  have h2 : hdr.network = ss.st.network := by rw [hhdr]
  have h3 : hdr.previous = p := by rw [hhdr]
  refine ⟨h1.trans e2, h2.trans e3, ?_, ?_⟩
  · intro hpos
    rcases hp with ⟨h0, _⟩ | ⟨_, ph, hph, hpe⟩
    · omega
    · rw [e1, e2] at hph
      exact ⟨ph, hph, h3.trans hpe⟩
  · intro h0
    rcases hp with ⟨_, hz⟩ | ⟨hne, _⟩
    · exact h3.trans hz
    · exact absurd (e2.trans h0) hne

/-- … and that header exists, with its predecessor a recorded header of height `s.height - 1` on the same network:
    the chain of `C07_history_linked` extends by the new header -/
theorem C07_header_exists_reachable (env : Env) (s : State) (a : Option ProposerAction) (ss : Sealed)
    (hr : Reachable env s) (hs : sealState env s a = .ok ss) :
    ∃ hdr, headerOf env ss = .ok hdr ∧ hdr.height = s.height ∧ hdr.network = s.network ∧
      (s.height = 0 → hdr.previous = zeroHash) ∧
      (0 < s.height → ∃ p, s.history.get (s.height - 1) = some p ∧ hdr.previous = env.hdrHash p ∧
        p.height + 1 = hdr.height ∧ p.network = hdr.network) := by
  have hc := reachable_histChain hr
  obtain ⟨e1, e2, e3⟩ := sealState_hhn _ _ _ _ hs
  obtain ⟨hdr, hh⟩ := headerOf_total env ss (by rw [e1, e2]; exact fun h0 => hc.full _ (Nat.sub_one_lt h0))
  obtain ⟨c1, c2, c3, c4⟩ := C07_header_of_reachable env s a ss hdr hr hs hh
  refine ⟨hdr, hh, c1, c2, c4, fun hpos => ?_⟩
  obtain ⟨p, hp, hpe⟩ := c3 hpos
  refine ⟨p, hp, hpe, ?_, ?_⟩
  · rw [hc.heights _ p hp, c1]
    exact Nat.sub_add_cancel hpos
  · rw [hc.networks _ p hp, c2]

/-- the network never changes along a chain -/
theorem C07_network_constant (env : Env) (s s' : State) (h : ChainRun env s s') : s'.network = s.network :=
  h.invariant (P := fun x => x.network = s.network) (fun ih hb => (applyBatch_frame hb).network.trans ih)
    (fun ih h1 h2 => by
      obtain ⟨-, -, -, -, f3⟩ := nextUnsealed_ok _ _ _ h2
      exact (f3.trans (sealState_hhn _ _ _ _ h1).2.2).trans ih) rfl

/-- … so the network of a reachable state, and of every header in its history, is the one of its genesis
    configuration -/
theorem C07_network_of_genesis (env : Env) (s : State) (hr : Reachable env s) :
    ∃ cfg, ChainRun env (genesisState cfg) s ∧ s.network = cfg.network ∧
      ∀ h x, s.history.get h = some x → x.network = cfg.network := by
  obtain ⟨cfg, hrun⟩ := hr.toRun
  have hn : s.network = cfg.network := C07_network_constant env _ _ hrun
  exact ⟨cfg, hrun, hn, fun h x hx => ((C07_history_linked env s hr).1 h x hx).2.2.trans hn⟩

/-- a run only writes the history at heights from that of its first state on: what is recorded below stays -/
theorem history_persistent {env : Env} {s s' : State} (hb : ∀ h x, s.history.get h = some x → h < s.height)
    (hrun : ChainRun env s s') : ∀ h x, s.history.get h = some x → s'.history.get h = some x := by
  refine (hrun.invariant (P := fun u => s.height ≤ u.height ∧ ∀ h x, s.history.get h = some x → u.history.get h = some x)
    ?_ ?_ ⟨Nat.le_refl _, fun _ _ hx => hx⟩).2
  · intro m m' txs fb ih hb'
    have f := applyBatch_frame hb'
    rw [f.history, f.height]; exact ih
  · intro m m' ss a ih h1 h2
    obtain ⟨e1, e2, -⟩ := sealState_hhn _ _ _ _ h1
    obtain ⟨hdr, -, f1, f2, -⟩ := nextUnsealed_ok _ _ _ h2
    refine ⟨by rw [f2, e2]; exact Nat.le_succ_of_le ih.1, fun h x hx => ?_⟩
    have hlt := hb h x hx
    rw [f1, AList.get_set_ne _ _ (by rw [e2]; omega), e1]
    exact ih.2 h x hx

/-- The recorded chain only grows: along any run from a reachable state, every header already recorded stays
    recorded at its height -/
theorem C07_history_persistent (env : Env) (s s' : State) (hr : Reachable env s) (hrun : ChainRun env s s') :
    ∀ h x, s.history.get h = some x → s'.history.get h = some x :=
  history_persistent (reachable_histChain hr).below hrun

/-! Headers commit to the content of the maps.
`RootsInjective` (Props/C07Chain.lean) asks that equal roots mean equal association lists.  The trees of the
implementation are functions of the maps' content, not of an insertion order, so the roots of two coin lists that
are permutations of each other are the same: `RootsInjective.coins` does not hold of such an environment.  The two
halves of "the root is an injective function of the content" are stated separately. -/

/-- collision-freeness: equal roots mean equal content (every lookup gives the same answer) -/
structure RootsCollisionFree (env : Env) : Prop where
  history : ∀ a b : AList Nat Header, env.historyRoot a = env.historyRoot b → ∀ h, a.get h = b.get h
  coins : ∀ a b : CoinMap, env.coinsRoot a = env.coinsRoot b →
    (∀ id, a.getCoin id = b.getCoin id) ∧ (∀ h, a.coinCount h = b.coinCount h)
  txs : ∀ t a b, env.txsRoot t a = env.txsRoot t b → a = b
  pools : ∀ a b : AList PoolKey PoolState, env.poolsRoot a = env.poolsRoot b → ∀ k, a.get k = b.get k
  stakes : ∀ a b : StakeSet, env.stakesRoot a = env.stakesRoot b → ∀ k, a.getStake k = b.getStake k

/-- the roots of coin maps / stake sets are functions of their content: two maps that answer every lookup alike
    have the same root (the order of the association list does not matter) -/
structure RootsExtensional (env : Env) : Prop where
  coins : ∀ a b : CoinMap, (∀ id, a.getCoin id = b.getCoin id) → (∀ h, a.coinCount h = b.coinCount h) →
    env.coinsRoot a = env.coinsRoot b
  stakes : ∀ a b : StakeSet, (∀ k, a.getStake k = b.getStake k) → env.stakesRoot a = env.stakesRoot b

theorem RootsInjective.collisionFree {env : Env} (h : RootsInjective env) : RootsCollisionFree env where
  history := fun a b e k => by rw [h.history a b e]
  coins := fun a b e => by
    obtain ⟨e1, e2⟩ := h.coins a b e
    exact ⟨fun id => by unfold CoinMap.getCoin; rw [e1], fun x => by unfold CoinMap.coinCount; rw [e2]⟩
  txs := h.txs
  pools := fun a b e k => by rw [h.pools a b e]
  stakes := fun a b e k => by rw [h.stakes a b e]

/-- why the content-level notions are needed: no environment satisfies both `RootsInjective` (equal roots ⇒ equal
    lists) and `RootsExtensional` (same content ⇒ equal roots) — two coin lists holding the same two coins in
    opposite orders have the same content -/
theorem rootsInjective_not_extensional (env : Env) (hi : RootsInjective env) (hx : RootsExtensional env) : False := by
  let d : CoinDataHeight := default
  let a : CoinMap := { coins := [(⟨[], 0⟩, d), (⟨[], 1⟩, d)], counts := [] }
  let b : CoinMap := { coins := [(⟨[], 1⟩, d), (⟨[], 0⟩, d)], counts := [] }
  have hroot : env.coinsRoot a = env.coinsRoot b := by
    refine hx.coins a b (fun id => ?_) (fun _ => rfl)
    show AList.get [((⟨[], 0⟩ : CoinID), d), (⟨[], 1⟩, d)] id = AList.get [((⟨[], 1⟩ : CoinID), d), (⟨[], 0⟩, d)] id
    simp only [AList.get]
    by_cases h0 : (⟨[], 0⟩ : CoinID) = id
    · simp [h0]
    · by_cases h1 : (⟨[], 1⟩ : CoinID) = id
      · simp [h1]
      · simp [h0, h1]
  have := (hi.coins a b hroot).1
  exact absurd this (by decide)

/-- `C07_sensitive` with collision-freeness on content: equal headers mean the same coins, counts, pools, stakes
    and history as maps, the same transaction list, fee pool, fee multiplier, DOSC speed, height and network -/
theorem C07_sensitive_ext (env : Env) (hi : RootsCollisionFree env) (s₁ s₂ : Sealed) (h : Header)
    (h₁ : headerOf env s₁ = .ok h) (h₂ : headerOf env s₂ = .ok h) (ht : s₁.st.tip908 = s₂.st.tip908) :
    (∀ id, s₁.st.coins.getCoin id = s₂.st.coins.getCoin id) ∧
    (∀ x, s₁.st.coins.coinCount x = s₂.st.coins.coinCount x) ∧
    (∀ k, s₁.st.pools.get k = s₂.st.pools.get k) ∧
    (∀ k, s₁.st.stakes.getStake k = s₂.st.stakes.getStake k) ∧ s₁.st.txs = s₂.st.txs ∧
    (∀ n, s₁.st.history.get n = s₂.st.history.get n) ∧ s₁.st.feePool = s₂.st.feePool ∧
    s₁.st.feeMultiplier = s₂.st.feeMultiplier ∧ s₁.st.doscSpeed = s₂.st.doscSpeed ∧
    s₁.st.height = s₂.st.height ∧ s₁.st.network = s₂.st.network := by
  obtain ⟨hn, hh, hhist, hcoins, htxs, hfp, hfm, hds, hpools, hstakes⟩ := same_header_fields h₁ h₂
  rw [ht] at htxs
  have hc := hi.coins _ _ hcoins
  exact ⟨hc.1, hc.2, hi.pools _ _ hpools, hi.stakes _ _ hstakes, hi.txs _ _ _ htxs,
    hi.history _ _ hhist, hfp, hfm, hds, hh, hn⟩

/-- the other direction: observationally equivalent sealed states (`BatchEquiv`: the same coins, counts and stakes
    as maps, everything else equal) have the same header when the roots are functions of the content -/
theorem C07_header_respects_equiv (env : Env) (hx : RootsExtensional env) (s₁ s₂ : Sealed)
    (e : BatchEquiv s₁.st s₂.st) : headerOf env s₂ = headerOf env s₁ :=
  SealCongL.headerOf_equiv env s₁ s₂ e (hx.coins _ _ (fun id => (e.coins id).symm) (fun x => (e.counts x).symm))
    (hx.stakes _ _ (fun k => (e.stakes k).symm))

/-- a reachable state with two linked headers in its history exists (the height-2 state of `C09ReachWitness`):
    `C07_history_linked` is not vacuous, nor are the theorems about sealed reachable states -/
theorem C07_history_nonvacuous :
    ∃ (env : Env) (s : State) (x y : Header), Reachable env s ∧ s.height = 2 ∧
      s.history.get 0 = some x ∧ s.history.get 1 = some y ∧
      y.previous = env.hdrHash x ∧ x.previous = zeroHash ∧
      ∃ ss, sealState env s none = .ok ss ∧ ∃ hdr, headerOf env ss = .ok hdr ∧ hdr.height = 2 ∧
        hdr.previous = env.hdrHash y := by
  open C09ReachWitness in
  have hr : Reachable ReachWitness.env s3 := s3_reachable.reachable
  have hh : s3.height = 2 := height3
  obtain ⟨l1, l2, l3, l4⟩ := C07_history_linked _ _ hr
  obtain ⟨x, hx⟩ := l2 0 (by omega)
  obtain ⟨y, hy⟩ := l2 1 (by omega)
  obtain ⟨ss, hs⟩ := seal3_ok
  obtain ⟨hdr, e0, e1, -, -, e4⟩ := C07_header_exists_reachable _ _ _ _ hr hs
  obtain ⟨p, hp, hpe, -⟩ := e4 (by omega)
  rw [hh] at hp
  rw [show (2 : Nat) - 1 = 1 from rfl, hy] at hp
  cases hp
  exact ⟨_, s3, x, y, hr, hh, hx, hy, (l4 0 x y hx hy).1, l3 x hx, ss, hs, hdr, e0, e1.trans hh, hpe⟩

end Mel

#print axioms Mel.C07_history_linked
#print axioms Mel.C07_history_chain
#print axioms Mel.C07_header_of_reachable
#print axioms Mel.C07_header_exists_reachable
#print axioms Mel.C07_network_constant
#print axioms Mel.C07_network_of_genesis
#print axioms Mel.C07_history_persistent
#print axioms Mel.C07_history_nonvacuous
#print axioms Mel.RootsInjective.collisionFree
#print axioms Mel.rootsInjective_not_extensional
#print axioms Mel.C07_sensitive_ext
#print axioms Mel.C07_header_respects_equiv

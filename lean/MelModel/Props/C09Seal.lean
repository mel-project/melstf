/- C09 — totality of sealing. -/
import MelModel.Seal
import MelModel.Lemmas.TotalSeal
import MelModel.Props.C16
namespace Mel
open Mel.Gen

def CountsSoundS (m : CoinMap) : Prop :=
  (m.coins.map (·.1)).Nodup ∧ (m.counts.map (·.1)).Nodup ∧
  (∀ a, m.coinCount a = (m.coins.filter fun e => e.2.coinData.covhash = a).length) ∧ (∀ e ∈ m.counts, e.2 ≠ 0)

/-- what is assumed of a state being sealed -/
structure SealTotalPre (env : Env) (s : State) : Prop where
  /-- once TIP-906 is active the per-covenant counts are sound (C20) -/
  counts : s.tip906 = true → CountsSoundS s.coins
  /-- a coin sitting at an output slot of a transaction of this block is locked by that output's covenant
      (the coin was created from that output by `apply_tx`) -/
  faithfulCov : ∀ tx ∈ s.txs, ∀ i o c, tx.outputs[i]? = some o → s.coins.getCoin ⟨tx.hash, i⟩ = some c →
      c.coinData.covhash = o.covhash
  /-- every pool that has issued liquidity has reserves on both sides (C16).  Nothing more is assumed of the builtin
      pools: one that records no liquidity is created afresh by `create_builtins` (F23), and one whose whole
      liquidity is withdrawn in this block is made again before pegging and the subsidy read its price (F24) -/
  poolsSane : ∀ k p, s.pools.get k = some p → (p.liqs ≠ 0 → 0 < p.lefts ∧ 0 < p.rights)
  /-- supply bound: fee pool and tips, the MEL reserve of the MEL/SYM pool and the MEL paid into pools by
      this block are far below 2^128 -/
  feeBound : s.feePool + s.tips + 2 ^ 21 ≤ 2 ^ 127
  reserveBound : ∀ p, s.pools.get poolMelSym = some p → p.lefts ≤ 2 ^ 125
  melInflowBound : (s.txs.map fun tx =>
      if (tx.outputs.headD default).denom = .mel then (tx.outputs.headD default).value else 0).sum ≤ 2 ^ 124
  /-- typing: the liquidity of a builtin pool is a `u128` (not used by `sealState_ok_pools`) -/
  liqsU128 : ∀ k ∈ [poolMelSym, poolMelErg, poolErgSym], ∀ p, s.pools.get k = some p → p.liqs ≤ U128_MAX
  txHashes : (s.txs.map (·.hash)).Nodup
  /-- the height is below the point where the subsidy shift amount would overflow (TIP-909 + 128 million blocks) -/
  height : s.height < TIP_909_HEIGHT + 128 * SUBSIDY_HALVING

/-- the arithmetic of the pool operations never crashes on a sane pool (the amounts are `u128`s) -/
theorem C09_swap_total (p : PoolState) (l r : Nat) (hl : 0 < p.lefts) (hr : 0 < p.rights)
    (hl' : l ≤ U128_MAX) (hr' : r ≤ U128_MAX) :
    ∀ c, p.swapMany l r ≠ .crash c := by
  obtain ⟨p', lw, rw, h, _⟩ := swapMany_spec p l r hl hr hl' hr'
  exact NoCrash.of_eq_ok h

/-- why `C09_swap_total` bounds the amounts: the statement for arbitrary naturals is false — once `rights + r`
    saturates, the left share can exceed the left reserve. (Unreachable in the implementation: amounts are `u128`.) -/
theorem C09_swap_needs_u128 :
    ({ lefts := 1, rights := 1, priceAccum := 0, liqs := 0 } : PoolState).swapMany 0 (2 ^ 130)
      = .crash "melswap.rs: lefts -= underflow" := by
  rfl

theorem C09_deposit_total (p : PoolState) (l r : Nat) (hs : p.liqs ≠ 0 → 0 < p.lefts ∧ 0 < p.rights) :
    ∀ c, p.deposit l r ≠ .crash c := by
  obtain ⟨p', m, h, _⟩ := deposit_spec p l r hs
  exact NoCrash.of_eq_ok h

theorem C09_withdraw_total (p : PoolState) (q : Nat) (hq : 0 < q) (hle : q ≤ p.liqs) :
    ∀ c, p.withdraw q ≠ .crash c := by
  obtain ⟨p', a, b, h, _⟩ := withdraw_spec p q hq hle
  exact NoCrash.of_eq_ok h

/-- the proposer action never crashes: the multiplier move is total (C17) and the reward fits -/
theorem C09_action_total (env : Env) (s : State) (a : ProposerAction) (hb : s.feePool / 65536 + s.tips ≤ U128_MAX) :
    ∀ c, applyProposerAction env s a ≠ .crash c := by
  obtain ⟨s', h⟩ := applyProposerAction_ok env s a hb
  exact NoCrash.of_eq_ok h

/-- the swap phase never crashes: every selected request has a positive amount and names a pool with reserves -/
theorem C09_swaps_total (s : State) : ∀ c, processSwaps s ≠ .crash c := by
  obtain ⟨s', h⟩ := processSwaps_total s
  exact NoCrash.of_eq_ok h

theorem C09_seal_total (env : Env) (s : State) (a : Option ProposerAction) (hp : SealTotalPre env s) :
    ∀ c, sealState env s a ≠ .crash c := by
  obtain ⟨ss, h⟩ := sealState_ok env s a hp.counts hp.faithfulCov hp.txHashes hp.poolsSane
    hp.reserveBound hp.melInflowBound hp.feeBound hp.height
  exact NoCrash.of_eq_ok h

/-- in fact sealing succeeds (nothing in it rejects) -/
theorem C09_seal_ok (env : Env) (s : State) (a : Option ProposerAction) (hp : SealTotalPre env s) :
    ∃ ss, sealState env s a = .ok ss :=
  sealState_ok env s a hp.counts hp.faithfulCov hp.txHashes hp.poolsSane
    hp.reserveBound hp.melInflowBound hp.feeBound hp.height

theorem mem_builtinsOf_of_builtinKeys {s : State} {k : PoolKey} (h : k ∈ builtinKeys s) :
    k ∈ builtinsOf s.tip902 :=
  mem_builtinsOf_iff.mpr (mem_builtinKeys_iff.mp h)

/-- The sealed state prices every builtin pool: after the seal each builtin pool that is due (MEL/SYM, MEL/ERG,
    and ERG/SYM once TIP-902 is active) exists with liquidity and reserves on both sides — also one whose whole
    liquidity was redeemed in this very block (finding F24: it is made afresh before pegging) — and every pool that
    records liquidity has reserves, so the next seal starts from `poolsSane` again -/
theorem C09_seal_ok_priced (env : Env) (s : State) (a : Option ProposerAction) (hp : SealTotalPre env s) :
    ∃ ss, sealState env s a = .ok ss ∧
      (∀ k ∈ builtinKeys s, ∃ p, ss.st.pools.get k = some p ∧ p.liqs ≠ 0 ∧ 0 < p.lefts ∧ 0 < p.rights) ∧
      (∀ k p, ss.st.pools.get k = some p → p.liqs ≠ 0 → 0 < p.lefts ∧ 0 < p.rights) := by
  obtain ⟨ss, h, hpo⟩ := sealState_ok_pools env s a hp.counts hp.faithfulCov hp.txHashes hp.poolsSane
    hp.reserveBound hp.melInflowBound hp.feeBound hp.height
  refine ⟨ss, h, ?_, hpo.sane⟩
  intro k hk
  obtain ⟨p, hg, h1, h2, h3⟩ := hpo.builtins k (mem_builtinsOf_of_builtinKeys hk)
  exact ⟨p, hg, by omega, h1, h2⟩

/-- non-vacuity: the empty state of a fresh chain satisfies the assumptions -/
example (env : Env) : SealTotalPre env (default : State) := by
  refine ⟨?_, ?_, ?_, ?_, ?_, ?_, ?_, ?_, ?_⟩
  · intro h; exact absurd h (by decide)
  · intro tx htx; cases htx
  · intro k p h; cases h
  · decide
  · intro p h; cases h
  · decide
  · intro k _ p h; cases h
  · exact List.nodup_nil
  · decide

/-- the state of finding F23 (`emptiedErgSymState`, Props/C16.lean: TIP-902 just activated, the ERG/SYM pool
    emptied by its only depositor) satisfies the assumptions; before the fix pegging crashed on it
    (`C16_old_emptied_ergsym_crashes`) -/
theorem C09_emptied_ergsym_pre (env : Env) : SealTotalPre env emptiedErgSymState := by
  have hold : ∀ k p, emptiedErgSymState.pools.get k = some p →
      p = builtinDefault ∨ p = { lefts := 0, rights := 0, priceAccum := 7, liqs := 0 } := by
    intro k p h
    simp only [emptiedErgSymState, AList.get] at h
    split at h
    · cases h; exact Or.inl rfl
    split at h
    · cases h; exact Or.inl rfl
    split at h
    · cases h; exact Or.inr rfl
    · cases h
  refine ⟨?_, ?_, ?_, ?_, ?_, ?_, ?_, ?_, ?_⟩
  · intro h; exact absurd h (by decide)
  · intro tx htx; cases htx
  · intro k p h hl
    rcases hold k p h with rfl | rfl
    · decide
    · exact absurd rfl hl
  · decide
  · intro p h
    rcases hold _ p h with rfl | rfl <;> decide
  · decide
  · intro k _ p h
    rcases hold k p h with rfl | rfl <;> decide
  · exact List.nodup_nil
  · decide

theorem C09_emptied_ergsym_seals (env : Env) (a : Option ProposerAction) :
    ∃ ss, sealState env emptiedErgSymState a = .ok ss :=
  C09_seal_ok env _ a (C09_emptied_ergsym_pre env)

/-- non-vacuity where sealing crashed before the fix for F24: the state `drainedErgSymState` (Props/C16.lean —
    TIP-902 active, a user-opened ERG/SYM pool whose whole liquidity is redeemed by a withdrawal of the block)
    satisfies the assumptions (5000 withdrawn = 5000 recorded: `C09_drained_ergsym_not_undrained`); the old pipeline
    crashed on it (`C16_old_drained_ergsym_crashes`). -/
theorem C09_drained_ergsym_pre (env : Env) : SealTotalPre env (drainedErgSymState env) := by
  refine ⟨fun _ => drained_counts env, drained_faithful env, drained_sane env, drained_fee env, drained_reserve env,
    drained_inflow env, ?_, drained_hashes env, drained_height env⟩
  intro k _ p h
  rcases drained_pools env k p h with rfl | rfl <;> decide

/-- "the liquidity withdrawn in a block stays below what the builtin pool records" fails at that state: the block
    withdraws the ERG/SYM pool's whole liquidity -/
theorem C09_drained_ergsym_not_undrained (env : Env) :
    ¬ ∀ k ∈ [poolMelSym, poolMelErg, poolErgSym], ∀ p,
      (createBuiltins (drainedErgSymState env)).pools.get k = some p →
      (((drainedErgSymState env).txs.filter fun tx => tx.kind = .liqWithdraw ∧ canonicalPoolKey tx.data = some k).map
        fun tx => (tx.outputs.headD default).value).sum < p.liqs := by
  intro h
  have h1 := h poolErgSym (by simp) { lefts := 5000, rights := 7000, priceAccum := 0, liqs := 5000 } rfl
  have hf : ((drainedErgSymState env).txs.filter fun tx =>
      tx.kind = .liqWithdraw ∧ canonicalPoolKey tx.data = some poolErgSym) = [drainTx env] := by
    show [drainTx env].filter _ = _
    have hd : decide ((drainTx env).kind = .liqWithdraw ∧ canonicalPoolKey (drainTx env).data = some poolErgSym)
        = true := decide_eq_true ⟨rfl, drained_canon⟩
    simp only [List.filter, hd]
  rw [hf] at h1
  exact absurd h1 (by show ¬ ((5000 : Nat) + 0 < 5000); omega)

/-- sealing that state does not crash, whatever the environment and the proposer action, and leaves every builtin
    pool priced -/
theorem C09_drained_ergsym_seals (env : Env) (a : Option ProposerAction) :
    ∃ ss, sealState env (drainedErgSymState env) a = .ok ss ∧
      (∀ k ∈ builtinKeys (drainedErgSymState env),
        ∃ p, ss.st.pools.get k = some p ∧ p.liqs ≠ 0 ∧ 0 < p.lefts ∧ 0 < p.rights) :=
  let ⟨ss, h, hb, _⟩ := C09_seal_ok_priced env _ a (C09_drained_ergsym_pre env)
  ⟨ss, h, hb⟩

end Mel

#print axioms Mel.C09_swap_total
#print axioms Mel.C09_swap_needs_u128
#print axioms Mel.C09_deposit_total
#print axioms Mel.C09_withdraw_total
#print axioms Mel.C09_action_total
#print axioms Mel.C09_swaps_total
#print axioms Mel.C09_seal_total
#print axioms Mel.C09_seal_ok
#print axioms Mel.C09_seal_ok_priced
#print axioms Mel.C09_drained_ergsym_pre
#print axioms Mel.C09_drained_ergsym_not_undrained
#print axioms Mel.C09_drained_ergsym_seals
#print axioms Mel.C09_emptied_ergsym_pre
#print axioms Mel.C09_emptied_ergsym_seals

/-
  C03, second half — applying a set of transactions as one batch yields the same state as applying them one at a
  time in any dependency-respecting order.

  The header covenants see (finding F25).  `applyBatch` shows covenants `history[height-1]` as "last header".  In a
  state without that entry (the first block of a chain) the stand-in is `genesisStandIn s`, made only of `s.network`,
  `s.height`, `s.feeMultiplier`, `s.doscSpeed`; the parameter `genesisFallback` is not looked at
  (`C03_fallback_unused`).  Before the fix for F25 the Rust code passed the header of the current state sealed as it
  stood, which is a different one at every step of a one-at-a-time application, so a covenant inspecting its Merkle
  roots or fee pool could tell the two apart: `C03SeqWitness.lastHeaderOfOld` / `C03_old_fallback_matters`.

  The theorems need no hypothesis that a previous header exists, nor any reachable-state invariant on the history.
  An accepted batch keeps network, height, fee multiplier and history; it changes `doscSpeed` only by accepting a
  DoscMint transaction, and `validateDoscmint` accepts only when `history[height-1]` exists (it reads the previous
  header's speed; at height 0 it crashes, else it rejects with `InvalidMelPoW`): `SeqL.doscmint_ok_prev`.  So in a
  state without previous header no accepted step changes the stand-in (`SeqL.batch_speed_first`), and in a state with
  previous header the stand-in is not used: the header covenants see is the same after every accepted step
  (`SeqL.batch_lastHeader`, `C03_lastHeader_stable`).  The first block is covered:
  `C03_seq_nonvacuous_first_block`.
-/
import MelModel.ApplyTx
import MelModel.Props.C03
import MelModel.Lemmas.SeqL
namespace Mel
open Mel.Gen

/-- one at a time: each transaction is a batch of its own (`apply_tx`), applied to the result of the previous -/
def applySeq (env : Env) (s : State) (txs : List Tx) (fb : Header) : Outcome State :=
  Outcome.foldlM' (fun st tx => applyBatch env st [tx] fb) s txs

theorem applySeq_eq (env : Env) (s : State) (txs : List Tx) (fb : Header) :
    applySeq env s txs fb = SeqL.seqApply env s txs fb := rfl

/-- the pseudo-coin of a grandfathered faucet transaction is not among the coins the batch creates.
    (For the other faucet transactions this follows from `PermPre.markers`.) -/
def GfFresh (env : Env) (s : State) (txs : List Tx) : Prop :=
  ∀ t ∈ txs, t.kind = .faucet → env.isGrandfathered t.hash = true →
    ∀ u ∈ txs, ∀ e ∈ outputCoinsFromTx u s.height, e.1 ≠ (⟨env.fdp t.hash, 0⟩ : CoinID)

theorem GfFresh.toGfOk {env : Env} {s : State} {txs : List Tx} (h : GfFresh env s txs) :
    SeqL.GfOk env s txs := by
  intro f hf hk hb
  cases hc : (createdOf s.height txs).get (BatchL.markerOf env f) with
  | none => rfl
  | some c =>
    obtain ⟨u, hu, hm⟩ := createdOf_get_some hc
    exact absurd rfl (h f hf hk hb u hu _ hm)

theorem GfFresh.of_no_faucet {env : Env} {s : State} {txs : List Tx} (hk : ∀ t ∈ txs, t.kind ≠ .faucet) :
    GfFresh env s txs :=
  fun t ht hf => absurd hf (hk t ht)

/-- the fallback parameter is not looked at (F25) -/
theorem C03_fallback_unused (s : State) (fb fb' : Header) : lastHeaderOf s fb = lastHeaderOf s fb' := rfl

theorem C03_applyBatch_fallback_unused (env : Env) (s : State) (txs : List Tx) (fb fb' : Header) :
    applyBatch env s txs fb = applyBatch env s txs fb' := rfl

/-- The header covenants see is fixed for the block: after any accepted batch (in particular after each step of a
    one-at-a-time application) `lastHeaderOf` is what it was before — in the first block too, where it is the
    stand-in. -/
theorem C03_lastHeader_stable (env : Env) (s s' : State) (txs : List Tx) (fb fb₁ fb₂ : Header)
    (h : applyBatch env s txs fb = .ok s') : lastHeaderOf s' fb₁ = lastHeaderOf s fb₂ :=
  SeqL.batch_lastHeader h fb₁ fb₂

/-- A batch can be split at its head: if the first transaction does not depend on the others, applying the batch
    is applying the first transaction and then the rest. -/
theorem C03_batch_split (env : Env) (s s₁ : State) (t : Tx) (rest : List Tx) (fb fb' : Header)
    (hpre : PermPre env s (t :: rest))
    (hdep : ∀ u ∈ rest, ∀ id ∈ t.inputs, id.txhash ≠ u.hash)
    (h : applyBatch env s (t :: rest) fb = .ok s₁) :
    ∃ sm s₂, applyBatch env s [t] fb' = .ok sm ∧ applyBatch env sm rest fb' = .ok s₂ ∧ BatchEquiv s₁ s₂ := by
  obtain ⟨sm, s₂, h1, h2, e, -⟩ := SeqL.split_main (SeqL.SPre.ofPre hpre.toPre) hdep h fb'
  exact ⟨sm, s₂, h1, h2, batchEquiv_of e⟩

/-- Batch ⇒ sequential: an accepted batch, applied one transaction at a time in a dependency-respecting order, is
    accepted at every step and ends in the same observable state. -/
theorem C03_seq_of_batch (env : Env) (s s₁ : State) (txs : List Tx) (fb fb' : Header)
    (hpre : PermPre env s txs) (hdep : DepOrder txs)
    (h : applyBatch env s txs fb = .ok s₁) :
    ∃ s₂, applySeq env s txs fb' = .ok s₂ ∧ BatchEquiv s₁ s₂ := by
  obtain ⟨s₂, h2, e⟩ := SeqL.seq_of_batch env fb' txs s s₁ fb (SeqL.SPre.ofPre hpre.toPre)
    hdep h
  exact ⟨s₂, h2, batchEquiv_of e⟩

/-- Sequential ⇒ batch: if the one-at-a-time application succeeds, the batch is accepted with the same state.

    Why `hgf`: `handle_faucet_tx` looks up the de-duplication pseudo-coin of every faucet transaction but inserts it
    only for the non-grandfathered ones, and `PermPre` keeps a transaction hash apart from the pseudo-coin hash only
    for the non-grandfathered ones.  If a later transaction `u` of the list creates the coin that is the pseudo-coin
    of a grandfathered faucet transaction `t`, then `t`-then-`u` is accepted one at a time (the coin does not exist
    yet when `t` is checked), but the batch — which inserts all outputs first — rejects `t` with `DuplicateTx`
    (`C03_batch_of_seq_counterexample`).  An accepted batch satisfies `hgf`, so the conclusion implies it. -/
theorem C03_batch_of_seq (env : Env) (s s₂ : State) (txs : List Tx) (fb fb' : Header)
    (hpre : PermPre env s txs) (hdep : DepOrder txs)
    (hgf : GfFresh env s txs)
    (h : applySeq env s txs fb' = .ok s₂) :
    ∃ s₁, applyBatch env s txs fb = .ok s₁ ∧ BatchEquiv s₁ s₂ := by
  obtain ⟨s₁, h1, e⟩ := SeqL.batch_of_seq env fb' txs s s₂ fb (SeqL.SPre.ofPre hpre.toPre)
    hdep hgf.toGfOk h
  exact ⟨s₁, h1, batchEquiv_of e⟩

/-- Together with `C03_perm`: every dependency-respecting order of the same set gives the same state.  Without `hgf`
    the order that puts the creator of the pseudo-coin before the grandfathered faucet transaction is rejected
    (`C03_seq_orders_counterexample`). -/
theorem C03_seq_orders (env : Env) (s s₂ : State) (txs txs' : List Tx) (fb : Header) (hp : txs.Perm txs')
    (hpre : PermPre env s txs) (hdep : DepOrder txs) (hdep' : DepOrder txs')
    (hgf : GfFresh env s txs)
    (h : applySeq env s txs fb = .ok s₂) :
    ∃ s₂', applySeq env s txs' fb = .ok s₂' ∧ BatchEquiv s₂ s₂' := by
  obtain ⟨s₁, h1, e1⟩ := C03_batch_of_seq env s s₂ txs fb fb hpre hdep hgf h
  obtain ⟨s₁', h1', e2⟩ := C03_perm env s s₁ txs txs' fb hp hpre h1
  obtain ⟨s₂', h2', e3⟩ := C03_seq_of_batch env s s₁' txs' fb fb (hpre.perm hp) hdep' h1'
  exact ⟨s₂', h2', batchEquiv_of (SeqL.equiv_trans (SeqL.equiv_symm (equiv_of_batchEquiv e1))
    (SeqL.equiv_trans (equiv_of_batchEquiv e2) (equiv_of_batchEquiv e3)))⟩

namespace C03SeqWitness
open C03Witness (env cov)

def hdr : Header := {
  network := .custom02, previous := [], height := 9, historyHash := [], coinsHash := [], transactionsHash := [],
  feePool := 0, feeMultiplier := 0, doscSpeed := 0, poolsHash := [], stakesHash := [] }

/-- an unspent coin -/
def P : CoinID := ⟨[5], 0⟩
def s : State := {
  network := .custom02, height := 10, history := [(9, hdr)],
  coins := { coins := [(P, ⟨⟨[7], 5, .mel, []⟩, 3⟩)], counts := [([7], 1)] },
  txs := [], feePool := 0, feeMultiplier := 0, tips := 0, doscSpeed := 0, pools := [], stakes := [] }
/-- spends `P` -/
def a : Tx := {
  kind := .normal, inputs := [P], outputs := [(⟨[7], 5, .mel, []⟩ : CoinData)], fee := 0,
  covenants := [cov], data := [], sigs := [], hash := [1], rawLen := 0, covHashes := [[7]] }
/-- spends the output of `a` -/
def b : Tx := {
  kind := .normal, inputs := [⟨[1], 0⟩], outputs := [(⟨[8], 5, .mel, []⟩ : CoinData)], fee := 0,
  covenants := [cov], data := [], sigs := [], hash := [2], rawLen := 0, covHashes := [[7]] }

theorem counts_s : CountsFine s.coins := countsFine_single _ _

/-- a grandfathered faucet transaction (every faucet transaction is, in `C03Witness.env`); its pseudo-coin
    is `⟨[9, 2], 0⟩` -/
def t : Tx := {
  kind := .faucet, inputs := [], outputs := [], fee := 0,
  covenants := [], data := [], sigs := [], hash := [2], rawLen := 0, covHashes := [] }
/-- another faucet transaction, whose first output is the pseudo-coin of `t` -/
def u : Tx := {
  kind := .faucet, inputs := [], outputs := [(⟨[8], 5, .mel, []⟩ : CoinData)], fee := 0,
  covenants := [], data := [], sigs := [], hash := [9, 2], rawLen := 0, covHashes := [] }

theorem permPre_tu : PermPre env s [t, u] := by
  refine ⟨by decide, ?_, ?_, ?_, counts_s, trivial, by decide, by decide⟩
  · intro x _ _ hb
    cases hb
  · intro x hx _ _ w hw
    simp only [List.mem_cons, List.not_mem_nil, or_false] at hx hw
    rcases hx with rfl | rfl <;> rcases hw with rfl | rfl <;> decide
  · exact fresh_single (by decide)

/-! a first block: height 0, empty history -/

/-- a covenant that reads the header it is shown: `last_header.height == 0` -/
def covH : Bytes :=
  (VM.encodeAll [VM.Op.pushi 2, VM.Op.loadimm 10, VM.Op.vref, VM.Op.pushi 0, VM.Op.eql]).getD []

def P0 : CoinID := ⟨[5], 0⟩
/-- a state without previous header -/
def s0 : State := {
  network := .custom02, height := 0, history := [],
  coins := { coins := [(P0, ⟨⟨[7], 5, .mel, []⟩, 0⟩)], counts := [([7], 1)] },
  txs := [], feePool := 0, feeMultiplier := 0, tips := 0, doscSpeed := 0, pools := [], stakes := [] }
/-- spends `P0`, under a covenant that inspects the last header -/
def a0 : Tx := {
  kind := .normal, inputs := [P0], outputs := [(⟨[7], 5, .mel, []⟩ : CoinData)], fee := 0,
  covenants := [covH], data := [], sigs := [], hash := [1], rawLen := 0, covHashes := [[7]] }
/-- spends the output of `a0`, under the same covenant -/
def b0 : Tx := {
  kind := .normal, inputs := [⟨[1], 0⟩], outputs := [(⟨[8], 5, .mel, []⟩ : CoinData)], fee := 0,
  covenants := [covH], data := [], sigs := [], hash := [2], rawLen := 0, covHashes := [[7]] }

theorem counts_s0 : CountsFine s0.coins := countsFine_single _ _

/-- F25, the old behaviour: without previous header the environment of covenants was the second argument — the header
    of the current block sealed as it stood, which changes as the block fills -/
def lastHeaderOfOld (s : State) (fb : Header) : Header := (s.history.get (s.height - 1)).getD fb

end C03SeqWitness
open C03SeqWitness in
/-- `C03_batch_of_seq` without `hgf` is false: all the other hypotheses hold, the one-at-a-time application
    is accepted, the batch is rejected. -/
theorem C03_batch_of_seq_counterexample :
    PermPre C03Witness.env s [t, u] ∧ DepOrder [t, u] ∧
    (applySeq C03Witness.env s [t, u] default).isOk = true ∧
    applyBatch C03Witness.env s [t, u] default = .reject .duplicateTx := by
  refine ⟨permPre_tu, by simp [DepOrder, t, u], by decide +kernel,
    Outcome.eq_reject (by decide +kernel)⟩

open C03SeqWitness in
/-- `C03_seq_orders` without `hgf` is false: both orders are dependency-respecting, one is accepted, the other
    rejected -/
theorem C03_seq_orders_counterexample :
    [t, u].Perm [u, t] ∧ PermPre C03Witness.env s [t, u] ∧ DepOrder [t, u] ∧ DepOrder [u, t] ∧
    (applySeq C03Witness.env s [t, u] default).isOk = true ∧
    applySeq C03Witness.env s [u, t] default = .reject .duplicateTx := by
  refine ⟨List.Perm.swap _ _ _, permPre_tu, by simp [DepOrder, t, u], by simp [DepOrder, t, u],
    by decide +kernel, Outcome.eq_reject (by decide +kernel)⟩

open C03SeqWitness in
/-- non-vacuity: a two-transaction chain (the second spends the first's output) satisfies the hypotheses and is
    accepted both ways.  This state has its previous header (the conjunct saying so describes the witness; it is
    not a hypothesis of the theorems).  For the first block see `C03_seq_nonvacuous_first_block`. -/
theorem C03_seq_nonvacuous :
    ∃ (env : Env) (s : State) (a b : Tx) (fb : Header),
      PermPre env s [a, b] ∧ DepOrder [a, b] ∧ (∃ id ∈ b.inputs, id.txhash = a.hash) ∧
      (∃ hdr, s.history.get (s.height - 1) = some hdr) ∧
      (applyBatch env s [a, b] fb).isOk = true ∧ (applySeq env s [a, b] fb).isOk = true := by
  have hpre : PermPre C03Witness.env s [a, b] :=
    .of_no_faucet (by decide) (by decide) (fresh_single (by decide)) counts_s trivial (by decide) (by decide)
  have hdep : DepOrder [a, b] := by simp [DepOrder, a, b, P]
  -- the batch is evaluated; that the sequential application succeeds as well is `C03_seq_of_batch`
  have hb : (applyBatch C03Witness.env s [a, b] default).isOk = true := by decide +kernel
  obtain ⟨s₁, h1⟩ := Outcome.exists_ok_of_isOk hb
  obtain ⟨s₂, h2, -⟩ := C03_seq_of_batch _ _ _ _ default default hpre hdep h1
  exact ⟨C03Witness.env, s, a, b, default, hpre, hdep, ⟨⟨[1], 0⟩, by simp [b], rfl⟩, ⟨hdr, by decide⟩, hb,
    by rw [h2]; rfl⟩

open C03SeqWitness in
/-- non-vacuity in the first block: a state of height 0 with empty
    history — no previous header, covenants are shown the stand-in — and a two-transaction chain whose covenants
    read that header (`last_header.height == 0`); all hypotheses hold and the chain is accepted both ways.  The
    covenants really look at the stand-in: the same batch is rejected when the stand-in carries height 1. -/
theorem C03_seq_nonvacuous_first_block :
    ∃ (env : Env) (s : State) (a b : Tx) (fb : Header),
      s.height = 0 ∧ s.history = [] ∧ ¬ (∃ hdr, s.history.get (s.height - 1) = some hdr) ∧
      lastHeaderOf s fb = genesisStandIn s ∧
      PermPre env s [a, b] ∧ DepOrder [a, b] ∧ (∃ id ∈ b.inputs, id.txhash = a.hash) ∧ GfFresh env s [a, b] ∧
      (applyBatch env s [a, b] fb).isOk = true ∧ (applySeq env s [a, b] fb).isOk = true ∧
      (applyBatch env { s with height := 1 } [a, b] fb).isOk = false := by
  have hpre : PermPre C03Witness.env s0 [a0, b0] :=
    .of_no_faucet (by decide) (by decide) (fresh_single (by decide)) counts_s0 trivial (by decide) (by decide)
  have hdep : DepOrder [a0, b0] := by simp [DepOrder, a0, b0, P0]
  -- the two batches are evaluated; that the sequential application succeeds as well is `C03_seq_of_batch`
  have hb : (applyBatch C03Witness.env s0 [a0, b0] default).isOk = true := by decide +kernel
  obtain ⟨s₁, h1⟩ := Outcome.exists_ok_of_isOk hb
  obtain ⟨s₂, h2, -⟩ := C03_seq_of_batch _ _ _ _ default default hpre hdep h1
  exact ⟨C03Witness.env, s0, a0, b0, default, rfl, rfl, by simp [s0, AList.get], rfl, hpre, hdep,
    ⟨⟨[1], 0⟩, by simp [b0], rfl⟩, .of_no_faucet (by decide), hb, by rw [h2]; rfl, by decide +kernel⟩

open C03SeqWitness in
/-- F25: the old environment depended on the fallback header (height 0, empty history) — and that
    header, the current block sealed as it stood, changes with every transaction applied -/
theorem C03_old_fallback_matters : ∃ s fb fb', lastHeaderOfOld s fb ≠ lastHeaderOfOld s fb' := by
  refine ⟨s0, default, { (default : Header) with feePool := 1 }, ?_⟩
  decide

/-- where the previous header exists, old and new agree: F25 concerned the first block only -/
theorem C03_old_agrees_later_blocks (s : State) (fb : Header)
    (hh : ∃ hdr, s.history.get (s.height - 1) = some hdr) :
    C03SeqWitness.lastHeaderOfOld s fb = lastHeaderOf s fb := by
  obtain ⟨hdr, hh⟩ := hh
  simp only [C03SeqWitness.lastHeaderOfOld, lastHeaderOf, hh, Option.getD_some]

/-- in the first block the environment is the stand-in, whatever is passed -/
theorem C03_first_block_standIn (s : State) (fb : Header) (hn : s.history.get (s.height - 1) = none) :
    lastHeaderOf s fb = genesisStandIn s := by
  simp only [lastHeaderOf, hn, Option.getD_none]

/-- `GfFresh` is satisfiable together with all the others (same chain as above: there is no faucet
    transaction in it) and in the presence of a grandfathered faucet transaction -/
theorem C03_seq_hgf_nonvacuous :
    GfFresh C03Witness.env C03SeqWitness.s [C03SeqWitness.a, C03SeqWitness.b] ∧
    GfFresh C03Witness.env C03SeqWitness.s [C03SeqWitness.t] := by
  constructor
  · exact .of_no_faucet (by decide)
  · intro x hx _ _ w hw e he
    simp only [List.mem_cons, List.not_mem_nil, or_false] at hx hw
    subst hx; subst hw
    simp [outputCoinsFromTx, C03SeqWitness.t] at he

end Mel

#print axioms Mel.C03_fallback_unused
#print axioms Mel.C03_applyBatch_fallback_unused
#print axioms Mel.C03_lastHeader_stable
#print axioms Mel.C03_batch_split
#print axioms Mel.C03_seq_of_batch
#print axioms Mel.C03_batch_of_seq
#print axioms Mel.C03_seq_orders
#print axioms Mel.C03_seq_nonvacuous
#print axioms Mel.C03_seq_nonvacuous_first_block
#print axioms Mel.C03_old_fallback_matters
#print axioms Mel.C03_old_agrees_later_blocks
#print axioms Mel.C03_first_block_standIn
#print axioms Mel.C03_batch_of_seq_counterexample
#print axioms Mel.C03_seq_orders_counterexample
#print axioms Mel.C03_seq_hgf_nonvacuous

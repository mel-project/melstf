/-
  Reachable states: the structural invariants that the per-property theorems take as hypotheses hold of every
  state reachable from a genesis state by applying batches and sealing blocks.  This is the state-level lift
  of C20 (the per-covenant counts are right in *every* reachable state), and it discharges the structural
  hypotheses of C02/C03/C09.

  What remains a hypothesis of the steps, and why:
  * `BatchFresh`: distinct transactions have distinct hashes and the coins a batch creates do not exist yet —
    collision-freeness of the transaction hash (blake3), not a property of the state machine;
  * `RewardFresh`: the proposer-reward pseudo-coin of a height does not exist before that block is sealed —
    domain separation of `CoinID::proposer_reward` from transaction hashes;
  * `MarkerFresh` (not part of `Reachable`, but of the refined `ReachableSep`): the de-duplication pseudo-coin id
    of a faucet transaction is not the hash of a transaction of the block — domain separation of
    `faucet_dedup_pseudocoin` from transaction hashes.
    Without it `reachable_inv` is false (`reachable_inv_counterexample`): the statements about reachable
    states below therefore take `ReachableSep env s` as an additional hypothesis.
  The invariant `Inv` alone is not inductive: sealing needs the slot discipline `Slots` of the current block
  (`reach_seal_inv_counterexample`), which batches keep under `MarkerFresh` (`reach_batch_slots`).
-/
import MelModel.Genesis
import MelModel.Chain
import MelModel.Props.C03
import MelModel.Props.C09
import MelModel.Props.C20
import MelModel.Props.C13Life
import MelModel.Lemmas.ReachL
import MelModel.Lemmas.Restart
import MelModel.Lemmas.BlockHistL
namespace Mel
open Mel.Gen

/-- the structural invariant of unsealed states -/
structure Inv (s : State) : Prop where
  /-- coin ids are unique keys -/
  coinKeys : (s.coins.coins.map (·.1)).Nodup
  /-- C20: once TIP-906 is active the per-covenant counts are exactly the numbers of unspent coins … -/
  counts : s.tip906 = true → CountsOk s.coins
  /-- … and before that no count entry exists at all -/
  noCounts : s.tip906 = false → s.coins.counts = []
  /-- no coin is from the future -/
  heights : ∀ id c, s.coins.getCoin id = some c → c.height ≤ s.height
  /-- the history holds exactly the headers of the earlier blocks -/
  historyBelow : ∀ h hdr, s.history.get h = some hdr → h < s.height
  historyFull : ∀ h, h < s.height → ∃ hdr, s.history.get h = some hdr
  historyHeights : ∀ h hdr, s.history.get h = some hdr → hdr.height = h
  /-- DOSC speeds are positive -/
  speedPos : 0 < s.doscSpeed
  speeds : ∀ h hdr, s.history.get h = some hdr → 0 < hdr.doscSpeed
  /-- the block's transactions are kept sorted by hash (hence with distinct hashes) -/
  sorted : SortedTxs s.txs
  /-- pool keys are unique -/
  poolKeys : (s.pools.map (·.1)).Nodup

/-- what a batch step assumes of the transaction hash -/
structure BatchFresh (s : State) (txs : List Tx) : Prop where
  hashes : (txs.map (·.hash)).Nodup
  fresh : ∀ t ∈ txs, ∀ i, s.coins.getCoin ⟨t.hash, i⟩ = none

/-- what a seal step assumes of the reward pseudo-coin id -/
def RewardFresh (env : Env) (s : State) : Prop :=
  s.coins.getCoin { txhash := env.rewardId s.height, index := 0 } = none

/-- states reachable from a genesis configuration: apply any accepted batch; seal (with or without a proposer
    action) and open the next block -/
inductive Reachable (env : Env) : State → Prop
  | genesis (cfg : GenesisConfig) : Reachable env (genesisState cfg)
  | batch {s s' : State} {txs : List Tx} {fb : Header} :
      Reachable env s → BatchFresh s txs → applyBatch env s txs fb = .ok s' → Reachable env s'
  | block {s s' : State} {ss : Sealed} {a : Option ProposerAction} :
      Reachable env s → RewardFresh env s → sealState env s a = .ok ss → nextUnsealed env ss = .ok s' →
      Reachable env s'

/-- the slot discipline of the current block: a coin sitting at an output slot of a transaction of the block is
    locked by the covenant of that output (slot 1 of a single-output transaction counts as slot 0 — a
    liquidity withdrawal puts its second coin there).  Settlement (`sealState`) rewrites such coins in place
    without touching the counts, so the count invariant survives sealing only if this holds. -/
abbrev Slots (s : State) : Prop := ReachL.Slots s.txs s.coins

theorem slots_iff (s : State) : Slots s ↔
    ∀ tx ∈ s.txs, ∀ i c, s.coins.getCoin ⟨tx.hash, i⟩ = some c →
      ∃ o, (tx.outputs[i]? = some o ∨ (i = 1 ∧ tx.outputs = [o])) ∧ c.coinData.covhash = o.covhash := Iff.rfl

/-- what a batch step has to assume of the faucet de-duplication pseudo-coin id, in addition to `BatchFresh`:
    the marker `faucet_dedup_pseudocoin(txhash)` of a (non-grandfathered) faucet transaction of the batch is not
    the hash of a transaction of the block — domain separation of `faucet_dedup_pseudocoin` from transaction
    hashes.  Without it the marker (covenant hash 0) can land on output slot 0 of a swap transaction whose
    coin has been spent; settlement then rewrites the marker into a coin locked by the swap's covenant and
    the counts are off (`reachable_inv_counterexample`). -/
def MarkerFresh (env : Env) (s : State) (txs : List Tx) : Prop :=
  ∀ f ∈ txs, f.kind = .faucet → env.isGrandfathered f.hash = false →
    ∀ u, u ∈ txs ∨ u ∈ s.txs → env.fdp f.hash ≠ u.hash

/-- `Reachable` with the additional step assumption `MarkerFresh` -/
inductive ReachableSep (env : Env) : State → Prop
  | genesis (cfg : GenesisConfig) : ReachableSep env (genesisState cfg)
  | batch {s s' : State} {txs : List Tx} {fb : Header} :
      ReachableSep env s → BatchFresh s txs → MarkerFresh env s txs → applyBatch env s txs fb = .ok s' →
      ReachableSep env s'
  | block {s s' : State} {ss : Sealed} {a : Option ProposerAction} :
      ReachableSep env s → RewardFresh env s → sealState env s a = .ok ss → nextUnsealed env ss = .ok s' →
      ReachableSep env s'

theorem ReachableSep.reachable {env : Env} {s : State} (h : ReachableSep env s) : Reachable env s := by
  induction h with
  | genesis cfg => exact .genesis cfg
  | batch _ hf _ hb ih => exact .batch ih hf hb
  | block _ hr hs hn ih => exact .block ih hr hs hn

theorem Reachable.toRun {env : Env} {s : State} (h : Reachable env s) :
    ∃ cfg, ChainRun env (genesisState cfg) s := by
  induction h with
  | genesis cfg => exact ⟨cfg, .refl _⟩
  | batch _ _ hb ih => obtain ⟨cfg, hr⟩ := ih; exact ⟨cfg, .step hr (.batch hb)⟩
  | block _ _ hs hn ih => obtain ⟨cfg, hr⟩ := ih; exact ⟨cfg, .step hr (.block hs hn)⟩

theorem Reachable.invariant {env : Env} {P : State → Prop} (genesis : ∀ cfg, P (genesisState cfg))
    (batch : ∀ {s s' : State} {txs : List Tx} {fb : Header}, P s → applyBatch env s txs fb = .ok s' → P s')
    (block : ∀ {s s' : State} {ss : Sealed} {a : Option ProposerAction},
      P s → sealState env s a = .ok ss → nextUnsealed env ss = .ok s' → P s')
    {s : State} (h : Reachable env s) : P s :=
  let ⟨cfg, hrun⟩ := h.toRun
  hrun.invariant batch block (genesis cfg)

/-- the linking invariant holds of every reachable state (plain `Reachable` suffices: no hash assumption, no
    `MarkerFresh`, no bounds are needed) -/
theorem reachable_histChain {env : Env} {s : State} (h : Reachable env s) : BlockHistL.HistChain env s :=
  h.invariant (BlockHistL.histChain_genesis env) (fun ih hb => BlockHistL.histChain_batch hb ih)
    (fun ih hs hn => BlockHistL.histChain_next hn (BlockHistL.histChain_seal hs ih))

theorem batchFresh_genesis (cfg : GenesisConfig) (txs : List Tx) (hn : (txs.map (·.hash)).Nodup)
    (hz : ∀ t ∈ txs, t.hash ≠ zeroHash) : BatchFresh (genesisState cfg) txs :=
  ⟨hn, fun t ht i => ReachL.genesis_getCoin_ne cfg (hz t ht) i⟩

theorem reach_genesis_inv (cfg : GenesisConfig) : Inv (genesisState cfg) := by
  have hcm := ReachL.genesis_cm cfg
  exact {
    coinKeys := hcm.keys
    counts := hcm.counts
    noCounts := hcm.noCounts
    heights := hcm.heights
    historyBelow := fun h hdr hg => by simp [genesisState, AList.get] at hg
    historyFull := fun h hlt => by simp [genesisState] at hlt
    historyHeights := fun h hdr hg => by simp [genesisState, AList.get] at hg
    speedPos := by simp [genesisState]; decide
    speeds := fun h hdr hg => by simp [genesisState, AList.get] at hg
    sorted := trivial
    poolKeys := List.nodup_nil }

theorem reach_batch_inv (env : Env) (s s' : State) (txs : List Tx) (fb : Header) (hi : Inv s)
    (hf : BatchFresh s txs) (h : applyBatch env s txs fb = .ok s') : Inv s' := by
  obtain ⟨e1, e2, e3, e4, e5, e6, hcm⟩ :=
    ReachL.applyBatch_facts h ⟨hi.coinKeys, hi.counts, hi.noCounts, hi.heights⟩ hf.fresh
  have ht : s'.tip906 = s.tip906 := tip906_eq e1 e2
  exact {
    coinKeys := hcm.keys
    counts := fun h906 => hcm.counts (ht ▸ h906)
    noCounts := fun h906 => hcm.noCounts (ht ▸ h906)
    heights := fun id c hc => e2 ▸ hcm.heights id c hc
    historyBelow := fun h hdr hg => by rw [e3] at hg; rw [e2]; exact hi.historyBelow h hdr hg
    historyFull := fun h hlt => by rw [e3]; rw [e2] at hlt; exact hi.historyFull h hlt
    historyHeights := fun h hdr hg => by rw [e3] at hg; exact hi.historyHeights h hdr hg
    speedPos := Nat.lt_of_lt_of_le hi.speedPos e5
    speeds := fun h hdr hg => by rw [e3] at hg; exact hi.speeds h hdr hg
    sorted := by
      rw [e6]
      exact sortedTxs_of_pairwise
        (C3.foldl_insertTx_spec txs s.txs (sortedTxs_pairwise hi.sorted) hf.hashes).1
    poolKeys := by rw [e4]; exact hi.poolKeys }

/-- sealing preserves the invariant of the sealed (inner) state, except that the transaction list stays -/
theorem reach_seal_inv (env : Env) (s : State) (a : Option ProposerAction) (ss : Sealed) (hi : Inv s)
    /- the statement is false without it (see `reach_seal_inv_counterexample`): settlement overwrites
        the coins at the output slots of the block's swap / deposit / withdrawal transactions with coins locked
        by the covenant of the transaction's first output and leaves the counts alone -/
    (hslots : Slots s)
    (hr : RewardFresh env s) (h : sealState env s a = .ok ss) : Inv ss.st := by
  obtain ⟨e1, e2, e3, e4, e5, e6, hcm⟩ :=
    ReachL.sealState_facts ⟨hi.coinKeys, hi.counts, hi.noCounts, hi.heights⟩ hslots
      (ReachL.nodup_hashes_of_pairwise (sortedTxs_pairwise hi.sorted)) hi.poolKeys hr h
  have ht : ss.st.tip906 = s.tip906 := tip906_eq e3 e2
  exact {
    coinKeys := hcm.keys
    counts := fun h906 => hcm.counts (ht ▸ h906)
    noCounts := fun h906 => hcm.noCounts (ht ▸ h906)
    heights := fun id c hc => e2 ▸ hcm.heights id c hc
    historyBelow := fun h hdr hg => by rw [e1] at hg; rw [e2]; exact hi.historyBelow h hdr hg
    historyFull := fun h hlt => by rw [e1]; rw [e2] at hlt; exact hi.historyFull h hlt
    historyHeights := fun h hdr hg => by rw [e1] at hg; exact hi.historyHeights h hdr hg
    speedPos := by rw [e4]; exact hi.speedPos
    speeds := fun h hdr hg => by rw [e1] at hg; exact hi.speeds h hdr hg
    sorted := by rw [e5]; exact hi.sorted
    poolKeys := e6 }

/-- an accepted batch keeps the slot discipline of the block, when its faucet markers keep clear of the
    transaction hashes -/
theorem reach_batch_slots (env : Env) (s s' : State) (txs : List Tx) (fb : Header) (hi : Inv s) (hs : Slots s)
    (hf : BatchFresh s txs) (hm : MarkerFresh env s txs) (h : applyBatch env s txs fb = .ok s') : Slots s' :=
  ReachL.applyBatch_slots h (sortedTxs_pairwise hi.sorted) hf.hashes hf.fresh hs hm

/-- opening the next block preserves the invariant (this is where TIP-906 may activate and the counts are
    initialised from the coin set) -/
theorem reach_next_inv (env : Env) (ss : Sealed) (s' : State) (hi : Inv ss.st)
    (h : nextUnsealed env ss = .ok s') : Inv s' := by
  obtain ⟨hdr, c, hh, e, ec⟩ := nextUnsealed_shape h
  obtain ⟨p, -, hhdr⟩ := headerOf_ok env ss hdr hh
  have hdrh : hdr.height = ss.st.height := by rw [hhdr]
  have hdrs : 0 < hdr.doscSpeed := by rw [hhdr]; exact hi.speedPos
  obtain ⟨g1, g2, g3, g4⟩ := ReachL.history_next hi.historyBelow hi.historyFull hi.historyHeights hi.speeds hdrh hdrs
  have eh : s'.height = ss.st.height + 1 := congrArg State.height e
  have en : s'.network = ss.st.network := (congrArg State.network e :)
  have ehist : s'.history = ss.st.history.set ss.st.height hdr := congrArg State.history e
  -- the coin list is that of the sealed state; the counts are initialised exactly when the flag comes on
  have hcm : ReachL.CMInv s'.tip906 ss.st.height s'.coins := by
    rw [(congrArg State.coins e : s'.coins = c), ec]
    split
    · next hc =>
      rw [Bool.and_eq_true, Bool.not_eq_true'] at hc
      have hempty := hi.noCounts hc.2
      have hco := applyTip906Transition_coins ss.st.coins
      refine ⟨by rw [hco]; exact hi.coinKeys, fun _ => C20_activation _ hi.coinKeys hempty,
        fun hf => Bool.noConfusion (hf.symm.trans hc.1), fun id c hg => hi.heights id c ?_⟩
      unfold CoinMap.getCoin at hg ⊢
      rwa [hco] at hg
    · next hc =>
      have ht : s'.tip906 = ss.st.tip906 := by
        cases h0 : ss.st.tip906 with
        | true => exact ReachL.tipCondition_mono en (eh ▸ Nat.le_succ _) _ h0
        | false => rw [h0, Bool.not_false, Bool.and_true] at hc; exact Bool.eq_false_iff.mpr hc
      rw [ht]
      exact ⟨hi.coinKeys, hi.counts, hi.noCounts, hi.heights⟩
  exact {
    coinKeys := hcm.keys
    counts := hcm.counts
    noCounts := hcm.noCounts
    heights := fun id c hg => eh ▸ Nat.le_succ_of_le (hcm.heights id c hg)
    historyBelow := by rw [ehist, eh]; exact g1
    historyFull := by rw [ehist, eh]; exact g2
    historyHeights := by rw [ehist]; exact g3
    speedPos := ((congrArg State.doscSpeed e :) : s'.doscSpeed = ss.st.doscSpeed) ▸ hi.speedPos
    speeds := by rw [ehist]; exact g4
    sorted := (congrArg State.txs e : s'.txs = []) ▸ trivial
    poolKeys := ((congrArg State.pools e :) : s'.pools = ss.st.pools) ▸ hi.poolKeys }

/-- the inductive strengthening: every state reachable under `MarkerFresh` satisfies the invariant and the slot
    discipline of its block -/
theorem reachable_inv_slots (env : Env) (s : State) (hsep : ReachableSep env s) : Inv s ∧ Slots s := by
  induction hsep with
  | genesis cfg => exact ⟨reach_genesis_inv cfg, fun tx htx => nomatch htx⟩
  | batch _ hf hm hb ih =>
    exact ⟨reach_batch_inv env _ _ _ _ ih.1 hf hb, reach_batch_slots env _ _ _ _ ih.1 ih.2 hf hm hb⟩
  | block _ hr hs hn ih =>
    refine ⟨reach_next_inv env _ _ (reach_seal_inv env _ _ _ ih.1 ih.2 hr hs) hn, ?_⟩
    intro tx htx
    rw [nextUnsealed_txs hn] at htx
    cases htx

set_option linter.unusedVariables false in
theorem reachable_inv (env : Env) (s : State) (h : Reachable env s)
    /- the statement is false without it (see `reachable_inv_counterexample`): the derivation only uses
        batches whose faucet markers keep clear of the transaction hashes of the block (`MarkerFresh`) -/
    (hsep : ReachableSep env s) : Inv s :=
  (reachable_inv_slots env s hsep).1

/-- C20 at the state level: in every reachable state in which TIP-906 is active, the recorded count of
    every covenant hash is exactly the number of unspent coins locked by it, and no zero entry is stored -/
theorem C20_reachable (env : Env) (s : State) (h : Reachable env s)
    /- needed as in `reachable_inv` -/
    (hsep : ReachableSep env s) (h906 : s.tip906 = true) :
    (∀ a, s.coins.coinCount a = coinsWith s.coins a) ∧ (∀ e ∈ s.coins.counts, e.2 ≠ 0) :=
  let hc := (reachable_inv env s h hsep).counts h906
  ⟨hc.2.2.1, hc.2.2.2⟩

set_option linter.unusedVariables false in
/-- a sealed reachable state always has a header (the `unwrap` of the previous header cannot fail), and
    opening the next block cannot fail either -/
theorem reachable_header_ok (env : Env) (s : State) (a : Option ProposerAction) (ss : Sealed)
    (h : Reachable env s) (hr : RewardFresh env s) (hs : sealState env s a = .ok ss) :
    (∃ hdr, headerOf env ss = .ok hdr) ∧ ∃ s', nextUnsealed env ss = .ok s' := by
  have hc := BlockHistL.histChain_seal hs (reachable_histChain h)
  obtain ⟨hdr, hh⟩ := headerOf_total env ss (fun h0 => hc.full _ (Nat.sub_one_lt h0))
  exact ⟨⟨hdr, hh⟩, nextUnsealed_total env ss hdr hh⟩

/-- C09 for reachable states: the structural part of `ApplyPre` is discharged; what remains are the
    hash-freshness assumption, the supply bound, the bound on the difficulties the MelPoW oracle accepts and the
    one explicitly excluded finding (DOSC reward overflow).  No hypothesis on covenant weight sums (F19):
    `loadRelevantCoins` rejects a batch with a transaction whose sum overflows (`C09_heavy_covenants_rejected`).
    None on the MelPoW verifier (F9): a proof on which `melpow::Proof::verify` panicked is rejected with
    `InvalidMelPoW` (`C18_panicking_proof_rejected`, `C09_doscmint_never_crashes_on_proof`), whatever the oracle
    answers. -/
theorem C09_apply_total_reachable (env : Env) (s : State) (txs : List Tx) (fb : Header)
    (h : Reachable env s)
    /- needed as in `reachable_inv` -/
    (hsep : ReachableSep env s)
    (h906 : s.tip906 = true) (hf : BatchFresh s txs)
    (bounded : (s.coins.coins.map (·.2.coinData.value)).sum + ((txs.flatMap (·.outputs)).map (·.value)).sum ≤ U128_MAX)
    (powDifficulty : ∀ a b c d, env.powOk a b c d ≠ .invalid → c ≤ 100)
    (rewardFits : ∀ hdr, s.history.get (s.height - 1) = some hdr → ∀ a b d t, env.powOk a b d t ≠ .invalid →
      microergsIter s.height * maxDoscReward d hdr.doscSpeed / MICRO_CONVERTER ≤ U128_MAX) :
    ∀ c, applyBatch env s txs fb ≠ .crash c :=
  let hi := reachable_inv env s h hsep
  C09_apply_total env s txs fb
    { counts := (CountsSound_iff _).mpr (hi.counts h906), fresh := hf.fresh, heights := hi.heights,
      bounded := bounded, speeds := hi.speeds, historyBelow := hi.historyBelow,
      powDifficulty := powDifficulty, rewardFits := rewardFits }

set_option linter.unusedVariables false in
/-- C03 for reachable states: order independence needs, beyond reachability, only the hash assumptions -/
theorem C03_perm_reachable (env : Env) (s s₁ : State) (txs txs' : List Tx) (fb : Header)
    (hr : Reachable env s)
    /- needed as in `reachable_inv` -/
    (hsep : ReachableSep env s)
    (h906 : s.tip906 = true) (hp : txs.Perm txs') (hf : BatchFresh s txs)
    (markers : ∀ t ∈ txs, t.kind = .faucet → env.isGrandfathered t.hash = false →
              (∀ u ∈ txs, (⟨env.fdp t.hash, 0⟩ : CoinID) ∉ u.inputs ∧ env.fdp t.hash ≠ u.hash) ∧
              (∀ u ∈ txs, u.kind = .faucet → env.fdp u.hash = env.fdp t.hash → u = t))
    (gfMarkers : ∀ t ∈ txs, t.kind = .faucet → env.isGrandfathered t.hash = true →
              ∀ u ∈ txs, (⟨env.fdp t.hash, 0⟩ : CoinID) ∉ u.inputs)
    (hfee : s.feePool ≤ U128_MAX) (htips : s.tips ≤ U128_MAX)
    (h : applyBatch env s txs fb = .ok s₁) :
    ∃ s₂, applyBatch env s txs' fb = .ok s₂ ∧ BatchEquiv s₁ s₂ :=
  let hi := reachable_inv env s hr hsep
  C03_perm env s s₁ txs txs' fb hp
    { hashes := hf.hashes, markers := markers, gfMarkers := gfMarkers, fresh := hf.fresh,
      counts := (countsFine_iff _).mpr (hi.counts h906), sorted := hi.sorted, feePool := hfee, tips := htips } h

/-- non-vacuity: a two-block history is reachable (genesis, an
    empty batch, a seal without action, the next block), so `Reachable` / `ReachableSep` are inhabited beyond
    the genesis state.

    The hypotheses (needed by this path):
    * `hfee`: the initial fee pool leaves room for the TIP-909 subsidy and the pegging inflow — otherwise
      `fee_pool += mel` overflows when the genesis block is sealed;
    * `hrew`: the proposer-reward pseudo-coin id of height 0 is not `CoinID::zero_zero()`, the id of the initial
      coin — otherwise `RewardFresh` fails for the genesis state (`reachable_nonvacuous_reward_needed`). -/
theorem reachableSep_nonvacuous (env : Env) (cfg : GenesisConfig)
    (hfee : cfg.initFeePool + 2 ^ 21 ≤ 2 ^ 127) (hrew : env.rewardId 0 ≠ zeroHash) :
    ∃ s, ReachableSep env s ∧ s.height = 1 := by
  have hg := reach_genesis_inv cfg
  have hb : applyBatch env (genesisState cfg) [] default = .ok (genesisState cfg) := rfl
  have h1 : ReachableSep env (genesisState cfg) :=
    .batch (txs := []) (.genesis cfg) ⟨List.nodup_nil, fun t ht => nomatch ht⟩ (fun f hf => nomatch hf) hb
  have hrf : RewardFresh env (genesisState cfg) := ReachL.genesis_getCoin_ne cfg hrew 0
  have hpools : ∀ k, (genesisState cfg).pools.get k = none := fun k => rfl
  obtain ⟨ss, hs⟩ := sealState_ok env (genesisState cfg) none hg.counts (fun tx htx => nomatch htx) List.nodup_nil
    (fun k p h => by rw [hpools] at h; cases h)
    (fun p h => by rw [hpools] at h; cases h)
    (by show melInflow [] ≤ 2 ^ 124; decide) (show cfg.initFeePool + 0 + 2 ^ 21 ≤ 2 ^ 127 from hfee)
    (by show 0 < TIP_909_HEIGHT + 128 * SUBSIDY_HALVING; decide)
  obtain ⟨-, s', hn⟩ := reachable_header_ok env _ none ss h1.reachable hrf hs
  refine ⟨s', .block h1 hrf hs hn, ?_⟩
  obtain ⟨-, -, -, e, -⟩ := nextUnsealed_ok _ _ _ hn
  rw [e, (sealState_hhn _ _ _ _ hs).2.1]
  rfl

set_option linter.unusedVariables false in
/-- non-vacuity of `Reachable` (see `reachableSep_nonvacuous` for the two hypotheses) -/
theorem reachable_nonvacuous (env : Env) (cfg : GenesisConfig) (hnet : cfg.network = .custom02)
    (hfee : cfg.initFeePool + 2 ^ 21 ≤ 2 ^ 127) (hrew : env.rewardId 0 ≠ zeroHash) :
    ∃ s, Reachable env s ∧ s.height = 1 :=
  let ⟨s, h, e⟩ := reachableSep_nonvacuous env cfg hfee hrew
  ⟨s, h.reachable, e⟩

/-- why `hrew` is needed: when the reward pseudo-coin id of height 0 is the id of the initial coin, the genesis
    state cannot be sealed under `RewardFresh` -/
theorem reachable_nonvacuous_reward_needed (env : Env) (cfg : GenesisConfig) (h : env.rewardId 0 = zeroHash) :
    ¬ RewardFresh env (genesisState cfg) := by
  intro hr
  have : (CoinMap.insertCoin {} ⟨zeroHash, 0⟩ ⟨cfg.initCoindata, 0⟩ (genesisState cfg).tip906).getCoin
      ⟨env.rewardId 0, 0⟩ = none := hr
  rw [h, CoinMap.getCoin_insertCoin, if_pos rfl] at this
  cases this

namespace ReachWitness
open Mel.Gen

def env : Env := {
  vm := { hash := id, sigOk := fun _ _ _ => true },
  liqHash := id, fdp := fun h => 9 :: h, rewardId := fun _ => [], hdrHash := fun _ => [],
  powOk := fun _ _ _ _ => .invalid, isGrandfathered := fun _ => false,
  historyRoot := fun _ => [], coinsRoot := fun _ => [], txsRoot := fun _ _ => [],
  poolsRoot := fun _ => [], stakesRoot := fun _ => [] }

def cfg : GenesisConfig :=
  { network := .custom02, initCoindata := ⟨[7], 5, .mel, []⟩, stakes := [], initFeePool := 0, initFeeMultiplier := 0 }

/-- a swap transaction spending the initial coin; its hash is the faucet marker id of `t` -/
def u : Tx := {
  kind := .swap, inputs := [⟨zeroHash, 0⟩], outputs := [(⟨[8], 5, .mel, []⟩ : CoinData)], fee := 0,
  covenants := [C03Witness.cov], data := [115], sigs := [], hash := [9, 2], rawLen := 0, covHashes := [[7]] }
/-- an ordinary transaction spending the output of `u` -/
def v : Tx := {
  kind := .normal, inputs := [⟨[9, 2], 0⟩], outputs := [(⟨[8], 5, .mel, []⟩ : CoinData)], fee := 0,
  covenants := [C03Witness.cov], data := [], sigs := [], hash := [1], rawLen := 0, covHashes := [[8]] }
/-- a faucet transaction whose de-duplication marker id is `(u.hash, 0)` -/
def t : Tx := {
  kind := .faucet, inputs := [], outputs := [], fee := 0,
  covenants := [], data := [], sigs := [], hash := [2], rawLen := 0, covHashes := [] }
/-- (next block) a transaction spending both coins locked by covenant hash `[8]` -/
def w : Tx := {
  kind := .normal, inputs := [⟨[1], 0⟩, ⟨[9, 2], 0⟩],
  outputs := [(⟨[6], 5, .mel, []⟩ : CoinData), (⟨[6], 4, .sym, []⟩ : CoinData)], fee := 0,
  covenants := [C03Witness.cov], data := [], sigs := [], hash := [3], rawLen := 0, covHashes := [[8]] }

def getOk {α} [Inhabited α] : Outcome α → α
  | .ok a => a
  | _ => default

theorem eq_getOk {α} [Inhabited α] {o : Outcome α} (h : o.isOk = true) : o = .ok (getOk o) := by
  cases o <;> first | rfl | cases h

def s1 : State := getOk (applyBatch env (genesisState cfg) [u, v, t] default)
def ss : Sealed := getOk (sealState env s1 none)
def s2 : State := getOk (nextUnsealed env ss)

/-- what is evaluated about this history, in one run of the kernel: the three steps succeed; the reward coin is
    absent before the seal, the speed that of genesis; after it the count of covenant hash `[8]` is wrong, and stays so; the coins of `s2`; the
    batch `[w]` crashes on `s2` though the values fit a u128 -/
theorem facts :
    ((applyBatch env (genesisState cfg) [u, v, t] default).isOk = true ∧ (sealState env s1 none).isOk = true ∧
      (nextUnsealed env ss).isOk = true) ∧
    (s1.coins.getCoin ⟨env.rewardId s1.height, 0⟩ = none ∧ s1.doscSpeed = (genesisState cfg).doscSpeed) ∧
    (ss.st.tip906 = true ∧ ss.st.coins.coinCount [8] ≠ coinsWith ss.st.coins [8]) ∧
    (s2.tip906 = true ∧ s2.coins.coinCount [8] ≠ coinsWith s2.coins [8]) ∧
    AList.keys s2.coins.coins = [⟨[9, 2], 0⟩, ⟨[1], 0⟩] ∧
    (applyBatch env s2 [w] default).isCrash = true ∧
    (s2.coins.coins.map (·.2.coinData.value)).sum + (([w].flatMap (·.outputs)).map (·.value)).sum ≤ U128_MAX := by
  decide +kernel

theorem batch_ok : applyBatch env (genesisState cfg) [u, v, t] default = .ok s1 := eq_getOk facts.1.1
theorem seal_ok : sealState env s1 none = .ok ss := eq_getOk facts.1.2.1
theorem next_ok : nextUnsealed env ss = .ok s2 := eq_getOk facts.1.2.2

theorem batchFresh : BatchFresh (genesisState cfg) [u, v, t] := batchFresh_genesis _ _ (by decide) (by decide)

theorem rewardFresh : RewardFresh env s1 := facts.2.1.1

theorem s1_reachable : Reachable env s1 := .batch (.genesis cfg) batchFresh batch_ok

theorem s2_reachable : Reachable env s2 := .block s1_reachable rewardFresh seal_ok next_ok

theorem s2_bad : s2.tip906 = true ∧ s2.coins.coinCount [8] ≠ coinsWith s2.coins [8] := facts.2.2.2.1

theorem batchFresh2 : BatchFresh s2 [w] := by
  obtain ⟨-, -, -, -, hkeys, -⟩ := facts
  refine ⟨by decide, fun x hx i => ?_⟩
  cases List.mem_singleton.1 hx
  unfold CoinMap.getCoin
  rw [AList.get_eq_none_iff_not_mem_keys, hkeys]
  simp [w]

end ReachWitness

/-- `reach_seal_inv` is false without `hslots`: the state `s1` (reached from the genesis state by one batch)
    satisfies `Inv`, but the swap transaction `u` of its block has the faucet marker of `t` (covenant hash 0)
    sitting at its output slot 0.  Settlement rewrites the marker into a coin locked by `u`'s covenant `[8]`
    without touching the counts: afterwards there are two coins locked by `[8]` and the count says 1. -/
theorem reach_seal_inv_counterexample :
    ∃ (env : Env) (s : State) (a : Option ProposerAction) (ss : Sealed),
      Inv s ∧ RewardFresh env s ∧ sealState env s a = .ok ss ∧ ¬ Inv ss.st := by
  obtain ⟨-, -, ⟨h906, hbad⟩, -⟩ := ReachWitness.facts
  exact ⟨ReachWitness.env, ReachWitness.s1, none, ReachWitness.ss,
    reach_batch_inv _ _ _ _ _ (reach_genesis_inv _) ReachWitness.batchFresh ReachWitness.batch_ok,
    ReachWitness.rewardFresh, ReachWitness.seal_ok, fun hi => hbad ((hi.counts h906).2.2.1 [8])⟩

/-- `reachable_inv` is false without `hsep`: genesis, the batch `[u, v, t]` (`u` a swap spending the initial
    coin, `v` spending `u`'s output, `t` a faucet transaction whose de-duplication marker id
    `faucet_dedup_pseudocoin(t.hash)` is `(u.hash, 0)`), seal, next block.  `BatchFresh` and `RewardFresh`
    hold; what fails is the domain separation of the marker id from transaction hashes (`MarkerFresh`). -/
theorem reachable_inv_counterexample : ∃ (env : Env) (s : State), Reachable env s ∧ ¬ Inv s :=
  ⟨ReachWitness.env, ReachWitness.s2, ReachWitness.s2_reachable,
    fun hi => ReachWitness.s2_bad.2 ((hi.counts ReachWitness.s2_bad.1).2.2.1 [8])⟩

/-- … and so is `C20_reachable` -/
theorem C20_reachable_counterexample : ∃ (env : Env) (s : State), Reachable env s ∧ s.tip906 = true ∧
    ¬ ((∀ a, s.coins.coinCount a = coinsWith s.coins a) ∧ (∀ e ∈ s.coins.counts, e.2 ≠ 0)) :=
  ⟨ReachWitness.env, ReachWitness.s2, ReachWitness.s2_reachable, ReachWitness.s2_bad.1,
    fun h => ReachWitness.s2_bad.2 (h.1 [8])⟩

/-- … and `C09_apply_total_reachable`: in the state of the previous counterexample the count of covenant
    hash `[8]` is 1 while two coins are locked by it, so a transaction spending both makes
    `remove_coin` underflow (`count - 1` on a zero count) — a crash, with every other hypothesis in place -/
theorem C09_apply_total_reachable_counterexample : ∃ (env : Env) (s : State) (txs : List Tx) (fb : Header),
    Reachable env s ∧ s.tip906 = true ∧ BatchFresh s txs ∧
    ((s.coins.coins.map (·.2.coinData.value)).sum + ((txs.flatMap (·.outputs)).map (·.value)).sum ≤ U128_MAX) ∧
    (∀ a b c d, env.powOk a b c d ≠ .invalid → c ≤ 100) ∧
    (∀ t ∈ txs, (t.covenants.map covenantWeightFromBytes).sum ≤ U128_MAX) ∧
    (∀ hdr, s.history.get (s.height - 1) = some hdr → ∀ a b d t, env.powOk a b d t ≠ .invalid →
      microergsIter s.height * maxDoscReward d hdr.doscSpeed / MICRO_CONVERTER ≤ U128_MAX) ∧
    ∃ c, applyBatch env s txs fb = .crash c := by
  obtain ⟨-, -, -, ⟨h906, -⟩, -, hcrash, hfits⟩ := ReachWitness.facts
  refine ⟨ReachWitness.env, ReachWitness.s2, [ReachWitness.w], default, ReachWitness.s2_reachable, h906,
    ReachWitness.batchFresh2, hfits, fun _ _ _ _ h => absurd rfl h, fun t ht => ?_,
    fun _ _ _ _ _ _ h => absurd rfl h, Outcome.exists_crash_of_isCrash hcrash⟩
  cases List.mem_singleton.1 ht
  decide +kernel

end Mel

#print axioms Mel.Reachable.toRun
#print axioms Mel.reachable_histChain
#print axioms Mel.reach_genesis_inv
#print axioms Mel.reach_batch_inv
#print axioms Mel.reach_seal_inv
#print axioms Mel.reach_next_inv
#print axioms Mel.reachable_inv
#print axioms Mel.C20_reachable
#print axioms Mel.reachable_header_ok
#print axioms Mel.C09_apply_total_reachable
#print axioms Mel.C03_perm_reachable
#print axioms Mel.reachable_nonvacuous
#print axioms Mel.reachableSep_nonvacuous
#print axioms Mel.reachable_nonvacuous_reward_needed
#print axioms Mel.reach_batch_slots
#print axioms Mel.reachable_inv_slots
#print axioms Mel.reach_seal_inv_counterexample
#print axioms Mel.reachable_inv_counterexample
#print axioms Mel.C20_reachable_counterexample
#print axioms Mel.C09_apply_total_reachable_counterexample

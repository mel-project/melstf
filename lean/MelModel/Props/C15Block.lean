/-
  C15 at the level of the block — what `process_swaps`, `process_deposits` and `process_withdrawals` do to the state,
  connecting the pool arithmetic of Props/C15.lean (`C15_swap_exact`, `C15_product`, `C15_pro_rata`, `C15_deposit`,
  `C15_withdraw`) to the pools and coins of the block.

  Vocabulary (from Lemmas/Phase.lean and Lemmas/SettleBlockL.lean):
    `out0 tx`, `out1 tx`       the first / second output of a transaction, as the settlement code reads them
    `swapReqs s k`             the swap requests of the block naming pool `k`, exactly as `process_swaps` selects them
                               (`transactionsForPool (s.txs.filter (isSwapRequest s)) k`); `depReqs`, `wdReqs` likewise
    `swapTL k reqs`, `swapTR`  the saturating totals of the left-side / right-side request values (`total_lefts`, …)
    `sumL k reqs`, `sumR`      the same totals as exact sums
    `depTL`, `depTR`, `depTW`  totals of a pool's deposits: lefts, rights, and the weights `depW tx = mtsqrt(l, r)`
    `wdT reqs`                 total of the liquidity tokens a pool's withdrawal requests redeem
    `paidOut m i txs`          the sum of the values held in `m` at the `i`-th outputs of `txs`
    `DepPaid`, `WdPaid`        the coins of a pool's depositors / withdrawers after settlement (fields = the statement)
-/
import MelModel.Props.C15
import MelModel.Lemmas.SettleBlockL
namespace Mel
open Mel.Gen
open TotalSealL
open SettleBlockL

/-- a coin holding a capped share holds at most the share -/
theorem coinValueAt_capped {m : CoinMap} {id : CoinID} {c : CoinDataHeight} {x cap : Nat}
    (hc : m.getCoin id = some c) (hv : c.coinData.value = min x cap) : coinValueAt m id ≤ x := by
  rw [coinValueAt_of hc, hv]
  exact Nat.min_le_left _ _

/-- `process_swaps_for_single_pool` on pool `k` (state `p`) with requests `swaps`: the pool becomes the `p'` of
    `p.swapMany l r` for the totals `l`, `r` of the two sides; every left-side request has its first coin rewritten to
    `min ⌊rw·v/l⌋ MAX_COINVAL` of the right denomination, every other request to `min ⌊lw·v/r⌋ MAX_COINVAL` of the
    left denomination; other pools, and coins that are not first outputs of these requests, are as before.
    (`multiply_frac` saturates at u128 first; `MAX_COINVAL < u128::MAX` makes the second cap the only one.) -/
theorem C15_swap_phase_pool (k : PoolKey) (s s' : State) (swaps : List Tx) (p : PoolState)
    (hp : s.pools.get k = some p)
    -- needed (`C15_swap_phase_pool_needs_unique_hashes`); the transactions of a reachable state's block have
    -- pairwise different hashes (`Inv.sorted`, `ReachL.nodup_hashes_of_pairwise`)
    (hnd : (swaps.map (·.hash)).Nodup)
    (h : processSwapsForPool k s swaps = .ok s') :
    ∃ p' lw rw, p.swapMany (swapTL k swaps) (swapTR k swaps) = .ok (p', lw, rw) ∧
      s'.pools.get k = some p' ∧ (∀ k', k' ≠ k → s'.pools.get k' = s.pools.get k') ∧
      (∀ tx ∈ swaps, (out0 tx).denom = k.left → 0 < swapTL k swaps ∧
        s'.coins.getCoin ⟨tx.hash, 0⟩ = some ⟨{ out0 tx with
          denom := k.right, value := min (rw * (out0 tx).value / swapTL k swaps) MAX_COINVAL }, s.height⟩) ∧
      (∀ tx ∈ swaps, (out0 tx).denom ≠ k.left → 0 < swapTR k swaps ∧
        s'.coins.getCoin ⟨tx.hash, 0⟩ = some ⟨{ out0 tx with
          denom := k.left, value := min (lw * (out0 tx).value / swapTR k swaps) MAX_COINVAL }, s.height⟩) ∧
      (∀ id, (∀ tx ∈ swaps, id ≠ ⟨tx.hash, 0⟩) → s'.coins.getCoin id = s.coins.getCoin id) ∧
      s'.txs = s.txs ∧ s'.height = s.height := by
  obtain ⟨p', lw, rw, hsm, hpools, hpaid, hun, hb⟩ := swap_phase_pool hp h
  refine ⟨p', lw, rw, hsm, ?_, ?_, (hpaid hnd).left, (hpaid hnd).right, hun, hb.txs, hb.height⟩
  · rw [hpools]; exact AList.get_set_self _ _ _
  · intro k' hne; rw [hpools]; exact AList.get_set_ne _ _ hne

/-- without requests the coins stay and the pool is `swap_many 0 0` of itself (which still moves the price
    accumulator); `process_swaps` never calls the function for such a pool (`C15_swap_phase`) -/
theorem C15_swap_phase_pool_no_request (k : PoolKey) (s s' : State) (p : PoolState)
    (hp : s.pools.get k = some p) (h : processSwapsForPool k s [] = .ok s') :
    s'.coins = s.coins ∧ ∃ p' lw rw, p.swapMany 0 0 = .ok (p', lw, rw) ∧ s'.pools.get k = some p' := by
  obtain ⟨p0, p', lw, rw, coins, hp0, hsm, hc, e⟩ := processSwapsForPool_inv h
  rw [hp] at hp0; cases hp0
  simp only [Outcome.foldlM'] at hc
  cases hc
  subst e
  exact ⟨rfl, p', lw, rw, hsm, AList.get_set_self _ _ _⟩

theorem C15_swapReqs_mem (s : State) (k : PoolKey) (tx : Tx) :
    tx ∈ swapReqs s k ↔ tx ∈ s.txs ∧ isSwapRequest s tx = true ∧ canonicalPoolKey tx.data = some k := by
  constructor
  · exact mem_swapReqs
  · intro ⟨h1, h2, h3⟩
    exact mem_transactionsForPool_iff.mpr ⟨List.mem_filter.mpr ⟨h1, h2⟩, h3⟩

theorem C15_request_one_pool (s : State) (k₁ k₂ : PoolKey) (tx : Tx) (h₁ : tx ∈ swapReqs s k₁)
    (h₂ : tx ∈ swapReqs s k₂) : k₁ = k₂ := by
  have a := (mem_swapReqs h₁).2.2
  have b := (mem_swapReqs h₂).2.2
  rw [a] at b
  exact Option.some.inj b

/-- the whole swap phase (`process_swaps`: all pools named by requests, in sorted key order): a pool without requests
    and coins that are not first outputs of swap requests are unchanged; every pool `k` with requests exists with
    reserves on both sides and is settled as `C15_swap_phase_pool` says, from its state `p` before the phase and its
    own requests only: nothing about the other pools enters `p'`, `lw`, `rw` or the payouts -/
theorem C15_swap_phase (s s' : State) (h : processSwaps s = .ok s')
    -- needed for the payouts (`C15_swap_phase_pool_needs_unique_hashes`)
    (hnd : (s.txs.map (·.hash)).Nodup) :
    (s'.txs = s.txs ∧ s'.height = s.height ∧ s'.network = s.network) ∧
    (∀ k, swapReqs s k = [] → s'.pools.get k = s.pools.get k) ∧
    (∀ id, (∀ tx ∈ s.txs, isSwapRequest s tx = true → id ≠ ⟨tx.hash, 0⟩) →
      s'.coins.getCoin id = s.coins.getCoin id) ∧
    (∀ k, swapReqs s k ≠ [] → ∃ p p' lw rw,
      s.pools.get k = some p ∧ 0 < p.lefts ∧ 0 < p.rights ∧ k.left ≠ k.right ∧
      p.swapMany (swapTL k (swapReqs s k)) (swapTR k (swapReqs s k)) = .ok (p', lw, rw) ∧
      s'.pools.get k = some p' ∧
      (∀ tx ∈ swapReqs s k, (out0 tx).denom = k.left → 0 < swapTL k (swapReqs s k) ∧
        s'.coins.getCoin ⟨tx.hash, 0⟩ = some ⟨{ out0 tx with
          denom := k.right,
          value := min (rw * (out0 tx).value / swapTL k (swapReqs s k)) MAX_COINVAL }, s.height⟩) ∧
      (∀ tx ∈ swapReqs s k, (out0 tx).denom = k.right → 0 < swapTR k (swapReqs s k) ∧
        s'.coins.getCoin ⟨tx.hash, 0⟩ = some ⟨{ out0 tx with
          denom := k.left,
          value := min (lw * (out0 tx).value / swapTR k (swapReqs s k)) MAX_COINVAL }, s.height⟩) ∧
      (∀ tx ∈ swapReqs s k, 0 < (out0 tx).value ∧ ((out0 tx).denom = k.left ∨ (out0 tx).denom = k.right))) := by
  obtain ⟨hb, hnone, hun, hsome⟩ := swap_phase h
  refine ⟨⟨hb.txs, hb.height, hb.network⟩, hnone, hun, ?_⟩
  intro k hk
  obtain ⟨p, p', lw, rw, hp, hp', hsm, hpaid⟩ := hsome k hk
  obtain ⟨tx0, htx0⟩ := List.exists_mem_of_ne_nil _ hk
  obtain ⟨q, hq, hl, hr, _⟩ := swapReqs_spec htx0
  rw [hp] at hq; cases hq
  have hne : k.left ≠ k.right := (canonical_sides (mem_swapReqs htx0).2.2).1
  refine ⟨p, p', lw, rw, hp, hl, hr, hne, hsm, hp', (hpaid hnd).left, ?_, ?_⟩
  · intro tx htx hd
    exact (hpaid hnd).right tx htx (by rw [hd]; exact fun e => hne e.symm)
  · intro tx htx
    obtain ⟨_, _, _, _, hv, hd, _⟩ := swapReqs_spec htx
    exact ⟨hv, hd⟩

/-- each pool is settled independently: `process_swaps_for_single_pool` for `k` alone, on the state before the
    phase, yields the pool state and the payouts that the whole phase leaves for `k` -/
theorem C15_swap_phase_independent (s s' : State) (h : processSwaps s = .ok s')
    (hnd : (s.txs.map (·.hash)).Nodup) (k : PoolKey) (hk : swapReqs s k ≠ []) :
    ∃ s'', processSwapsForPool k s (swapReqs s k) = .ok s'' ∧ s''.pools.get k = s'.pools.get k ∧
      ∀ tx ∈ swapReqs s k, s''.coins.getCoin ⟨tx.hash, 0⟩ = s'.coins.getCoin ⟨tx.hash, 0⟩ :=
  swap_phase_alone h hnd hk

/-- single price: two requests on the same side of the same pool, of values `v₁`, `v₂`, are paid
    `min ⌊w·v₁/T⌋ MAX_COINVAL` and `min ⌊w·v₂/T⌋ MAX_COINVAL` for the same `w` (what the pool paid out on that side)
    and the same `T` (what the side paid in); when the cap does not bite, the payouts are in proportion `v₁ : v₂` up
    to the rounding of one unit: `a₁·v₂ < (a₂+1)·v₁` and `a₂·v₁ < (a₁+1)·v₂` -/
theorem C15_single_price (s s' : State) (h : processSwaps s = .ok s') (hnd : (s.txs.map (·.hash)).Nodup)
    (k : PoolKey) (tx₁ tx₂ : Tx) (h₁ : tx₁ ∈ swapReqs s k) (h₂ : tx₂ ∈ swapReqs s k)
    (hside : (out0 tx₁).denom = (out0 tx₂).denom) :
    ∃ w T c₁ c₂, 0 < T ∧
      s'.coins.getCoin ⟨tx₁.hash, 0⟩ = some c₁ ∧ s'.coins.getCoin ⟨tx₂.hash, 0⟩ = some c₂ ∧
      c₁.coinData.value = min (w * (out0 tx₁).value / T) MAX_COINVAL ∧
      c₂.coinData.value = min (w * (out0 tx₂).value / T) MAX_COINVAL ∧
      c₁.coinData.denom = c₂.coinData.denom ∧
      (c₂.coinData.value < MAX_COINVAL →
        c₁.coinData.value * (out0 tx₂).value < (c₂.coinData.value + 1) * (out0 tx₁).value) ∧
      (c₁.coinData.value < MAX_COINVAL →
        c₂.coinData.value * (out0 tx₁).value < (c₁.coinData.value + 1) * (out0 tx₂).value) := by
  have hk : swapReqs s k ≠ [] := fun e => by rw [e] at h₁; cases h₁
  obtain ⟨_, _, _, hsome⟩ := C15_swap_phase s s' h hnd
  obtain ⟨p, p', lw, rw, _, _, _, hne, _, _, hleft, hright, hall⟩ := hsome k hk
  have hv₁ := (hall tx₁ h₁).1
  have hv₂ := (hall tx₂ h₂).1
  rcases (hall tx₁ h₁).2 with hd | hd
  · obtain ⟨hT, g₁⟩ := hleft tx₁ h₁ hd
    obtain ⟨_, g₂⟩ := hleft tx₂ h₂ (by rw [← hside]; exact hd)
    exact ⟨rw, _, _, _, hT, g₁, g₂, rfl, rfl, rfl, same_price_capped hT hv₁, same_price_capped hT hv₂⟩
  · obtain ⟨hT, g₁⟩ := hright tx₁ h₁ hd
    obtain ⟨_, g₂⟩ := hright tx₂ h₂ (by rw [← hside]; exact hd)
    exact ⟨lw, _, _, _, hT, g₁, g₂, rfl, rfl, rfl, same_price_capped hT hv₁, same_price_capped hT hv₂⟩

/-- what the left-side requests of pool `k` hold after the phase adds up to at most `rw`, the rights `swap_many`
    withdrew, and what the right-side requests hold to at most `lw` — provided the side's total paid in is the
    exact sum of its requests -/
theorem C15_block_payout_bounded (s s' : State) (h : processSwaps s = .ok s')
    (hnd : (s.txs.map (·.hash)).Nodup) (k : PoolKey) (hk : swapReqs s k ≠ []) :
    ∃ p p' lw rw, s.pools.get k = some p ∧ s'.pools.get k = some p' ∧
      p.swapMany (swapTL k (swapReqs s k)) (swapTR k (swapReqs s k)) = .ok (p', lw, rw) ∧
      -- `sumL … ≤ U128_MAX` / `sumR … ≤ U128_MAX` are needed (`C15_block_payout_needs_unsaturated_total`):
      -- `total_lefts` is a saturating sum
      (sumL k (swapReqs s k) ≤ U128_MAX →
        paidOut s'.coins 0 ((swapReqs s k).filter fun tx => (out0 tx).denom = k.left) ≤ rw) ∧
      (sumR k (swapReqs s k) ≤ U128_MAX →
        paidOut s'.coins 0 ((swapReqs s k).filter fun tx => (out0 tx).denom = k.right) ≤ lw) := by
  obtain ⟨_, _, _, hsome⟩ := C15_swap_phase s s' h hnd
  obtain ⟨p, p', lw, rw, hp, _, _, _, hsm, hp', hleft, hright, _⟩ := hsome k hk
  refine ⟨p, p', lw, rw, hp, hp', hsm, ?_, ?_⟩
  · intro hfit
    refine paidOut_filter_le (fun tx => decide ((out0 tx).denom = k.left)) (fun tx => (out0 tx).value) rw
      (swapTL k (swapReqs s k)) ?_ ?_
    · rw [swapTL_eq_sumL hfit]; unfold sumL; simp only [decide_eq_true_eq]
    · exact fun tx htx hq => coinValueAt_capped (hleft tx htx (of_decide_eq_true hq)).2 rfl
  · intro hfit
    refine paidOut_filter_le (fun tx => decide ((out0 tx).denom = k.right)) (fun tx => (out0 tx).value) lw
      (swapTR k (swapReqs s k)) ?_ ?_
    · rw [swapTR_eq_sumR hfit]; unfold sumR; simp only [decide_eq_true_eq]
    · exact fun tx htx hq => coinValueAt_capped (hright tx htx (of_decide_eq_true hq)).2 rfl

/-- `C15_swap_exact` lifted to the block: the reserves move by exactly the amounts paid in and out, and the amounts
    paid out are the constant-product amounts less the 0.5% fee, rounded down -/
theorem C15_block_reserves_exact (s s' : State) (h : processSwaps s = .ok s') (k : PoolKey) (hk : swapReqs s k ≠ [])
    (p : PoolState) (hp : s.pools.get k = some p)
    (hfit : p.lefts + swapTL k (swapReqs s k) ≤ U128_MAX ∧ p.rights + swapTR k (swapReqs s k) ≤ U128_MAX) :
    ∃ p' lw rw, s'.pools.get k = some p' ∧
      p.swapMany (swapTL k (swapReqs s k)) (swapTR k (swapReqs s k)) = .ok (p', lw, rw) ∧
      p'.lefts + lw = p.lefts + swapTL k (swapReqs s k) ∧
      p'.rights + rw = p.rights + swapTR k (swapReqs s k) ∧ p'.liqs = p.liqs ∧
      rw = swapTL k (swapReqs s k) * (p.rights + swapTR k (swapReqs s k)) * 995
            / ((p.lefts + swapTL k (swapReqs s k)) * 1000) ∧
      lw = swapTR k (swapReqs s k) * (p.lefts + swapTL k (swapReqs s k)) * 995
            / ((p.rights + swapTR k (swapReqs s k)) * 1000) ∧
      0 < p'.lefts ∧ 0 < p'.rights := by
  obtain ⟨_, _, _, hsome⟩ := swap_phase h
  obtain ⟨q, p', lw, rw, hq, hp', hsm, _⟩ := hsome k hk
  rw [hp] at hq; cases hq
  obtain ⟨e1, e2, e3, e4, e5⟩ := C15_swap_exact p p' _ _ lw rw hfit hsm
  obtain ⟨e6, e7⟩ := C15_swap_keeps_reserves p p' _ _ lw rw hfit hsm
  exact ⟨p', lw, rw, hp', hsm, e1, e2, e3, e4, e5, e6, e7⟩

/-- `C15_product` lifted to the block: every pool that exists before the swap phase exists after it, with a
    reserve product at least as large. No assumption on the transaction hashes is needed. -/
theorem C15_block_product (s s' : State) (h : processSwaps s = .ok s') (k : PoolKey) (p : PoolState)
    (hp : s.pools.get k = some p)
    (hfit : p.lefts + swapTL k (swapReqs s k) ≤ U128_MAX ∧ p.rights + swapTR k (swapReqs s k) ≤ U128_MAX) :
    ∃ p', s'.pools.get k = some p' ∧ p.lefts * p.rights ≤ p'.lefts * p'.rights ∧ p'.liqs = p.liqs := by
  obtain ⟨_, hnone, _, hsome⟩ := swap_phase h
  by_cases hk : swapReqs s k = []
  · exact ⟨p, by rw [hnone k hk]; exact hp, Nat.le_refl _, rfl⟩
  · obtain ⟨q, p', lw, rw, hq, hp', hsm, _⟩ := hsome k hk
    rw [hp] at hq; cases hq
    exact ⟨p', hp', C15_product p p' _ _ lw rw hfit hsm, (C15_swap_exact p p' _ _ lw rw hfit hsm).2.2.1⟩

/-- `process_deposits_for_single_pool` (pool `k`, deposits `deps`; an absent pool counts as the empty pool):
    `deposit l r` of the pool for the totals of the two sides gives `(p', minted)`. If recording `minted` would
    overflow the pool's liquidity the deposits are left unsettled and the state is unchanged. Otherwise the pool
    becomes `p'`, every depositor's first coin is rewritten to `min ⌊minted·wᵢ/W⌋ u128::MAX` liquidity tokens of the
    pool (`wᵢ = mtsqrt(lᵢ, rᵢ)`, `W` their saturating sum), the second coin is removed (outside the legacy window,
    where it stays), and other pools and coins are unchanged. -/
theorem C15_deposit_phase_pool (env : Env) (k : PoolKey) (s s' : State) (deps : List Tx)
    -- needed, as in `C15_swap_phase_pool_needs_unique_hashes`
    (hnd : (deps.map (·.hash)).Nodup)
    (h : processDepositsForPool env k s deps = .ok s') :
    ∃ p' minted, ((s.pools.get k).getD PoolState.newEmpty).deposit (depTL deps) (depTR deps) = .ok (p', minted) ∧
      (((s.pools.get k).getD PoolState.newEmpty).liqs + minted > U128_MAX → s' = s) ∧
      (((s.pools.get k).getD PoolState.newEmpty).liqs + minted ≤ U128_MAX →
        s'.pools.get k = some p' ∧ (∀ k', k' ≠ k → s'.pools.get k' = s.pools.get k') ∧
        DepPaid env k deps s.height (legacyDeposit s) minted s.coins s'.coins ∧
        (∀ id, (∀ tx ∈ deps, id ≠ ⟨tx.hash, 0⟩ ∧ id ≠ ⟨tx.hash, 1⟩) → s'.coins.getCoin id = s.coins.getCoin id)) ∧
      s'.txs = s.txs ∧ s'.height = s.height := by
  obtain ⟨p', minted, hdep, h1, h2, hb⟩ := deposit_phase_pool h
  refine ⟨p', minted, hdep, h1, fun hle => ?_, hb.txs, hb.height⟩
  obtain ⟨e, hpaid, hun⟩ := h2 hle
  refine ⟨by rw [e]; exact AList.get_set_self _ _ _, fun k' hne => by rw [e]; exact AList.get_set_ne _ _ hne,
    hpaid hnd, hun⟩

/-- the whole deposit phase (`process_deposits`): pools without deposit requests and coins that are not first or
    second outputs of deposit requests are unchanged; every pool with requests is settled once, from its own state
    before the phase and its own requests only, as `C15_deposit_phase_pool` says -/
theorem C15_deposit_phase (env : Env) (s s' : State) (h : processDeposits env s = .ok s')
    (hnd : (s.txs.map (·.hash)).Nodup) :
    (s'.txs = s.txs ∧ s'.height = s.height ∧ s'.network = s.network) ∧
    (∀ k, depReqs s k = [] → s'.pools.get k = s.pools.get k) ∧
    (∀ id, (∀ tx ∈ s.txs, isDepositRequest s tx = true → id ≠ ⟨tx.hash, 0⟩ ∧ id ≠ ⟨tx.hash, 1⟩) →
      s'.coins.getCoin id = s.coins.getCoin id) ∧
    (∀ k, depReqs s k ≠ [] → ∃ p' minted,
      ((s.pools.get k).getD PoolState.newEmpty).deposit (depTL (depReqs s k)) (depTR (depReqs s k))
        = .ok (p', minted) ∧
      (((s.pools.get k).getD PoolState.newEmpty).liqs + minted > U128_MAX →
        s'.pools.get k = s.pools.get k ∧
        ∀ tx ∈ depReqs s k, ∀ i, s'.coins.getCoin ⟨tx.hash, i⟩ = s.coins.getCoin ⟨tx.hash, i⟩) ∧
      (((s.pools.get k).getD PoolState.newEmpty).liqs + minted ≤ U128_MAX →
        s'.pools.get k = some p' ∧
        DepPaid env k (depReqs s k) s.height (legacyDeposit s) minted s.coins s'.coins)) := by
  obtain ⟨hb, hp, hun, hd⟩ := phase_pools (depLocal env (s.txs.filter (isDepositRequest s))) h
  refine ⟨⟨hb.txs, hb.height, hb.network⟩, hp, fun id hid => hun id (fun tx htx => ?_), fun k hk => ?_⟩
  · obtain ⟨h3, h4⟩ := List.mem_filter.mp htx
    exact slots2.mpr (hid tx h3 h4)
  · -- the run `st ↦ st'` that settled `k` saw the pool and the requests' coins of `s`, and `s'` kept what it left
    obtain ⟨st, st', hF, hbs, hps, hps', hc⟩ := hd k hk
    obtain ⟨hc1, hc2⟩ := hc (nodup_map_filter _ _ hnd)
    obtain ⟨p', minted, hdep, hcase⟩ := processDepositsForPool_inv hF
    rw [← hps] at hdep
    refine ⟨p', minted, hdep, ?_⟩
    rcases hcase with ⟨hsat, rfl⟩ | ⟨hsat, coins, hfold, e⟩ <;> rw [← hps] at hsat
    · refine ⟨fun _ => ⟨hps'.symm.trans hps.symm, fun tx htx i => ?_⟩, fun hle => absurd hsat (Nat.not_lt.mpr hle)⟩
      rw [← hc2 tx htx i, ← hc1 tx htx i]
    · refine ⟨fun hgt => absurd hgt hsat, fun _ => ⟨?_, ?_⟩⟩
      · rw [← hps', e]; exact AList.get_set_self _ _ _
      · obtain ⟨hpos, hpaid⟩ := depFold_paid (transactionsForPool_nodup (nodup_map_filter _ _ hnd) k) hfold
        rw [hbs.height, hbs.legacyDeposit] at hpaid
        refine .of_paidAt hpos (hpaid.congr (fun tx htx i => ?_)
          (fun tx htx i _ => congrFun (depNew_congr (hc1 tx htx 1)) i))
        rw [← hc2 tx htx i, e]

/-- `C15_deposit` lifted to the block: a pool without liquidity is seeded with the amounts paid in and `minted = l`;
    otherwise `minted = ⌊√(liqs²·(l·r)/(lefts·rights))⌋`, the reserves grow by exactly `l` and `r` and the liquidity
    record by exactly `minted`. What the depositors are handed adds up to at most `minted` (when the weights' total
    is their exact sum). -/
theorem C15_block_deposit_proportional (env : Env) (s s' : State) (h : processDeposits env s = .ok s')
    (hnd : (s.txs.map (·.hash)).Nodup) (k : PoolKey) (hk : depReqs s k ≠ []) (p : PoolState)
    (hp : (s.pools.get k).getD PoolState.newEmpty = p)
    (hfit : p.lefts + depTL (depReqs s k) ≤ U128_MAX ∧ p.rights + depTR (depReqs s k) ≤ U128_MAX) :
    ∃ p' minted, p.deposit (depTL (depReqs s k)) (depTR (depReqs s k)) = .ok (p', minted) ∧
      (p.liqs + minted ≤ U128_MAX → s'.pools.get k = some p' ∧
        (p.liqs = 0 → minted = depTL (depReqs s k) ∧ p'.lefts = depTL (depReqs s k) ∧
          p'.rights = depTR (depReqs s k) ∧ p'.liqs = minted) ∧
        (p.liqs ≠ 0 →
          minted = min (Nat.sqrt (p.liqs ^ 2 * (depTL (depReqs s k) * depTR (depReqs s k)) / (p.lefts * p.rights)))
            U128_MAX ∧
          p'.lefts = p.lefts + depTL (depReqs s k) ∧ p'.rights = p.rights + depTR (depReqs s k) ∧
          p'.liqs = p.liqs + minted) ∧
        (((depReqs s k).map depW).sum ≤ U128_MAX → paidOut s'.coins 0 (depReqs s k) ≤ minted)) := by
  obtain ⟨_, _, _, hsome⟩ := C15_deposit_phase env s s' h hnd
  obtain ⟨p', minted, hdep, _, h2⟩ := hsome k hk
  rw [hp] at hdep h2
  refine ⟨p', minted, hdep, fun hle => ?_⟩
  obtain ⟨hp', hpaid⟩ := h2 hle
  obtain ⟨c1, c2⟩ := C15_deposit p p' _ _ minted hdep hfit
  refine ⟨hp', ?_, ?_, ?_⟩
  · intro hz
    obtain ⟨a, b, c, d⟩ := c1 hz
    exact ⟨a, b, c, by rw [d, a]⟩
  · intro hz
    obtain ⟨a, b, c, d⟩ := c2 hz
    exact ⟨a, b, c, d.trans (Nat.min_eq_left hle)⟩
  · intro hw
    exact paidOut_le depW minted (depTW (depReqs s k)) (satSum_eq_sum _ hw)
      fun tx htx => coinValueAt_capped (hpaid.token tx htx).2 rfl

/-- `process_withdrawals_for_single_pool` (pool `k` in state `p`, requests `reqs` redeeming `q = wdT reqs` tokens in
    total): requests for more than the pool's whole liquidity are left unsettled (state unchanged). Otherwise the
    pool becomes the `p'` of `p.withdraw q = (p', tl, tr)`; every request redeeming `qᵢ` gets `min ⌊tl·qᵢ/q⌋ u128::MAX`
    lefts at its first output and `min ⌊tr·qᵢ/q⌋ u128::MAX` rights as a new coin at index 1; other pools and coins
    are unchanged. -/
theorem C15_withdraw_phase_pool (k : PoolKey) (s s' : State) (reqs : List Tx) (p : PoolState)
    (hp : s.pools.get k = some p)
    -- needed, as in `C15_swap_phase_pool_needs_unique_hashes`
    (hnd : (reqs.map (·.hash)).Nodup)
    (h : processWithdrawalsForPool k s reqs = .ok s') :
    (wdT reqs > p.liqs → s' = s) ∧
    (wdT reqs ≤ p.liqs → ∃ p' tl tr, p.withdraw (wdT reqs) = .ok (p', tl, tr) ∧
      s'.pools.get k = some p' ∧ (∀ k', k' ≠ k → s'.pools.get k' = s.pools.get k') ∧
      WdPaid k reqs s.height tl tr s'.coins ∧
      (∀ id, (∀ tx ∈ reqs, id ≠ ⟨tx.hash, 0⟩ ∧ id ≠ ⟨tx.hash, 1⟩) → s'.coins.getCoin id = s.coins.getCoin id)) ∧
    s'.txs = s.txs ∧ s'.height = s.height := by
  obtain ⟨h1, h2, hb⟩ := withdraw_phase_pool hp h
  refine ⟨h1, fun hle => ?_, hb.txs, hb.height⟩
  obtain ⟨p', tl, tr, hw, e, hpaid, hun⟩ := h2 hle
  exact ⟨p', tl, tr, hw, by rw [e]; exact AList.get_set_self _ _ _,
    fun k' hne => by rw [e]; exact AList.get_set_ne _ _ hne, hpaid hnd, hun⟩

theorem C15_withdraw_phase (env : Env) (s s' : State) (h : processWithdrawals env s = .ok s')
    (hnd : (s.txs.map (·.hash)).Nodup) :
    (s'.txs = s.txs ∧ s'.height = s.height ∧ s'.network = s.network) ∧
    (∀ k, wdReqs env s k = [] → s'.pools.get k = s.pools.get k) ∧
    (∀ id, (∀ tx ∈ s.txs, isWithdrawRequest env s tx = true → id ≠ ⟨tx.hash, 0⟩ ∧ id ≠ ⟨tx.hash, 1⟩) →
      s'.coins.getCoin id = s.coins.getCoin id) ∧
    (∀ k, wdReqs env s k ≠ [] → ∃ p, s.pools.get k = some p ∧
      (wdT (wdReqs env s k) > p.liqs →
        s'.pools.get k = some p ∧
        ∀ tx ∈ wdReqs env s k, ∀ i, s'.coins.getCoin ⟨tx.hash, i⟩ = s.coins.getCoin ⟨tx.hash, i⟩) ∧
      (wdT (wdReqs env s k) ≤ p.liqs → ∃ p' tl tr, p.withdraw (wdT (wdReqs env s k)) = .ok (p', tl, tr) ∧
        s'.pools.get k = some p' ∧ WdPaid k (wdReqs env s k) s.height tl tr s'.coins)) := by
  obtain ⟨hb, hp, hun, hd⟩ := phase_pools (wdLocal (s.txs.filter (isWithdrawRequest env s))) h
  refine ⟨⟨hb.txs, hb.height, hb.network⟩, hp, fun id hid => hun id (fun tx htx => ?_), fun k hk => ?_⟩
  · obtain ⟨h3, h4⟩ := List.mem_filter.mp htx
    exact slots2.mpr (hid tx h3 h4)
  · obtain ⟨st, st', hF, hbs, hps, hps', hc⟩ := hd k hk
    obtain ⟨hc1, hc2⟩ := hc (nodup_map_filter _ _ hnd)
    obtain ⟨p, hp0, hcase⟩ := processWithdrawalsForPool_inv hF
    refine ⟨p, hps.trans hp0, ?_⟩
    rcases hcase with ⟨hgt, rfl⟩ | ⟨hgt, p', tl, tr, coins, hw, hfold, e⟩
    · refine ⟨fun _ => ⟨hps'.symm.trans hp0, fun tx htx i => ?_⟩, fun hle => absurd hgt (Nat.not_lt.mpr hle)⟩
      rw [← hc2 tx htx i, ← hc1 tx htx i]
    · refine ⟨fun h' => absurd h' hgt, fun _ => ⟨p', tl, tr, hw, ?_, ?_⟩⟩
      · rw [← hps', e]; exact AList.get_set_self _ _ _
      · obtain ⟨hpos, hpaid⟩ := wdFold_paid (transactionsForPool_nodup (nodup_map_filter _ _ hnd) k) hfold
        rw [hbs.height] at hpaid
        refine .of_paidAt hpos (hpaid.congr (fun tx htx i => ?_) (fun _ _ _ _ => rfl))
        rw [← hc2 tx htx i, e]

/-- `C15_withdraw` lifted to the block: a settled pool gives up exactly what it pays, burns exactly `q`, and pays
    `⌊lefts·q/liqs⌋`, `⌊rights·q/liqs⌋` (everything when `q` is all the liquidity); what the requests are handed on
    each side adds up to at most `tl` / `tr` (when the total redeemed is the exact sum of the requests) -/
theorem C15_block_withdraw_proportional (env : Env) (s s' : State) (h : processWithdrawals env s = .ok s')
    (hnd : (s.txs.map (·.hash)).Nodup) (k : PoolKey) (hk : wdReqs env s k ≠ []) (p : PoolState)
    (hp : s.pools.get k = some p) (hle : wdT (wdReqs env s k) ≤ p.liqs) :
    ∃ p' tl tr, p.withdraw (wdT (wdReqs env s k)) = .ok (p', tl, tr) ∧ s'.pools.get k = some p' ∧
      p'.liqs + wdT (wdReqs env s k) = p.liqs ∧ p'.lefts + tl = p.lefts ∧ p'.rights + tr = p.rights ∧
      (wdT (wdReqs env s k) < p.liqs →
        tl = p.lefts * wdT (wdReqs env s k) / p.liqs ∧ tr = p.rights * wdT (wdReqs env s k) / p.liqs) ∧
      (wdT (wdReqs env s k) = p.liqs → tl = p.lefts ∧ tr = p.rights) ∧
      (((wdReqs env s k).map fun tx => (out0 tx).value).sum ≤ U128_MAX →
        paidOut s'.coins 0 (wdReqs env s k) ≤ tl ∧ paidOut s'.coins 1 (wdReqs env s k) ≤ tr) := by
  obtain ⟨_, _, _, hsome⟩ := C15_withdraw_phase env s s' h hnd
  obtain ⟨q, hq, _, h2⟩ := hsome k hk
  rw [hp] at hq; cases hq
  obtain ⟨p', tl, tr, hw, hp', hpaid⟩ := h2 hle
  obtain ⟨_, c2, c3, c4, c5, c6⟩ := C15_withdraw p p' _ tl tr hw
  refine ⟨p', tl, tr, hw, hp', c2, c3, c4, c5, c6, fun hs => ⟨?_, ?_⟩⟩
  · exact paidOut_le (fun tx => (out0 tx).value) tl (wdT (wdReqs env s k)) (satSum_eq_sum _ hs)
      fun tx htx => coinValueAt_capped (hpaid.paid tx htx).2.1 rfl
  · exact paidOut_le (fun tx => (out0 tx).value) tr (wdT (wdReqs env s k)) (satSum_eq_sum _ hs)
      fun tx htx => coinValueAt_capped (hpaid.paid tx htx).2.2 rfl


/-! Counterexamples for the hypotheses `hnd` and `sumL … ≤ U128_MAX`, and non-vacuity on literal states. -/

namespace C15BlockWitness

def env : Env := {
  vm := { hash := id, sigOk := fun _ _ _ => true },
  liqHash := id, fdp := fun h => 9 :: h, rewardId := fun _ => [], hdrHash := fun _ => [],
  powOk := fun _ _ _ _ => .invalid, isGrandfathered := fun _ => false,
  historyRoot := fun _ => [], coinsRoot := fun _ => [], txsRoot := fun _ _ => [],
  poolsRoot := fun _ => [], stakesRoot := fun _ => [] }

def getOk {α} [Inhabited α] : Outcome α → α
  | .ok a => a
  | _ => default

theorem eq_getOk {α} [Inhabited α] {o : Outcome α} (h : o.isOk = true) : o = .ok (getOk o) := by
  cases o <;> first | rfl | cases h

theorem ok_of_toOption {α} {o : Outcome α} {a : α} (h : o.toOption = some a) : o = .ok a := by
  cases o with
  | ok b => simp only [Outcome.toOption, Option.some.injEq] at h; rw [h]
  | reject e => cases h
  | crash c => cases h

def swapTx (n : UInt8) (v : Nat) (d : Denom) (name : Bytes) : Tx := {
  kind := .swap, inputs := [], outputs := [(⟨[7], v, d, []⟩ : CoinData)], fee := 0,
  covenants := [], data := name, sigs := [], hash := [n], rawLen := 0, covHashes := [] }

def txA : Tx := swapTx 2 100 .mel [115]   -- 100 MEL into MEL/SYM
def txB : Tx := swapTx 3 300 .mel [115]   -- 300 MEL into MEL/SYM
def txC : Tx := swapTx 4 70 .erg [100]    -- 70 ERG into ERG/MEL (`poolMelErg`; ERG is its left side)

/-- two pools — MEL/SYM (1000, 1000) and ERG/MEL (5000, 2000) — and three swap requests, two of them on MEL/SYM -/
def st : State := {
  network := .custom02, height := 10, history := [],
  coins := { coins := [(⟨[2], 0⟩, ⟨⟨[7], 100, .mel, []⟩, 10⟩), (⟨[3], 0⟩, ⟨⟨[7], 300, .mel, []⟩, 10⟩),
                       (⟨[4], 0⟩, ⟨⟨[7], 70, .erg, []⟩, 10⟩)], counts := [([7], 3)] },
  txs := [txA, txB, txC], feePool := 0, feeMultiplier := 0, tips := 0, doscSpeed := 0,
  pools := [(poolMelSym, ⟨1000, 1000, 0, 1000⟩), (poolMelErg, ⟨5000, 2000, 0, 3000⟩)], stakes := [] }

def st' : State := getOk (processSwaps st)

theorem swap_facts :
    (processSwaps st).isOk = true ∧ swapReqs st poolMelSym = [txA, txB] ∧ swapReqs st poolMelErg = [txC] ∧
    st'.pools.get poolMelSym = some ⟨1400, 716, 1955307, 1000⟩ ∧
    st'.pools.get poolMelErg = some ⟨5070, 1973, 2569690, 3000⟩ ∧
    st'.coins.getCoin ⟨[2], 0⟩ = some ⟨⟨[7], 71, .sym, []⟩, 10⟩ ∧
    st'.coins.getCoin ⟨[3], 0⟩ = some ⟨⟨[7], 213, .sym, []⟩, 10⟩ ∧
    st'.coins.getCoin ⟨[4], 0⟩ = some ⟨⟨[7], 27, .mel, []⟩, 10⟩ := by decide +kernel

theorem swap_bounds :
    (⟨1000, 1000, 0, 1000⟩ : PoolState).lefts + swapTL poolMelSym (swapReqs st poolMelSym) ≤ U128_MAX ∧
    (⟨1000, 1000, 0, 1000⟩ : PoolState).rights + swapTR poolMelSym (swapReqs st poolMelSym) ≤ U128_MAX ∧
    sumL poolMelSym (swapReqs st poolMelSym) ≤ U128_MAX ∧ sumR poolMelSym (swapReqs st poolMelSym) ≤ U128_MAX := by
  decide +kernel

theorem swaps_ok : processSwaps st = .ok st' := eq_getOk swap_facts.1
theorem nodup : (st.txs.map (·.hash)).Nodup := by decide
theorem reqsMelSym : swapReqs st poolMelSym = [txA, txB] := swap_facts.2.1
theorem reqsMelSym_ne : swapReqs st poolMelSym ≠ [] := by rw [reqsMelSym]; exact List.cons_ne_nil _ _

theorem values :
    st'.pools.get poolMelSym = some ⟨1400, 716, 1955307, 1000⟩ ∧
    st'.pools.get poolMelErg = some ⟨5070, 1973, 2569690, 3000⟩ ∧
    st'.coins.getCoin ⟨[2], 0⟩ = some ⟨⟨[7], 71, .sym, []⟩, 10⟩ ∧
    st'.coins.getCoin ⟨[3], 0⟩ = some ⟨⟨[7], 213, .sym, []⟩, 10⟩ ∧
    st'.coins.getCoin ⟨[4], 0⟩ = some ⟨⟨[7], 27, .mel, []⟩, 10⟩ := swap_facts.2.2.2

/-! `hnd`: two requests with one hash -/

def dupA : Tx := swapTx 2 100 .mel [115]
def dupB : Tx := swapTx 2 300 .mel [115]
def dupSt : State := { st with
  coins := { coins := [(⟨[2], 0⟩, ⟨⟨[7], 100, .mel, []⟩, 10⟩)], counts := [([7], 1)] }, txs := [dupA, dupB] }

/-! `sumL … ≤ U128_MAX`: two requests whose values add up to more than a u128 -/

def bigA : Tx := swapTx 2 U128_MAX .mel [115]
def bigB : Tx := swapTx 3 U128_MAX .mel [115]
def bigSt : State := { st with
  coins := { coins := [(⟨[2], 0⟩, ⟨⟨[7], U128_MAX, .mel, []⟩, 10⟩), (⟨[3], 0⟩, ⟨⟨[7], U128_MAX, .mel, []⟩, 10⟩)],
             counts := [([7], 2)] }, txs := [bigA, bigB] }
def bigSt' : State := getOk (processSwaps bigSt)
theorem big_ok : processSwaps bigSt = .ok bigSt' := eq_getOk (by decide +kernel)

/-! deposits and withdrawals: two depositors (100/100 and 300/300) into MEL/SYM (1000, 1000, 1000 tokens issued), and
    in another block one withdrawal of 50 of its tokens (`env.liqHash` is the identity: the token is `custom [115]`) -/

def depTx (n : UInt8) (l r : Nat) : Tx := {
  kind := .liqDeposit, inputs := [], outputs := [(⟨[7], l, .mel, []⟩ : CoinData), ⟨[7], r, .sym, []⟩], fee := 0,
  covenants := [], data := [115], sigs := [], hash := [n], rawLen := 0, covHashes := [] }
def dep1 : Tx := depTx 2 100 100
def dep2 : Tx := depTx 3 300 300
def depSt : State := { st with
  coins := { coins := [(⟨[2], 0⟩, ⟨⟨[7], 100, .mel, []⟩, 10⟩), (⟨[2], 1⟩, ⟨⟨[7], 100, .sym, []⟩, 10⟩),
                       (⟨[3], 0⟩, ⟨⟨[7], 300, .mel, []⟩, 10⟩), (⟨[3], 1⟩, ⟨⟨[7], 300, .sym, []⟩, 10⟩)],
             counts := [([7], 4)] }, txs := [dep1, dep2] }
def depSt' : State := getOk (processDeposits env depSt)
theorem dep_facts :
    (processDeposits env depSt).isOk = true ∧ depReqs depSt poolMelSym = [dep1, dep2] ∧
    depSt'.pools.get poolMelSym = some ⟨1400, 1400, 0, 1400⟩ ∧
    depSt'.coins.getCoin ⟨[2], 0⟩ = some ⟨⟨[7], 102, .custom [115], []⟩, 10⟩ ∧
    depSt'.coins.getCoin ⟨[3], 0⟩ = some ⟨⟨[7], 297, .custom [115], []⟩, 10⟩ ∧
    depSt'.coins.getCoin ⟨[2], 1⟩ = none ∧ depSt'.coins.getCoin ⟨[3], 1⟩ = none := by decide +kernel
theorem deps_ok : processDeposits env depSt = .ok depSt' := eq_getOk dep_facts.1
theorem depNodup : (depSt.txs.map (·.hash)).Nodup := by decide
theorem depReqsMelSym : depReqs depSt poolMelSym = [dep1, dep2] := dep_facts.2.1

def wdTx : Tx := {
  kind := .liqWithdraw, inputs := [], outputs := [(⟨[7], 50, .custom [115], []⟩ : CoinData)], fee := 0,
  covenants := [], data := [115], sigs := [], hash := [2], rawLen := 0, covHashes := [] }
def wdSt : State := { st with
  coins := { coins := [(⟨[2], 0⟩, ⟨⟨[7], 50, .custom [115], []⟩, 10⟩)], counts := [([7], 1)] }, txs := [wdTx] }
def wdSt' : State := getOk (processWithdrawals env wdSt)
theorem wd_facts :
    (processWithdrawals env wdSt).isOk = true ∧ wdReqs env wdSt poolMelSym = [wdTx] ∧
    wdSt'.pools.get poolMelSym = some ⟨950, 950, 0, 950⟩ ∧
    wdSt'.coins.getCoin ⟨[2], 0⟩ = some ⟨⟨[7], 50, .mel, []⟩, 10⟩ ∧
    wdSt'.coins.getCoin ⟨[2], 1⟩ = some ⟨⟨[7], 50, .sym, []⟩, 10⟩ := by decide +kernel
theorem wds_ok : processWithdrawals env wdSt = .ok wdSt' := eq_getOk wd_facts.1
theorem wdNodup : (wdSt.txs.map (·.hash)).Nodup := by decide
theorem wdReqsMelSym : wdReqs env wdSt poolMelSym = [wdTx] := wd_facts.2.1

end C15BlockWitness

open C15BlockWitness in
/-- with two requests of one hash the payout formula of `C15_swap_phase_pool` fails for the first of them: the coin
    `⟨[2], 0⟩` holds the second request's share (213), not the first's (71) -/
theorem C15_swap_phase_pool_needs_unique_hashes :
    ∃ s', processSwapsForPool poolMelSym dupSt [dupA, dupB] = .ok s' ∧
      dupSt.pools.get poolMelSym = some ⟨1000, 1000, 0, 1000⟩ ∧
      (⟨1000, 1000, 0, 1000⟩ : PoolState).swapMany (swapTL poolMelSym [dupA, dupB]) (swapTR poolMelSym [dupA, dupB])
        = .ok (⟨1400, 716, 1955307, 1000⟩, 0, 284) ∧
      (out0 dupA).denom = poolMelSym.left ∧
      s'.coins.getCoin ⟨dupA.hash, 0⟩ ≠ some ⟨{ out0 dupA with
        denom := poolMelSym.right,
        value := min (284 * (out0 dupA).value / swapTL poolMelSym [dupA, dupB]) MAX_COINVAL }, dupSt.height⟩ :=
  ⟨getOk (processSwapsForPool poolMelSym dupSt [dupA, dupB]), eq_getOk (by decide +kernel), by decide +kernel,
    ok_of_toOption (by decide +kernel), by decide +kernel, by decide +kernel⟩

open C15BlockWitness in
/-- … so `C15_swap_phase_pool` without `hnd` is false: its conclusion fails on that literal -/
theorem C15_swap_phase_pool_false_without_unique_hashes :
    ¬ ∀ (k : PoolKey) (s s' : State) (swaps : List Tx) (p : PoolState), s.pools.get k = some p →
      processSwapsForPool k s swaps = .ok s' →
      ∃ p' lw rw, p.swapMany (swapTL k swaps) (swapTR k swaps) = .ok (p', lw, rw) ∧
        ∀ tx ∈ swaps, (out0 tx).denom = k.left →
          s'.coins.getCoin ⟨tx.hash, 0⟩ = some ⟨{ out0 tx with
            denom := k.right, value := min (rw * (out0 tx).value / swapTL k swaps) MAX_COINVAL }, s.height⟩ := by
  intro hall
  obtain ⟨s', hs', hp, hsm, hd, hne⟩ := C15_swap_phase_pool_needs_unique_hashes
  obtain ⟨p', lw, rw, hsm', hc⟩ := hall poolMelSym dupSt s' [dupA, dupB] _ hp hs'
  rw [hsm] at hsm'
  cases hsm'
  exact hne (hc dupA List.mem_cons_self hd)

open C15BlockWitness in
/-- with a saturated total the left side is paid out more than the pool gave up: `total_lefts = u128::MAX` for two
    requests of `u128::MAX` each, both are handed the whole `rw = 995` -/
theorem C15_block_payout_needs_unsaturated_total :
    processSwaps bigSt = .ok bigSt' ∧ (bigSt.txs.map (·.hash)).Nodup ∧ swapReqs bigSt poolMelSym = [bigA, bigB] ∧
      (⟨1000, 1000, 0, 1000⟩ : PoolState).swapMany (swapTL poolMelSym [bigA, bigB]) (swapTR poolMelSym [bigA, bigB])
        = .ok (⟨U128_MAX, 5, 68056473384187692692674921486353642291, 1000⟩, 0, 995) ∧
      paidOut bigSt'.coins 0 ((swapReqs bigSt poolMelSym).filter fun tx => (out0 tx).denom = poolMelSym.left) = 1990 :=
  ⟨big_ok, by decide, by decide +kernel, ok_of_toOption (by decide +kernel), by decide +kernel⟩

open C15BlockWitness in
/-- … so `C15_block_payout_bounded` without `sumL … ≤ U128_MAX` is false -/
theorem C15_block_payout_false_with_saturated_total :
    ¬ ∀ (s s' : State) (k : PoolKey) (p p' : PoolState) (lw rw : Nat), processSwaps s = .ok s' →
      (s.txs.map (·.hash)).Nodup → s.pools.get k = some p →
      p.swapMany (swapTL k (swapReqs s k)) (swapTR k (swapReqs s k)) = .ok (p', lw, rw) →
      paidOut s'.coins 0 ((swapReqs s k).filter fun tx => (out0 tx).denom = k.left) ≤ rw := by
  intro hall
  obtain ⟨h1, h2, h3, h4, h5⟩ := C15_block_payout_needs_unsaturated_total
  have := hall bigSt bigSt' poolMelSym ⟨1000, 1000, 0, 1000⟩ _ 0 995 h1 h2 rfl (by rw [h3]; exact h4)
  rw [h5] at this
  omega

open C15BlockWitness in
/-- non-vacuity: every hypothesis of the swap theorems holds on the block `C15BlockWitness.st`: MEL/SYM takes 400 MEL
    and pays 284 SYM (71 + 213), ERG/MEL takes 70 ERG and pays 27 MEL -/
theorem C15_block_nonvacuous :
    processSwaps st = .ok st' ∧ (st.txs.map (·.hash)).Nodup ∧
    swapReqs st poolMelSym = [txA, txB] ∧ swapReqs st poolMelErg = [txC] ∧
    (∃ p, st.pools.get poolMelSym = some p ∧
      p.lefts + swapTL poolMelSym (swapReqs st poolMelSym) ≤ U128_MAX ∧
      p.rights + swapTR poolMelSym (swapReqs st poolMelSym) ≤ U128_MAX) ∧
    sumL poolMelSym (swapReqs st poolMelSym) ≤ U128_MAX ∧ sumR poolMelSym (swapReqs st poolMelSym) ≤ U128_MAX ∧
    st'.pools.get poolMelSym = some ⟨1400, 716, 1955307, 1000⟩ ∧
    st'.pools.get poolMelErg = some ⟨5070, 1973, 2569690, 3000⟩ ∧
    st'.coins.getCoin ⟨[2], 0⟩ = some ⟨⟨[7], 71, .sym, []⟩, 10⟩ ∧
    st'.coins.getCoin ⟨[3], 0⟩ = some ⟨⟨[7], 213, .sym, []⟩, 10⟩ ∧
    st'.coins.getCoin ⟨[4], 0⟩ = some ⟨⟨[7], 27, .mel, []⟩, 10⟩ := by
  obtain ⟨hl, hr, hsl, hsr⟩ := swap_bounds
  exact ⟨swaps_ok, nodup, reqsMelSym, swap_facts.2.2.1, ⟨_, rfl, hl, hr⟩, hsl, hsr, values⟩

section Instances
open C15BlockWitness

example := C15_swap_phase st st' swaps_ok nodup
example := C15_swap_phase_independent st st' swaps_ok nodup poolMelSym reqsMelSym_ne
example := C15_swap_phase_pool poolMelSym st (getOk (processSwapsForPool poolMelSym st [txA, txB])) [txA, txB]
  ⟨1000, 1000, 0, 1000⟩ rfl (by decide) (eq_getOk (by decide +kernel))
example := C15_single_price st st' swaps_ok nodup poolMelSym txA txB (by rw [reqsMelSym]; simp)
  (by rw [reqsMelSym]; simp) rfl
example := C15_block_payout_bounded st st' swaps_ok nodup poolMelSym reqsMelSym_ne
example := C15_block_reserves_exact st st' swaps_ok poolMelSym reqsMelSym_ne
  ⟨1000, 1000, 0, 1000⟩ rfl ⟨by decide +kernel, by decide +kernel⟩
example := C15_block_product st st' swaps_ok poolMelErg ⟨5000, 2000, 0, 3000⟩ (by decide +kernel)
  ⟨by decide +kernel, by decide +kernel⟩

end Instances

open C15BlockWitness in
/-- non-vacuity, deposits and withdrawals: the two depositors share the 400 tokens minted by their weights
    `mtsqrt` = 100 : 289 (102 and 297 tokens, rounded down) and lose their second coins; the withdrawer of 50 of the
    1000 tokens gets 50 MEL at output 0 and 50 SYM as a new coin at index 1 -/
theorem C15_block_nonvacuous_liq :
    (processDeposits env depSt = .ok depSt' ∧ (depSt.txs.map (·.hash)).Nodup ∧
      depReqs depSt poolMelSym = [dep1, dep2] ∧
      depSt'.pools.get poolMelSym = some ⟨1400, 1400, 0, 1400⟩ ∧
      depSt'.coins.getCoin ⟨[2], 0⟩ = some ⟨⟨[7], 102, .custom [115], []⟩, 10⟩ ∧
      depSt'.coins.getCoin ⟨[3], 0⟩ = some ⟨⟨[7], 297, .custom [115], []⟩, 10⟩ ∧
      depSt'.coins.getCoin ⟨[2], 1⟩ = none ∧ depSt'.coins.getCoin ⟨[3], 1⟩ = none) ∧
    (processWithdrawals env wdSt = .ok wdSt' ∧ (wdSt.txs.map (·.hash)).Nodup ∧
      wdReqs env wdSt poolMelSym = [wdTx] ∧
      wdSt'.pools.get poolMelSym = some ⟨950, 950, 0, 950⟩ ∧
      wdSt'.coins.getCoin ⟨[2], 0⟩ = some ⟨⟨[7], 50, .mel, []⟩, 10⟩ ∧
      wdSt'.coins.getCoin ⟨[2], 1⟩ = some ⟨⟨[7], 50, .sym, []⟩, 10⟩) :=
  ⟨⟨deps_ok, depNodup, depReqsMelSym, dep_facts.2.2⟩, ⟨wds_ok, wdNodup, wdReqsMelSym, wd_facts.2.2⟩⟩

section InstancesLiq
open C15BlockWitness

example := C15_deposit_phase_pool env poolMelSym depSt (getOk (processDepositsForPool env poolMelSym depSt [dep1, dep2]))
  [dep1, dep2] (by decide) (eq_getOk (by decide +kernel))
example := C15_withdraw_phase_pool poolMelSym wdSt (getOk (processWithdrawalsForPool poolMelSym wdSt [wdTx])) [wdTx]
  ⟨1000, 1000, 0, 1000⟩ rfl (by decide) (eq_getOk (by decide +kernel))
example := C15_deposit_phase env depSt depSt' deps_ok depNodup
example := C15_block_deposit_proportional env depSt depSt' deps_ok depNodup poolMelSym
  (by rw [depReqsMelSym]; exact List.cons_ne_nil _ _) ⟨1000, 1000, 0, 1000⟩ rfl
  ⟨by decide +kernel, by decide +kernel⟩
example := C15_withdraw_phase env wdSt wdSt' wds_ok wdNodup
example := C15_block_withdraw_proportional env wdSt wdSt' wds_ok wdNodup poolMelSym
  (by rw [wdReqsMelSym]; exact List.cons_ne_nil _ _) ⟨1000, 1000, 0, 1000⟩ rfl (by decide +kernel)

end InstancesLiq

end Mel

#print axioms Mel.C15_swap_phase_pool
#print axioms Mel.C15_swap_phase_pool_no_request
#print axioms Mel.C15_swapReqs_mem
#print axioms Mel.C15_request_one_pool
#print axioms Mel.C15_swap_phase
#print axioms Mel.C15_swap_phase_independent
#print axioms Mel.C15_single_price
#print axioms Mel.C15_block_payout_bounded
#print axioms Mel.C15_block_reserves_exact
#print axioms Mel.C15_block_product
#print axioms Mel.C15_deposit_phase_pool
#print axioms Mel.C15_deposit_phase
#print axioms Mel.C15_block_deposit_proportional
#print axioms Mel.C15_withdraw_phase_pool
#print axioms Mel.C15_withdraw_phase
#print axioms Mel.C15_block_withdraw_proportional
#print axioms Mel.C15_swap_phase_pool_needs_unique_hashes
#print axioms Mel.C15_block_payout_needs_unsaturated_total
#print axioms Mel.C15_swap_phase_pool_false_without_unique_hashes
#print axioms Mel.C15_block_payout_false_with_saturated_total
#print axioms Mel.C15_block_nonvacuous
#print axioms Mel.C15_block_nonvacuous_liq

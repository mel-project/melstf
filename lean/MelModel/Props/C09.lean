/-
  C09 — Validation is total: hostile input is rejected, never a crash or hang.
  Termination is by construction (every model function is structural or fuelled with proved-sufficient fuel, C11).
  (The seal part is in Props/C09Seal.lean.)
-/
import MelModel.ApplyTx
import MelModel.Lemmas.Total
namespace Mel
open Mel.Gen

/-- the count invariant of C20 (so that `count - 1` never underflows) -/
def CountsSound (m : CoinMap) : Prop :=
  (m.coins.map (·.1)).Nodup ∧ (m.counts.map (·.1)).Nodup ∧
  (∀ a, m.coinCount a = (m.coins.filter fun e => e.2.coinData.covhash = a).length) ∧ (∀ e ∈ m.counts, e.2 ≠ 0)

theorem CountsSound_iff (m : CoinMap) : CountsSound m ↔ CountsOk m := Iff.rfl

/-- the largest real DOSC reward a proof of difficulty `d` can earn against a previous DOSC speed `ds`
    (coin age 1, TIP-910 work and speed factors; before saturation to a u128) -/
def maxDoscReward (d ds : Nat) : Nat :=
  (TIP910_WORK_FACTOR * 2 ^ d) * (TIP910_SPEED_FACTOR * 2 ^ d) * MICRO_CONVERTER / (ds ^ 2 * REWARD_DIVISOR)

/-- what is assumed of the state a batch is applied to — everything but `rewardFits` (an explicitly excluded
    finding) and `powDifficulty` (a fact about the MelPoW verifier) holds of states reachable from a genesis whose
    per-denomination supply stays below 2^127.  Nothing is assumed of the covenant weights (F19): `loadRelevantCoins`
    rejects a batch with a transaction whose weights do not add up within a u128 (`C09_heavy_covenants_rejected`).
    Nothing is assumed of the oracle's answer `.panics` (F9: MelPoW verification, a dependency crate, panics on a
    proof lacking nodes it looks up): `validateDoscmint` rejects such a proof with `InvalidMelPoW`
    (`C09_doscmint_never_crashes_on_proof`, `C18_panicking_proof_rejected`); what the code did before that fix is
    recorded in `C09_old_pow_panic_crashes`. -/
structure ApplyPre (env : Env) (s : State) (txs : List Tx) : Prop where
  counts : CountsSound s.coins
  fresh : ∀ t ∈ txs, ∀ i, s.coins.getCoin ⟨t.hash, i⟩ = none
  /-- no coin is from the future; all coin values together with everything the batch creates stay below 2^128
      (supply bound), so no sum of spent coins overflows -/
  heights : ∀ id c, s.coins.getCoin id = some c → c.height ≤ s.height
  bounded : (s.coins.coins.map (·.2.coinData.value)).sum + ((txs.flatMap (·.outputs)).map (·.value)).sum ≤ U128_MAX
  /-- recorded DOSC speeds are positive (they start at 10^6 and never decrease) -/
  speeds : ∀ h hdr, s.history.get h = some hdr → 0 < hdr.doscSpeed
  /-- the history only has entries for earlier blocks (a header is recorded when its block is sealed and
      the height advances) — otherwise a DoscMint spending a coin of the current height divides by zero -/
  historyBelow : ∀ h hdr, s.history.get h = some hdr → h < s.height
  /-- `melpow::Proof::verify` returns `false` for every difficulty above 100; without this the model's
      oracle could accept a difficulty ≥ 128, for which `2u128.pow(difficulty)` overflows -/
  powDifficulty : ∀ a b c d, env.powOk a b c d ≠ .invalid → c ≤ 100
  /-- finding (see `C09_reward_overflow_witness`): `calculate_reward` saturates at `u128::MAX` and
      `dosc_to_erg` then multiplies by an inflator > 1 and panics.  Excluded: every difficulty the MelPoW
      oracle accepts is so small against the previous DOSC speed that even the largest possible reward,
      inflated, fits a u128 (for DOSC speed 10^6 this means difficulty ≤ 73 at height 1) -/
  rewardFits : ∀ hdr, s.history.get (s.height - 1) = some hdr → ∀ a b d t, env.powOk a b d t ≠ .invalid →
    microergsIter s.height * maxDoscReward d hdr.doscSpeed / MICRO_CONVERTER ≤ U128_MAX

/-- Applying is total: for every batch of arbitrary transactions the result is the new state or a
    rejection, never a crash — in particular whatever the covenant weights of the transactions add up to (F19)
    and whether or not the MelPoW verifier panics on the proof of a DoscMint (F9) -/
theorem C09_apply_total (env : Env) (s : State) (txs : List Tx) (fb : Header) (hp : ApplyPre env s txs) :
    ∀ c, applyBatch env s txs fb ≠ .crash c :=
  applyBatch_noCrash env s txs fb (fun _ => (CountsSound_iff _).mp hp.counts) hp.fresh hp.heights hp.bounded hp.speeds
    hp.historyBelow hp.powDifficulty hp.rewardFits

/-- the first phases never crash, whatever the state and the transactions -/
theorem C09_load_total (s : State) (txs : List Tx) : ∀ c, loadRelevantCoins s txs ≠ .crash c :=
  loadRelevantCoins_noCrash s txs

theorem C09_stake_info_total (s : State) (txs : List Tx) : ∀ c, loadStakeInfo s txs ≠ .crash c :=
  loadStakeInfo_noCrash s txs

/-- covenant decoding, weighing and execution are total functions of the model (they return `Option`s);
    the script check therefore never crashes -/
theorem C09_scripts_total (env : Env) (i : Nat) (id : CoinID) (tx : Tx) (coin : CoinDataHeight) (lh : Header) :
    ∀ c, validateTxScripts env i id tx coin lh ≠ .crash c :=
  validateTxScripts_noCrash env i id tx coin lh

/-- a transaction whose MEL outputs plus fee overflow a u128 is rejected up front (F18) -/
theorem C09_mel_total_guard (s : State) (txs : List Tx) (tx : Tx) (htx : tx ∈ txs) (hbad : tx.melTotalFits = false) :
    loadRelevantCoins s txs = .reject .malformedTx :=
  loadRelevantCoins_malformed s txs tx htx (by simp [hbad])

/-- … and so is a transaction whose covenant weights do not add up within a u128 (F19): `loadRelevantCoins`
    answers `MalformedTx` … -/
theorem C09_heavy_covenants_load_rejected (s : State) (txs : List Tx) (tx : Tx) (htx : tx ∈ txs)
    (hbad : tx.covWeightsFit = false) :
    loadRelevantCoins s txs = .reject .malformedTx :=
  loadRelevantCoins_heavy s txs tx htx hbad

/-- … hence so does `applyBatch`, which starts with `loadRelevantCoins`: the batch is rejected, under no
    assumption whatever on the state, the oracles or the other transactions; `Tx.weight` is never evaluated -/
theorem C09_heavy_covenants_rejected (env : Env) (s : State) (txs : List Tx) (fb : Header) (tx : Tx) (htx : tx ∈ txs)
    (hbad : tx.covWeightsFit = false) :
    applyBatch env s txs fb = .reject .malformedTx := by
  unfold applyBatch
  rw [loadRelevantCoins_heavy s txs tx htx hbad]
  rfl

/-- conversely every transaction of an accepted batch has covenant weights adding up within a u128, so its
    `Tx.weight` is a value (the hypothesis the fee theorems of C05 would otherwise need) -/
theorem C09_accepted_weights_fit (env : Env) (s s' : State) (txs : List Tx) (fb : Header)
    (h : applyBatch env s txs fb = .ok s') (tx : Tx) (htx : tx ∈ txs) :
    (tx.covenants.map covenantWeightFromBytes).sum ≤ U128_MAX ∧ ∃ w, tx.weight = .ok w := by
  obtain ⟨rel, _, _, hrel, _⟩ := applyBatch_ok h
  have hw : (tx.covenants.map covenantWeightFromBytes).sum ≤ U128_MAX := by
    simpa [Tx.covWeightsFit] using ((loadRelevantCoins_ok hrel).wf tx htx).2.2
  refine ⟨hw, satAdd128 (satAdd128 tx.rawLen (tx.covenants.map covenantWeightFromBytes).sum)
    (tx.outputs.length * 1000) - tx.inputs.length * 1000, ?_⟩
  unfold Tx.weight
  exact if_neg (Nat.not_lt.mpr hw)

/-- the crash branch of `Tx.weight` itself is there (in a dependency crate): a transaction
    failing `covWeightsFit` makes it panic; only the guard in `loadRelevantCoins` keeps it out of reach -/
theorem C09_old_weight_sum_crash_of (tx : Tx) (hbad : tx.covWeightsFit = false) :
    tx.weight = .crash "melstructs: covenant weight sum overflow" := by
  have h : (tx.covenants.map covenantWeightFromBytes).sum > U128_MAX := by
    simpa [Tx.covWeightsFit] using hbad
  unfold Tx.weight
  exact if_pos h

namespace C09Witness
open Mel.VM

/-- nine nested loops of 65535 iterations around a `noop`: mathematical weight about 2^144 -/
def heavyOps : List Op :=
  [.loop 65535 9, .loop 65535 8, .loop 65535 7, .loop 65535 6, .loop 65535 5, .loop 65535 4, .loop 65535 3,
   .loop 65535 2, .loop 65535 1, .noop]

def heavyCov : Bytes :=
  [encLoop, 255, 255, 0, 9, encLoop, 255, 255, 0, 8, encLoop, 255, 255, 0, 7, encLoop, 255, 255, 0, 6,
   encLoop, 255, 255, 0, 5, encLoop, 255, 255, 0, 4, encLoop, 255, 255, 0, 3, encLoop, 255, 255, 0, 2,
   encLoop, 255, 255, 0, 1, encNoop]

def heavyTx : Tx := {
  kind := .normal, inputs := [], outputs := [], fee := 0, covenants := [heavyCov, heavyCov],
  data := [], sigs := [], hash := [], rawLen := 0, covHashes := [] }

end C09Witness

open C09Witness in
/-- a concrete witness: the 46-byte covenant `heavyCov` decodes (to nine nested `loop 65535` around a `noop`) and
    has saturated weight `u128::MAX`; a well-formed transaction carrying it twice fails `covWeightsFit`, its
    `Tx.weight` panics — and every batch containing it is rejected with `MalformedTx` -/
theorem C09_old_weight_sum_crash :
    VM.encodeAll heavyOps = some heavyCov ∧ VM.decodeAll heavyCov = some heavyOps ∧
    covenantWeightFromBytes heavyCov = U128_MAX ∧
    heavyTx.isWellFormed = true ∧ heavyTx.melTotalFits = true ∧ heavyTx.covWeightsFit = false ∧
    heavyTx.weight = .crash "melstructs: covenant weight sum overflow" ∧
    ∀ (env : Env) (s : State) (txs : List Tx) (fb : Header), heavyTx ∈ txs →
      applyBatch env s txs fb = .reject .malformedTx := by
  have hbad : heavyTx.covWeightsFit = false := by decide +kernel
  exact ⟨by decide +kernel, by decide +kernel, by decide +kernel, by decide +kernel, by decide +kernel, hbad,
    C09_old_weight_sum_crash_of _ hbad,
    fun env s txs fb htx => C09_heavy_covenants_rejected env s txs fb heavyTx htx hbad⟩

/-- a DoscMint without inputs never reaches `expect(inputs[0])`: the balance check has already rejected it
    (its MEL total — at least the fee entry — has no input to match) -/
theorem C09_doscmint_has_input (env : Env) (s : State) (lh : Header) (tx : Tx) (rel : Relevant)
    (ns : AList Hash StakeDoc) (hk : tx.kind = .doscMint) (h : checkTxValidity env s lh tx rel ns = .ok ()) :
    tx.inputs ≠ [] :=
  checkTxValidity_ok_inputs (by rw [hk]; decide) h

/-- `rewardFits` cannot be dropped: at height 1 with the genesis DOSC speed 10^6, a TIP-910 proof of
    difficulty 74 on a coin of age 1 has speed 100·2^74; its reward saturates at `u128::MAX`, and inflating
    that by 1000001/1000000 panics in `dosc_to_erg` -/
theorem C09_reward_overflow_witness :
    computeDoscmintSpeed true 74 1 0 = .ok (100 * 2 ^ 74) ∧
    calculateReward (100 * 2 ^ 74) 1000000 74 true = .ok U128_MAX ∧
    doscToErg 1 U128_MAX = .crash "melmint.rs: dosc inflated so much it doesn't fit into a u128" :=
  ⟨rfl, rfl, rfl⟩

/-- the situation of the witnesses below: a non-mainnet state at height 1 whose history holds one header, at the
    height of the spent coin; every check before the proof check passes -/
theorem doscPre_first_block {s : State} {rel : Relevant} {tx : Tx} {id : CoinID} {rest : List CoinID}
    {coin : CoinDataHeight} {hdr : Header} {d h0 : Nat}
    (hnet : s.network ≠ .mainnet) (hheight : s.height = 1) (hhist : s.history = [(h0, hdr)])
    (hin : tx.inputs = id :: rest) (hrel : rel.get id = some coin) (hch : coin.height = h0) (hle : h0 ≤ 1)
    (hd : tx.powDifficulty = some d) (hparse : tx.powProofParses = true) :
    doscPre s rel tx = .ok ⟨id, coin, hdr, d⟩ := by
  rw [doscPre_eq_of (hdr := hdr) (by rw [hin]; rfl) hrel (by rw [hch, hheight]; exact hle)
    (by rw [hhist, hch]; simp [AList.get]) hd hparse]
  simp [hnet]

/-- … and the overflow is reachable through `validateDoscmint` (hence `applyBatch`) on any non-mainnet
    state at height 1 once the MelPoW oracle accepts a difficulty-74 proof: `powDifficulty` alone does not
    exclude it -/
theorem C09_doscmint_reward_crash (env : Env) (s : State) (rel : Relevant) (tx : Tx) (id : CoinID)
    (rest : List CoinID) (coin : CoinDataHeight) (hdr : Header)
    (hnet : s.network ≠ .mainnet) (hheight : s.height = 1) (hhist : s.history = [(0, hdr)])
    (hds : hdr.doscSpeed = 1000000)
    (hin : tx.inputs = id :: rest) (hrel : rel.get id = some coin) (hch : coin.height = 0)
    (hd : tx.powDifficulty = some 74) (hparse : tx.powProofParses = true)
    (hpow : env.powOk (env.hdrHash hdr) id 74 tx.hash = .tip910) :
    validateDoscmint env s rel tx = .crash "melmint.rs: dosc inflated so much it doesn't fit into a u128" := by
  rw [validateDoscmint_of_pre (doscPre_first_block hnet hheight hhist hin hrel hch (Nat.zero_le 1) hd hparse), hpow]
  simp only [doscTail, hch, hheight, hhist, AList.get, decide_true, C09_reward_overflow_witness.1,
    Outcome.bind_ok, if_true, Nat.succ_ne_self, if_false]
  rw [hds, C09_reward_overflow_witness.2.1, Outcome.bind_ok, C09_reward_overflow_witness.2.2]
  rfl

/-- `powDifficulty` cannot be dropped: an oracle accepting difficulty 128 makes `2u128.pow` overflow -/
theorem C09_doscmint_difficulty_crash (env : Env) (s : State) (rel : Relevant) (tx : Tx) (id : CoinID)
    (rest : List CoinID) (coin : CoinDataHeight) (hdr : Header)
    (hnet : s.network ≠ .mainnet) (hheight : s.height = 1) (hhist : s.history = [(0, hdr)])
    (hin : tx.inputs = id :: rest) (hrel : rel.get id = some coin) (hch : coin.height = 0)
    (hd : tx.powDifficulty = some 128) (hparse : tx.powProofParses = true)
    (hpow : env.powOk (env.hdrHash hdr) id 128 tx.hash = .legacy) :
    validateDoscmint env s rel tx = .crash "applytx.rs: 2u128.pow overflow" := by
  rw [validateDoscmint_of_pre (doscPre_first_block hnet hheight hhist hin hrel hch (Nat.zero_le 1) hd hparse), hpow]
  simp [doscTail, Outcome.bind, computeDoscmintSpeed]

/-- `historyBelow` cannot be dropped: a history entry at the current height lets a DoscMint spend a coin of
    age 0, and the speed computation divides by zero -/
theorem C09_doscmint_same_height_crash (env : Env) (s : State) (rel : Relevant) (tx : Tx) (id : CoinID)
    (rest : List CoinID) (coin : CoinDataHeight) (hdr : Header)
    (hnet : s.network ≠ .mainnet) (hheight : s.height = 1) (hhist : s.history = [(1, hdr)])
    (hin : tx.inputs = id :: rest) (hrel : rel.get id = some coin) (hch : coin.height = 1)
    (hd : tx.powDifficulty = some 10) (hparse : tx.powProofParses = true)
    (hpow : env.powOk (env.hdrHash hdr) id 10 tx.hash = .legacy) :
    validateDoscmint env s rel tx = .crash "applytx.rs: division by zero" := by
  rw [validateDoscmint_of_pre (doscPre_first_block hnet hheight hhist hin hrel hch (Nat.le_refl 1) hd hparse), hpow]
  simp [doscTail, hheight, hch, Outcome.bind, computeDoscmintSpeed]

/-- The MelPoW proof cannot crash the validation (F9): whatever the oracle answers for the
    proof — `.panics` included — `validateDoscmint` returns a speed or a rejection.  The hypotheses are those of
    the DoscMint totality lemma `validateDoscmint_noCrash`; none of them restricts the oracle's answer to
    exclude `.panics` (`powDifficulty` and `rewardFits` only speak of answers other than `.invalid` and bound the
    *difficulty*; for `.panics` they are not used: the transaction is rejected before any arithmetic). -/
theorem C09_doscmint_never_crashes_on_proof (env : Env) (s : State) (rel : Relevant) (tx : Tx)
    (hin : tx.inputs ≠ [])
    (heights : ∀ id c, rel.get id = some c → c.height ≤ s.height)
    (powDifficulty : ∀ a b c d, env.powOk a b c d ≠ .invalid → c ≤ 100)
    (historyBelow : ∀ h hdr, s.history.get h = some hdr → h < s.height)
    (speeds : ∀ h hdr, s.history.get h = some hdr → 0 < hdr.doscSpeed)
    (rewardFits : ∀ hdr, s.history.get (s.height - 1) = some hdr → ∀ a b d t, env.powOk a b d t ≠ .invalid →
      microergsIter s.height * maxDoscReward d hdr.doscSpeed / MICRO_CONVERTER ≤ U128_MAX) :
    ∀ c, validateDoscmint env s rel tx ≠ .crash c :=
  validateDoscmint_noCrash hin heights powDifficulty historyBelow speeds rewardFits

/-- … and when the verifier does panic, nothing at all is needed beyond the spent coin not being from the
    future: the outcome is a rejection (`nonexistentCoin`, `invalidMelPoW` or `malformedTx`), never a crash -/
theorem C09_doscmint_panicking_proof_rejects (env : Env) (s : State) (rel : Relevant) (tx : Tx)
    (hin : tx.inputs ≠ [])
    (heights : ∀ id c, rel.get id = some c → c.height ≤ s.height)
    (hpanics : ∀ a b c d, env.powOk a b c d = .panics) :
    ∃ e, validateDoscmint env s rel tx = .reject e := by
  rw [validateDoscmint_eq]
  cases hp : doscPre s rel tx with
  | ok p => exact ⟨.invalidMelPoW, by simp only [Outcome.bind, hpanics]⟩
  | reject e => exact ⟨e, rfl⟩
  | crash c => exact absurd hp (doscPre_ne_crash hin heights c)

/-- `validate_and_get_doscmint_speed` as it was before the fix for F9: the same function, but a
    panic of `melpow::Proof::verify` propagates (the validation crashes) instead of counting as an invalid proof -/
def validateDoscmintOld (env : Env) (s : State) (rel : Relevant) (tx : Tx) : Outcome Nat :=
  match tx.inputs with
  | [] => .crash "applytx.rs: expect(inputs[0])"
  | coinId :: _ =>
    match rel.get coinId with
    | none => .reject .nonexistentCoin
    | some coin =>
      if coin.height > s.height then .crash "applytx.rs: BlockHeight subtraction underflow"
      else if s.height - coin.height < DOSCMINT_MIN_AGE && s.network = .mainnet then .reject .invalidMelPoW
      else match s.history.get coin.height with
        | none => .reject .invalidMelPoW
        | some seedHdr =>
          match tx.powDifficulty with
          | none => .reject .invalidMelPoW
          | some difficulty =>
            if !tx.powProofParses then .reject .malformedTx
            else match env.powOk (env.hdrHash seedHdr) coinId difficulty tx.hash with
              | .panics => .crash "melpow: Proof::verify panicked"
              | .invalid => .reject .invalidMelPoW
              | v =>
                let tip910 := v = .tip910
                (computeDoscmintSpeed tip910 difficulty s.height coin.height).bind fun mySpeed =>
                if s.height = 0 then .crash "applytx.rs: height - 1 underflow" else
                match s.history.get (s.height - 1) with
                | none => .reject .invalidMelPoW
                | some prev =>
                  (calculateReward mySpeed prev.doscSpeed difficulty tip910).bind fun rewardReal =>
                  (doscToErg s.height rewardReal).bind fun rewardNom =>
                    let totalErg := (tx.totalOutputs.get .erg).getD 0
                    if totalErg > rewardNom then .reject .invalidMelPoW else .ok mySpeed

/-- the old function in the normal form of `validateDoscmint_eq`: the same checks before the proof check, the same
    arithmetic after it -/
theorem validateDoscmintOld_eq (env : Env) (s : State) (rel : Relevant) (tx : Tx) :
    validateDoscmintOld env s rel tx = (doscPre s rel tx).bind fun p =>
      match env.powOk (env.hdrHash p.seedHdr) p.coinId p.difficulty tx.hash with
      | .panics => .crash "melpow: Proof::verify panicked"
      | .invalid => .reject .invalidMelPoW
      | v => doscTail s tx p.coin p.difficulty (v = .tip910) := by
  unfold validateDoscmintOld doscPre
  cases tx.inputs with
  | nil => rfl
  | cons coinId _ =>
    dsimp only
    cases rel.get coinId with
    | none => rfl
    | some coin =>
      dsimp only
      by_cases h1 : coin.height > s.height
      · rw [if_pos h1, if_pos h1]; rfl
      rw [if_neg h1, if_neg h1]
      by_cases h2 : (decide (s.height - coin.height < DOSCMINT_MIN_AGE) && decide (s.network = .mainnet)) = true
      · rw [if_pos h2, if_pos h2]; rfl
      rw [if_neg h2, if_neg h2]
      cases s.history.get coin.height with
      | none => rfl
      | some seedHdr =>
        cases tx.powDifficulty with
        | none => rfl
        | some difficulty =>
          dsimp only
          by_cases h3 : (!tx.powProofParses) = true
          · rw [if_pos h3, if_pos h3]; rfl
          rw [if_neg h3, if_neg h3]
          rfl

/-- Finding F9: in the old code a DoscMint whose proof
    makes the verifier panic, with every check before the proof check passing, crashed the validation (hence
    `apply_tx_batch`, hence the node), for any difficulty `d` the transaction states … -/
theorem C09_old_pow_panic_crashes (env : Env) (s : State) (rel : Relevant) (tx : Tx) (id : CoinID)
    (rest : List CoinID) (coin : CoinDataHeight) (hdr : Header) (d : Nat)
    (hnet : s.network ≠ .mainnet) (hheight : s.height = 1) (hhist : s.history = [(0, hdr)])
    (hin : tx.inputs = id :: rest) (hrel : rel.get id = some coin) (hch : coin.height = 0)
    (hd : tx.powDifficulty = some d) (hparse : tx.powProofParses = true)
    (hpow : env.powOk (env.hdrHash hdr) id d tx.hash = .panics) :
    validateDoscmintOld env s rel tx = .crash "melpow: Proof::verify panicked" := by
  rw [validateDoscmintOld_eq, doscPre_first_block hnet hheight hhist hin hrel hch (Nat.zero_le 1) hd hparse]
  simp only [Outcome.bind, hpow]

/-- … while the fixed code, on the very same input, rejects the transaction -/
theorem C09_pow_panic_rejected (env : Env) (s : State) (rel : Relevant) (tx : Tx) (id : CoinID)
    (rest : List CoinID) (coin : CoinDataHeight) (hdr : Header) (d : Nat)
    (hnet : s.network ≠ .mainnet) (hheight : s.height = 1) (hhist : s.history = [(0, hdr)])
    (hin : tx.inputs = id :: rest) (hrel : rel.get id = some coin) (hch : coin.height = 0)
    (hd : tx.powDifficulty = some d) (hparse : tx.powProofParses = true)
    (hpow : env.powOk (env.hdrHash hdr) id d tx.hash = .panics) :
    validateDoscmint env s rel tx = .reject .invalidMelPoW := by
  rw [validateDoscmint_of_pre (doscPre_first_block hnet hheight hhist hin hrel hch (Nat.zero_le 1) hd hparse), hpow]

/-- the fix changes nothing else: on an oracle that never answers `.panics` the old and the new function
    coincide -/
theorem C09_old_doscmint_eq (env : Env) (s : State) (rel : Relevant) (tx : Tx)
    (hpow : ∀ a b c d, env.powOk a b c d ≠ .panics) :
    validateDoscmintOld env s rel tx = validateDoscmint env s rel tx := by
  rw [validateDoscmintOld_eq, validateDoscmint_eq]
  congr 1
  funext p
  cases hv : env.powOk (env.hdrHash p.seedHdr) p.coinId p.difficulty tx.hash with
  | panics => exact absurd hv (hpow _ _ _ _)
  | invalid => rfl
  | legacy => rfl
  | tip910 => rfl

/-- … while difficulty 73 under the same circumstances is fine -/
theorem C09_reward_fits_example : microergsIter 1 * maxDoscReward 73 1000000 / MICRO_CONVERTER ≤ U128_MAX := by
  decide

/-- the assumptions are satisfiable: an empty state and an oracle that accepts no proof -/
theorem C09_pre_nonvacuous (env : Env) (s : State) (hc : s.coins = {}) (hh : s.history = [])
    (hpow : ∀ a b c d, env.powOk a b c d = .invalid) : ApplyPre env s [] where
  counts := by rw [hc]; exact ⟨List.nodup_nil, List.nodup_nil, fun a => rfl, fun e he => by cases he⟩
  fresh := fun t ht => by cases ht
  heights := fun id c h => by rw [hc] at h; cases h
  bounded := by rw [hc]; decide
  speeds := fun h hdr hg => by rw [hh] at hg; cases hg
  historyBelow := fun h hdr hg => by rw [hh] at hg; cases hg
  powDifficulty := fun a b c d h => absurd (hpow a b c d) h
  rewardFits := fun hdr _ a b d t h => absurd (hpow a b d t) h

end Mel

#print axioms Mel.C09_apply_total
#print axioms Mel.C09_load_total
#print axioms Mel.C09_stake_info_total
#print axioms Mel.C09_scripts_total
#print axioms Mel.C09_mel_total_guard
#print axioms Mel.C09_heavy_covenants_load_rejected
#print axioms Mel.C09_heavy_covenants_rejected
#print axioms Mel.C09_accepted_weights_fit
#print axioms Mel.C09_old_weight_sum_crash_of
#print axioms Mel.C09_old_weight_sum_crash
#print axioms Mel.C09_doscmint_has_input
#print axioms Mel.C09_reward_overflow_witness
#print axioms Mel.C09_doscmint_reward_crash
#print axioms Mel.C09_doscmint_difficulty_crash
#print axioms Mel.C09_doscmint_same_height_crash
#print axioms Mel.C09_doscmint_never_crashes_on_proof
#print axioms Mel.C09_doscmint_panicking_proof_rejects
#print axioms Mel.C09_old_pow_panic_crashes
#print axioms Mel.C09_pow_panic_rejected
#print axioms Mel.C09_old_doscmint_eq
#print axioms Mel.C09_reward_fits_example
#print axioms Mel.C09_pre_nonvacuous

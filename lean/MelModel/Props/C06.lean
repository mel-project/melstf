/-
  C06 — A block is accepted exactly when it is the correct successor.
-/
import MelModel.Chain
import MelModel.Lemmas.Blocks
namespace Mel
open Mel.Gen

/-- Accepted iff correct successor: all transactions valid against the state being extended, and the
    block's header equal to the header obtained by applying them and the action and sealing -/
theorem C06_iff (env : Env) (ss ss' : Sealed) (blk : Block) :
    applyBlock env ss blk = .ok ss' ↔
      ∃ basis applied, nextUnsealed env ss = .ok basis ∧ 2 ≤ basis.pools.length ∧
        applyBatch env basis blk.transactions default = .ok applied ∧
        sealState env applied blk.action = .ok ss' ∧ headerOf env ss' = .ok blk.header :=
  applyBlock_eq_ok_iff env ss ss' blk

theorem C06_result_header (env : Env) (ss ss' : Sealed) (blk : Block) (h : applyBlock env ss blk = .ok ss') :
    headerOf env ss' = .ok blk.header ∧ ss'.action = blk.action := by
  obtain ⟨basis, applied, _, _, _, h3, h4⟩ := (C06_iff env ss ss' blk).1 h
  exact ⟨h4, sealState_action env applied blk.action ss' h3⟩

/-- The fallback header of `applyBatch` is irrelevant after `next_unsealed`.  It is so in every state (F25,
    `C03_applyBatch_fallback_unused`): `h` is not used. -/
theorem C06_fallback_irrelevant (env : Env) (ss : Sealed) (basis : State) (h : nextUnsealed env ss = .ok basis)
    (txs : List Tx) (fb₁ fb₂ : Header) : applyBatch env basis txs fb₁ = applyBatch env basis txs fb₂ :=
  applyBatch_congr_lastHeader env basis txs fb₁ fb₂ (lastHeaderOf_nextUnsealed env ss basis h fb₁ fb₂)

/-- Honest blocks are accepted: a block built by applying a batch to the successor state, sealing, and taking
    the header is accepted by its parent, and applying it yields exactly the sealed state -/
theorem C06_honest (env : Env) (ss sealed : Sealed) (basis u : State) (txs : List Tx) (a : Option ProposerAction)
    (hdr fb : Header)
    (h1 : nextUnsealed env ss = .ok basis) (hp : 2 ≤ basis.pools.length)
    (h2 : applyBatch env basis txs fb = .ok u) (h3 : sealState env u a = .ok sealed)
    (h4 : headerOf env sealed = .ok hdr) :
    applyBlock env ss { header := hdr, transactions := txs, action := a } = .ok sealed := by
  refine (C06_iff env ss sealed _).2 ⟨basis, u, h1, hp, ?_, h3, h4⟩
  rw [C06_fallback_irrelevant env ss basis h1 txs default fb]
  exact h2

/-- altering any header field makes an otherwise acceptable block rejected with `WrongHeader` -/
theorem C06_header_mutation (env : Env) (ss ss' : Sealed) (blk : Block) (h' : Header)
    (h : applyBlock env ss blk = .ok ss') (hne : h' ≠ blk.header) :
    applyBlock env ss { blk with header := h' } = .reject .wrongHeader := by
  obtain ⟨basis, applied, h1, hp, h2, h3, h4⟩ := (C06_iff env ss ss' blk).1 h
  have hp' : ¬ basis.pools.length < 2 := by omega
  have hne' : ¬ blk.header = h' := fun e => hne e.symm
  unfold applyBlock
  simp [h1, Outcome.bind, hp', h2, h3, h4, hne']

/-- a block is determined by its parent, its transactions and its action: two accepted blocks with the same
    transactions and action carry the same header and yield the same state -/
theorem C06_deterministic (env : Env) (ss s₁ s₂ : Sealed) (b₁ b₂ : Block)
    (ht : b₁.transactions = b₂.transactions) (ha : b₁.action = b₂.action)
    (h₁ : applyBlock env ss b₁ = .ok s₁) (h₂ : applyBlock env ss b₂ = .ok s₂) :
    b₁.header = b₂.header ∧ s₁ = s₂ := by
  obtain ⟨basis₁, applied₁, a1, _, a2, a3, a4⟩ := (C06_iff env ss s₁ b₁).1 h₁
  obtain ⟨basis₂, applied₂, c1, _, c2, c3, c4⟩ := (C06_iff env ss s₂ b₂).1 h₂
  rw [a1] at c1; cases c1
  rw [ht, c2] at a2; cases a2
  rw [ha, c3] at a3; cases a3
  rw [a4] at c4
  exact ⟨Outcome.ok.inj c4, rfl⟩

/-- changing the transactions or the action of an accepted block leaves it acceptable only if the changed block
    seals to the very same header -/
theorem C06_content_mutation (env : Env) (ss s₁ s₂ : Sealed) (b₁ b₂ : Block) (hh : b₁.header = b₂.header)
    (h₁ : applyBlock env ss b₁ = .ok s₁) (h₂ : applyBlock env ss b₂ = .ok s₂) :
    headerOf env s₁ = headerOf env s₂ := by
  rw [(C06_result_header env ss s₁ b₁ h₁).1, (C06_result_header env ss s₂ b₂ h₂).1, hh]

/-- known finding (K1/F12): two actions whose deltas give the same scaled movement seal to the same state, hence
    the same header — the edited block is accepted. -/
theorem C06_delta_equivalent (env : Env) (s : State) (a₁ a₂ : ProposerAction) (ss₁ : Sealed)
    (hd : a₁.rewardDest = a₂.rewardDest)
    (hm : moveFeeMultiplier s.feeMultiplier a₁.feeMultiplierDelta s.tip901 = moveFeeMultiplier s.feeMultiplier a₂.feeMultiplierDelta s.tip901)
    (h : sealState env s (some a₁) = .ok ss₁) :
    ∃ ss₂, sealState env s (some a₂) = .ok ss₂ ∧ ss₂.st = ss₁.st := by
  obtain ⟨s2, h2, -, h3⟩ := sealState_eq_ok_iff.mp h
  have f2 := sealPre_frame h2
  obtain ⟨hb, e3⟩ := applyProposerAction_eq_ok_iff.mp h3
  refine ⟨{ st := ss₁.st, action := some a₂ },
    sealState_eq_ok_iff.mpr ⟨s2, h2, rfl, applyProposerAction_eq_ok_iff.mpr ⟨hb, ?_⟩⟩, rfl⟩
  rw [e3, f2.feeMultiplier, f2.tip901, hm, hd]

/-- the witness: deltas 0 and 1 at multiplier 100 move the multiplier identically -/
theorem C06_delta_witness : moveFeeMultiplier 100 0 true = moveFeeMultiplier 100 1 true := by
  decide

end Mel

#print axioms Mel.C06_iff
#print axioms Mel.C06_result_header
#print axioms Mel.C06_fallback_irrelevant
#print axioms Mel.C06_honest
#print axioms Mel.C06_header_mutation
#print axioms Mel.C06_deterministic
#print axioms Mel.C06_content_mutation
#print axioms Mel.C06_delta_equivalent
#print axioms Mel.C06_delta_witness

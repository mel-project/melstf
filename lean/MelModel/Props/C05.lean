/-
  C05 — Fees: minimum fee enforced, fee pool / tips / proposer reward accounted exactly.
-/
import MelModel.ApplyTx
import MelModel.Lemmas.Batch
import MelModel.Lemmas.WeighDP
namespace Mel
open Mel.Gen

/-- the weight formula: serialized size + covenant weights + 1000 per output − 1000 per input, never below 0 -/
theorem C05_weight (tx : Tx) (w : Nat) (h : tx.weight = .ok w) :
    w = min (min (tx.rawLen + (tx.covenants.map covenantWeightFromBytes).sum) U128_MAX + tx.outputs.length * 1000) U128_MAX
          - tx.inputs.length * 1000 := by
  unfold Tx.weight at h
  simp only at h
  split at h
  · cases h
  · cases h; simp only [satAdd128]

/-- the minimum fee is weight × multiplier / 65536 rounded down (the product saturating at u128) -/
theorem C05_min_fee (tx : Tx) (m f : Nat) (h : tx.baseFee m = .ok f) :
    ∃ w, tx.weight = .ok w ∧ f = min (w * m) U128_MAX / 65536 := by
  unfold Tx.baseFee at h
  obtain ⟨w, hw, h⟩ := Outcome.bind_eq_ok.mp h
  cases h
  exact ⟨w, hw, by simp only [satMul128]⟩

/-- an undecodable covenant weighs nothing; a decodable one weighs its (saturated) instruction weight — the specified
    weight `VM.weight`, which the implemented weigher `VM.weightDP` computes (`C11_weightDP_eq_weight`) -/
theorem C05_covenant_weight (b : Bytes) :
    covenantWeightFromBytes b = match VM.decodeAll b with | some ops => VM.weight ops | none => 0 := by
  unfold covenantWeightFromBytes
  cases VM.decodeAll b with
  | none => rfl
  | some ops => exact VM.weightDP_eq_weight ops

/-- every transaction of an accepted batch pays at least the minimum fee -/
theorem C05_threshold (env : Env) (s s' : State) (txs : List Tx) (fb : Header)
    (h : applyBatch env s txs fb = .ok s') (tx : Tx) (htx : tx ∈ txs) :
    ∃ f, tx.baseFee s.feeMultiplier = .ok f ∧ f ≤ tx.fee := by
  exact (applyBatch_frame h).fee tx htx

/-- a batch containing a transaction that pays less is not accepted -/
theorem C05_underpaying_rejected (env : Env) (s : State) (txs : List Tx) (fb : Header) (tx : Tx) (htx : tx ∈ txs)
    (f : Nat) (hf : tx.baseFee s.feeMultiplier = .ok f) (hlt : tx.fee < f) :
    ∀ s', applyBatch env s txs fb ≠ .ok s' := by
  intro s' h
  obtain ⟨f', hf', hle⟩ := C05_threshold env s s' txs fb h tx htx
  rw [hf] at hf'
  cases hf'
  exact Nat.lt_irrefl _ (Nat.lt_of_lt_of_le hlt hle)

/-- minimum fee of a transaction at a multiplier (0 where the weight computation would crash — which
    happens for no transaction of an accepted batch: F19, `C09_accepted_weights_fit`) -/
def minFeeOf (m : Nat) (tx : Tx) : Nat := match tx.baseFee m with | .ok f => f | _ => 0

/-- exact split: the minimum-fee parts go to the fee pool, the remainders to the tips (both saturating) -/
theorem C05_split (env : Env) (s s' : State) (txs : List Tx) (fb : Header)
    (h : applyBatch env s txs fb = .ok s') (hp : s.feePool ≤ U128_MAX) (ht : s.tips ≤ U128_MAX) :
    s'.feePool = min (s.feePool + (txs.map (minFeeOf s.feeMultiplier)).sum) U128_MAX ∧
    s'.tips = min (s.tips + (txs.map fun tx => tx.fee - minFeeOf s.feeMultiplier tx).sum) U128_MAX ∧
    s'.feeMultiplier = s.feeMultiplier := by
  have hfun : minFeeOf s.feeMultiplier = C3.feeOf s.feeMultiplier := by
    funext tx; unfold minFeeOf C3.feeOf C3.valOf; cases tx.baseFee s.feeMultiplier <;> rfl
  have hf := applyBatch_frame h
  rw [hfun, hf.feePool, hf.tips, foldl_satAdd128_eq_min _ _ hp, foldl_satAdd128_eq_min _ _ ht]
  exact ⟨rfl, rfl, hf.feeMultiplier⟩

/-- … and without saturation the sum of both accumulators grows by exactly the fees paid -/
theorem C05_split_exact (env : Env) (s s' : State) (txs : List Tx) (fb : Header)
    (h : applyBatch env s txs fb = .ok s') (hp : s.feePool ≤ U128_MAX) (ht : s.tips ≤ U128_MAX)
    (hcap : s.feePool + s.tips + (txs.map (·.fee)).sum ≤ U128_MAX) :
    s'.feePool + s'.tips = s.feePool + s.tips + (txs.map (·.fee)).sum := by
  obtain ⟨h1, h2, _⟩ := C05_split env s s' txs fb h hp ht
  have hsum : (txs.map (minFeeOf s.feeMultiplier)).sum +
      (txs.map fun tx => tx.fee - minFeeOf s.feeMultiplier tx).sum = (txs.map (·.fee)).sum := by
    rw [sum_map_add]
    apply sum_map_congr
    intro tx htx
    obtain ⟨f, hf, hle⟩ := C05_threshold env s s' txs fb h tx htx
    have : minFeeOf s.feeMultiplier tx = f := by unfold minFeeOf; rw [hf]
    rw [this]
    exact Nat.add_sub_of_le hle
  -- nothing saturates: both capped sums are the plain ones
  generalize (txs.map (minFeeOf s.feeMultiplier)).sum = a at h1 hsum
  generalize (txs.map fun tx => tx.fee - minFeeOf s.feeMultiplier tx).sum = b at h2 hsum
  rw [← hsum] at hcap ⊢
  rw [h1, h2, Nat.min_eq_left (by omega), Nat.min_eq_left (by omega)]
  omega

def rewardCoin (s : State) (a : ProposerAction) : CoinDataHeight :=
  { coinData := { covhash := a.rewardDest, value := s.feePool / 65536 + s.tips, denom := .mel, additionalData := [] },
    height := s.height }

/-- the proposer reward: one new coin worth 1/65536 of the fee pool plus all tips, to the action's
    destination; fee pool and tips decrease by exactly that amount; nothing else changes -/
theorem C05_reward (env : Env) (s s' : State) (a : ProposerAction) (h : collectProposerFee env s a = .ok s') :
    s'.coins.getCoin { txhash := env.rewardId s.height, index := 0 } = some (rewardCoin s a) ∧
    s'.feePool + s.feePool / 65536 = s.feePool ∧ s'.tips = 0 ∧
    (∀ id, id ≠ ({ txhash := env.rewardId s.height, index := 0 } : CoinID) → s'.coins.getCoin id = s.coins.getCoin id) ∧
    s'.pools = s.pools ∧ s'.stakes = s.stakes ∧ s'.feeMultiplier = s.feeMultiplier := by
  unfold collectProposerFee at h
  simp only at h
  split at h
  · cases h
  · cases h
    refine ⟨?_, ?_, rfl, ?_, rfl, rfl, rfl⟩
    · simp only [CoinMap.getCoin_insertCoin_self, rewardCoin, REWARD_SHIFT]
    · simp only [REWARD_SHIFT]
      have : s.feePool / 2 ^ 16 ≤ s.feePool := Nat.div_le_self _ _
      simp only [Nat.reducePow] at this ⊢
      omega
    · intro id hne
      exact CoinMap.getCoin_insertCoin_ne _ _ _ hne

/-- structure of sealing: Melmint, then the TIP-909 subsidy, then (only with an action) the fee
    multiplier move and the reward — so without an action the reward step changes nothing -/
theorem C05_seal_structure (env : Env) (s : State) (action : Option ProposerAction) (ss : Sealed)
    (h : sealState env s action = .ok ss) :
    ∃ s1 s2, presealMelmint env s = .ok s1 ∧ (if s1.tip909 then applyTip909 s1 else .ok s1) = .ok s2 ∧
      ss.action = action ∧
      match action with
      | none => ss.st = s2
      | some a => collectProposerFee env
          { s2 with feeMultiplier := moveFeeMultiplier s2.feeMultiplier a.feeMultiplierDelta s2.tip901 } a = .ok ss.st := by
  unfold sealState at h
  obtain ⟨s1, h1, h⟩ := Outcome.bind_eq_ok.mp h
  split at h
  · cases h
  · obtain ⟨s2, h2, h⟩ := Outcome.bind_eq_ok.mp h
    refine ⟨s1, s2, h1, h2, ?_⟩
    cases action with
    | none => cases h; exact ⟨rfl, rfl⟩
    | some a =>
      simp only at h
      obtain ⟨s3, h3, h⟩ := Outcome.bind_eq_ok.mp h
      cases h
      exact ⟨rfl, h3⟩

end Mel

#print axioms Mel.C05_weight
#print axioms Mel.C05_min_fee
#print axioms Mel.C05_covenant_weight
#print axioms Mel.C05_threshold
#print axioms Mel.C05_underpaying_rejected
#print axioms Mel.C05_split
#print axioms Mel.C05_split_exact
#print axioms Mel.C05_reward
#print axioms Mel.C05_seal_structure

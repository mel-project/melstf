/-
  C19 over histories, the mainnet half — along any run of the chain that starts in a mainnet state, every faucet
  transaction of every accepted batch is the grandfathered one.  (`Props/C19.lean` has the one-batch statement
  `C19_mainnet`; `Props/C19Life.lean` has the other half — at most once, ever — over histories;
  `Props/C07Hist.lean` has `C07_network_constant`; the run relation `RunTrace`, a run with its batches and seals
  exposed, is in MelModel/Lemmas/MiscHistL.lean.)
-/
import MelModel.Chain
import MelModel.Props.C19
import MelModel.Props.C13Life
import MelModel.Props.C07Hist
import MelModel.Lemmas.MiscHistL
namespace Mel
open Mel.Gen Mel.MiscHistL

/-- no faucet on mainnet, ever: whatever run led from a mainnet state `s` to the state
    `m`, a batch accepted in `m` contains no faucet transaction other than the grandfathered one -/
theorem C19_mainnet_run (env : Env) (s m m' : State) (txs : List Tx) (fb : Header)
    (hnet : s.network = .mainnet) (hrun : ChainRun env s m) (h : applyBatch env m txs fb = .ok m')
    (tx : Tx) (htx : tx ∈ txs) (hk : tx.kind = .faucet) : env.isGrandfathered tx.hash = true :=
  C19_mainnet env m m' txs fb ((C07_network_constant env s m hrun).trans hnet) h tx htx hk

/-- the same over a trace: every faucet transaction of every batch of the run is the grandfathered one -/
theorem C19_mainnet_trace (env : Env) (s s' : State) (tr : List Event) (hnet : s.network = .mainnet)
    (hrun : RunTrace env s tr s') (txs : List Tx) (fb : Header) (hb : Event.batch txs fb ∈ tr)
    (tx : Tx) (htx : tx ∈ txs) (hk : tx.kind = .faucet) : env.isGrandfathered tx.hash = true := by
  obtain ⟨m, m', h1, h2, -⟩ := RunTrace.mem_split hrun hb
  cases h2 with
  | batch h => exact C19_mainnet_run env s m m' txs fb hnet h1 h tx htx hk

/-- … so a run from a mainnet state in whose environment no hash is grandfathered contains no faucet transaction
    at all -/
theorem C19_mainnet_trace_no_faucet (env : Env) (s s' : State) (tr : List Event) (hnet : s.network = .mainnet)
    (hrun : RunTrace env s tr s') (hng : ∀ h, env.isGrandfathered h = false)
    (txs : List Tx) (fb : Header) (hb : Event.batch txs fb ∈ tr) (tx : Tx) (htx : tx ∈ txs) : tx.kind ≠ .faucet := by
  intro hk
  have := C19_mainnet_trace env s s' tr hnet hrun txs fb hb tx htx hk
  rw [hng] at this
  cases this

/-- from a mainnet genesis configuration: the same for every reachable state -/
theorem C19_mainnet_reachable (env : Env) (cfg : GenesisConfig) (m m' : State) (txs : List Tx) (fb : Header)
    (hnet : cfg.network = .mainnet) (hr : ChainRun env (genesisState cfg) m)
    (h : applyBatch env m txs fb = .ok m') (tx : Tx) (htx : tx ∈ txs) (hk : tx.kind = .faucet) :
    env.isGrandfathered tx.hash = true :=
  C19_mainnet_run env _ m m' txs fb hnet hr h tx htx hk

/-- as a refusal: after any run from a mainnet state, a batch containing a faucet transaction that is
    not the grandfathered one is not accepted -/
theorem C19_mainnet_run_rejects (env : Env) (s m : State) (txs : List Tx) (fb : Header)
    (hnet : s.network = .mainnet) (hrun : ChainRun env s m) (tx : Tx) (htx : tx ∈ txs) (hk : tx.kind = .faucet)
    (hng : env.isGrandfathered tx.hash = false) : ∀ m', applyBatch env m txs fb ≠ .ok m' := by
  intro m' h
  have := C19_mainnet_run env s m m' txs fb hnet hrun h tx htx hk
  rw [hng] at this
  cases this

namespace C19HistWitness
open ReachWitness (env getOk eq_getOk)

def cfg : GenesisConfig :=
  { network := .mainnet, initCoindata := ⟨[7], 5, .mel, []⟩, stakes := [], initFeePool := 0, initFeeMultiplier := 0 }

def f : Tx := {
  kind := .faucet, inputs := [], outputs := [(⟨[8], 5, .mel, []⟩ : CoinData)], fee := 0,
  covenants := [], data := [], sigs := [], hash := [2], rawLen := 0, covHashes := [] }

def envG : Env := { env with isGrandfathered := fun h => h = [2] }

def g : State := genesisState cfg
def sg : Sealed := getOk (sealState env g none)
def g1 : State := getOk (nextUnsealed env sg)
def gF : State := getOk (applyBatch envG g [f] default)

theorem faucetG_ok : applyBatch envG g [f] default = .ok gF := eq_getOk (by decide +kernel)
theorem facts : (sealState env g none).isOk = true ∧ (nextUnsealed env sg).isOk = true ∧
    (applyBatch env g1 [f] default).rejectedWith .malformedTx = true := by decide +kernel

theorem seal_ok : sealState env g none = .ok sg := eq_getOk facts.1
theorem next_ok : nextUnsealed env sg = .ok g1 := eq_getOk facts.2.1
theorem faucet_rejected : applyBatch env g1 [f] default = .reject .malformedTx := Outcome.eq_reject facts.2.2

theorem run : RunTrace env g [.batch [] default, .block none] g1 :=
  .step (.step (.refl _) (.batch (txs := []) (fb := default) rfl)) (.block seal_ok next_ok)

end C19HistWitness

/-- non-vacuity: a mainnet run of one block exists (genesis, an empty batch, a seal, the next block); in the state it
    reaches a faucet transaction is rejected with `MalformedTx`; and in an environment in which that transaction is
    the grandfathered one a batch with it is accepted on mainnet (so the conclusion `isGrandfathered … = true` of
    `C19_mainnet_run` is met by an accepted batch, not only vacuously) -/
theorem C19_mainnet_run_nonvacuous :
    ∃ (env envG : Env) (s m mF : State) (tr : List Event) (f : Tx),
      s.network = .mainnet ∧ RunTrace env s tr m ∧ tr ≠ [] ∧ f.kind = .faucet ∧
      env.isGrandfathered f.hash = false ∧ applyBatch env m [f] default = .reject .malformedTx ∧
      envG.isGrandfathered f.hash = true ∧ applyBatch envG s [f] default = .ok mF := by
  open C19HistWitness in
  exact ⟨ReachWitness.env, envG, g, g1, gF, _, f, rfl, run, List.cons_ne_nil _ _, rfl, rfl, faucet_rejected,
    by decide, faucetG_ok⟩

end Mel

#print axioms Mel.C19_mainnet_run
#print axioms Mel.C19_mainnet_trace
#print axioms Mel.C19_mainnet_trace_no_faucet
#print axioms Mel.C19_mainnet_reachable
#print axioms Mel.C19_mainnet_run_rejects
#print axioms Mel.C19_mainnet_run_nonvacuous

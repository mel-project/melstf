/-
  C01, over histories — conservation of every denomination across any sequence of accepted batches and sealed
  blocks: along a run of the chain that starts in a reachable state, the supply of a denomination grows by at most
  the issuance the run records (`batchIssuance` of every batch, `sealAllowance` of every sealed block).

  What the per-seal theorem `C01_seal_whole` assumes of the state being sealed is `SealPre` (Props/C01Seal.lean):
  * `coinKeys`, `poolKeys` — `Inv.coinKeys`, `Inv.poolKeys` of a reachable state;
  * `txHashes` — from `Inv.sorted`;
  * `faithful` — the coins sitting at the output slots of the block's transactions have the declared value and
    denomination.  Not part of `Inv`/`Slots` (`Slots` speaks of covenants only) but an invariant of reachable states
    all the same: `C01_reachable_faithful` below (`HistL.applyBatch_faithful`, same side conditions as
    `reach_batch_slots`);
  * `bounded` — no denomination's coin total exceeds a u128.  This is C09's supply precondition and not an invariant
    of the state machine (any number of faucet transactions may be accepted off mainnet, and nothing in a batch
    checks the total); the settlement arithmetic needs it: `satSum` clamps the total of a pool's swap requests to
    u128::MAX, and when the true total is larger every request is paid against too small a denominator — value is
    created (`C01_seal_unbounded_counterexample`: all of `SealPre` but `bounded`, and the ERG supply doubles).
    It is therefore the one extra premise of the `block` constructor of `IssRun` (and of `ClosedRun`).
-/
import MelModel.Seal
import MelModel.Chain
import MelModel.SupplyDefs
import MelModel.Props.C01
import MelModel.Props.C01Seal
import MelModel.Props.C01Whole
import MelModel.Props.C09Reach
import MelModel.Lemmas.HistL
namespace Mel
open Mel.Gen

/-- a run of the chain from `s` to `s'` during which at most `iss d` of each denomination `d` may be issued: the
    declared issuance of every accepted batch (faucets, new tokens, minted ERG) and the seal allowance of every
    sealed block (builtin pools, peg adjustment, TIP-909 subsidy).  The step assumptions are those of `ReachableSep`
    (hash freshness / domain separation), `legacyDeposit m = false` (finding K-legacy-deposit, as in
    `C01_seal_whole`) and the u128 bound on the coin totals of a state being sealed (`SealPre.bounded`; not implied
    by reachability, and conservation across a seal is false without it: `C01_seal_unbounded_counterexample`). -/
inductive IssRun (env : Env) : State → (Denom → Nat) → State → Prop
  | refl (s : State) : IssRun env s (fun _ => 0) s
  | batch {s m s' : State} {iss : Denom → Nat} {txs : List Tx} {fb : Header} :
      IssRun env s iss m → BatchFresh m txs → MarkerFresh env m txs → applyBatch env m txs fb = .ok s' →
      IssRun env s (fun d => iss d + batchIssuance txs d) s'
  | block {s m s' : State} {iss : Denom → Nat} {ss : Sealed} {a : Option ProposerAction} :
      IssRun env s iss m → RewardFresh env m → legacyDeposit m = false →
      (∀ d, coinsTotal m.coins d ≤ U128_MAX) →
      sealState env m a = .ok ss → nextUnsealed env ss = .ok s' →
      IssRun env s (fun d => iss d + sealAllowance m d) s'

/-- The coins of the block's own transactions are as declared, in every reachable state (`SealPre.faithful`):
    what `C02_exact` says of one batch, as an invariant of the chain -/
theorem C01_reachable_faithful (env : Env) (s : State) (h : ReachableSep env s) : Faithful s := by
  induction h with
  | genesis cfg => exact HistL.faithful_of_txs_nil rfl
  | @batch m s' txs fb hr hf hm hb ih =>
    have hi := (reachable_inv_slots env m hr).1
    exact HistL.applyBatch_faithful hb (sortedTxs_pairwise hi.sorted) hf.hashes hf.fresh ih hm
  | block _ _ _ hn _ => exact HistL.faithful_of_txs_nil (nextUnsealed_txs hn)

/-- `SealPre` for reachable states: everything but the u128 bound on the coin totals follows from reachability -/
theorem C01_sealPre_reachable (env : Env) (s : State) (h : ReachableSep env s)
    (hb : ∀ d, coinsTotal s.coins d ≤ U128_MAX) : SealPre s :=
  let hi := (reachable_inv_slots env s h).1
  { coinKeys := hi.coinKeys
    poolKeys := hi.poolKeys
    txHashes := ReachL.nodup_hashes_of_pairwise (sortedTxs_pairwise hi.sorted)
    faithful := C01_reachable_faithful env s h
    bounded := hb }

theorem IssRun.reachable {env : Env} {s s' : State} {iss : Denom → Nat} (hrun : IssRun env s iss s')
    (h : ReachableSep env s) : ReachableSep env s' := by
  induction hrun with
  | refl => exact h
  | batch _ hf hm hb ih => exact .batch ih hf hm hb
  | block _ hr _ _ hs hn ih => exact .block ih hr hs hn

/-- C01 over histories: along any run of the chain from a reachable state — any number of accepted batches
    and sealed blocks, in any order — the supply of a denomination that is not a liquidity token (those are the
    subject of C16) grows by at most the issuance recorded by the run -/
theorem C01_history (env : Env) (s s' : State) (iss : Denom → Nat) (hreach : ReachableSep env s)
    (hrun : IssRun env s iss s') (d : Denom) (hd : ∀ k : PoolKey, d ≠ liqTokenDenom env k) :
    supply s' d ≤ supply s d + iss d := by
  induction hrun with
  | refl => exact Nat.le_refl _
  | @batch m s' iss txs fb hr hf hm hb ih =>
    have hi := (reachable_inv_slots env m (hr.reachable hreach)).1
    have h1 := C01_apply env m s' txs fb hb hi.coinKeys d
    show supply s' d ≤ supply s d + (iss d + batchIssuance txs d)
    omega
  | @block m s' iss ss a hr hrf hl hbd hs hn ih =>
    have hp := C01_sealPre_reachable env m (hr.reachable hreach) hbd
    have h1 := C01_seal_whole env m a ss hs hp hl hrf d hd
    rw [← WholeL.nextUnsealed_supply env ss s' hn d] at h1
    show supply s' d ≤ supply s d + (iss d + sealAllowance m d)
    omega


/-- a batch that issues nothing: no faucet, no ERG mint, no newly created token -/
def ClosedBatch (txs : List Tx) : Prop :=
  ∀ tx ∈ txs, tx.kind ≠ .faucet ∧ tx.kind ≠ .doscMint ∧ ∀ o ∈ tx.outputs, o.denom ≠ .newCustom

/-- a run all of whose batches are closed; it records, per denomination, what the two `create_builtins` of each
    seal make: `builtinsCreated m d` before the settlement, `recreated env m d` after the withdrawal phase -/
inductive ClosedRun (env : Env) : State → (Denom → Nat) → State → Prop
  | refl (s : State) : ClosedRun env s (fun _ => 0) s
  | batch {s m s' : State} {rec : Denom → Nat} {txs : List Tx} {fb : Header} :
      ClosedRun env s rec m → BatchFresh m txs → MarkerFresh env m txs → ClosedBatch txs →
      applyBatch env m txs fb = .ok s' → ClosedRun env s rec s'
  | block {s m s' : State} {rec : Denom → Nat} {ss : Sealed} {a : Option ProposerAction} :
      ClosedRun env s rec m → RewardFresh env m → legacyDeposit m = false →
      (∀ d, coinsTotal m.coins d ≤ U128_MAX) →
      sealState env m a = .ok ss → nextUnsealed env ss = .ok s' →
      ClosedRun env s (fun d => rec d + (builtinsCreated m d + recreated env m d)) s'

theorem ClosedRun.issRun {env : Env} {s s' : State} {rec : Denom → Nat} (hrun : ClosedRun env s rec s') :
    ∃ iss, IssRun env s iss s' := by
  induction hrun with
  | refl => exact ⟨_, .refl _⟩
  | batch _ hf hm _ hb ih => obtain ⟨iss, h⟩ := ih; exact ⟨_, .batch h hf hm hb⟩
  | block _ hr hl hbd hs hn ih => obtain ⟨iss, h⟩ := ih; exact ⟨_, .block h hr hl hbd hs hn⟩

theorem ClosedRun.reachable {env : Env} {s s' : State} {rec : Denom → Nat} (hrun : ClosedRun env s rec s')
    (h : ReachableSep env s) : ReachableSep env s' := by
  obtain ⟨iss, hi⟩ := hrun.issRun
  exact hi.reachable h

/-- Closed histories: along a run without faucet / ERG-mint / new-token transactions, a denomination other
    than MEL, SYM and the liquidity tokens grows by nothing but the builtin pools made (or made afresh) by the
    seals of the run — the history-level `C01_block_closed` -/
theorem C01_history_closed (env : Env) (s s' : State) (rec : Denom → Nat) (hreach : ReachableSep env s)
    (hrun : ClosedRun env s rec s') (d : Denom) (hd : ∀ k : PoolKey, d ≠ liqTokenDenom env k)
    (hmel : d ≠ .mel) (hsym : d ≠ .sym) :
    supply s' d ≤ supply s d + rec d := by
  induction hrun with
  | refl => exact Nat.le_refl _
  | @batch m s' rec txs fb hr hf hm hc hb ih =>
    have hi := (reachable_inv_slots env m (hr.reachable hreach)).1
    have h1 := C01_apply_closed env m s' txs fb hb hi.coinKeys hc d
    omega
  | @block m s' rec ss a hr hrf hl hbd hs hn ih =>
    have hp := C01_sealPre_reachable env m (hr.reachable hreach) hbd
    have h1 := C01_seal_whole_sharp env m a ss hs hp hl hrf d hd
    rw [← WholeL.nextUnsealed_supply env ss s' hn d] at h1
    have z1 : ¬ (d = .mel ∨ d = .sym) := fun h => h.elim hmel hsym
    have z2 : ¬ (d = .sym ∧ m.tip909 = true) := fun h => hsym h.1
    rw [if_neg z1, if_neg z2] at h1
    show supply s' d ≤ supply s d + (rec d + (builtinsCreated m d + recreated env m d))
    omega

theorem ClosedRun.rec_other {env : Env} {s s' : State} {rec : Denom → Nat} (hrun : ClosedRun env s rec s')
    (d : Denom) (hmel : d ≠ .mel) (hsym : d ≠ .sym) (herg : d ≠ .erg) : rec d = 0 := by
  induction hrun with
  | refl => rfl
  | batch _ _ _ _ _ ih => exact ih
  | @block m s' rec ss a _ _ _ _ _ _ ih =>
    show rec d + (builtinsCreated m d + recreated env m d) = 0
    rw [ih, builtinsCreated_other m d hmel hsym herg]
    unfold recreated
    rw [builtinsCreated_other _ d hmel hsym herg]

/-- Custom tokens are never inflated by a closed history: for a denomination other than MEL, SYM, ERG and the
    liquidity tokens, the supply after a closed run is at most the supply before -/
theorem C01_history_closed_custom (env : Env) (s s' : State) (rec : Denom → Nat) (hreach : ReachableSep env s)
    (hrun : ClosedRun env s rec s') (d : Denom) (hd : ∀ k : PoolKey, d ≠ liqTokenDenom env k)
    (hmel : d ≠ .mel) (hsym : d ≠ .sym) (herg : d ≠ .erg) :
    supply s' d ≤ supply s d := by
  have h := C01_history_closed env s s' rec hreach hrun d hd hmel hsym
  rw [hrun.rec_other d hmel hsym herg] at h
  exact h


theorem C01_genesis_supply (cfg : GenesisConfig) (d : Denom) :
    supply (genesisState cfg) d =
      (if cfg.initCoindata.denom = d then cfg.initCoindata.value else 0) +
      (if d = .mel then cfg.initFeePool else 0) := HistL.genesis_supply cfg d

/-- C01 from genesis: at any point of any history, the supply of a denomination (not a liquidity token) is at
    most what the genesis configuration put there plus the issuance recorded since -/
theorem C01_history_from_genesis (env : Env) (cfg : GenesisConfig) (s' : State) (iss : Denom → Nat)
    (hrun : IssRun env (genesisState cfg) iss s') (d : Denom) (hd : ∀ k : PoolKey, d ≠ liqTokenDenom env k) :
    supply s' d ≤ (if cfg.initCoindata.denom = d then cfg.initCoindata.value else 0) +
      (if d = .mel then cfg.initFeePool else 0) + iss d := by
  have h := C01_history env (genesisState cfg) s' iss (.genesis cfg) hrun d hd
  rw [C01_genesis_supply] at h
  exact h


namespace C01HistWitness
open ReachWitness

/-- a faucet transaction creating 7 MEL (its de-duplication marker id `[9, 3]` is no transaction's hash) -/
def f : Tx := {
  kind := .faucet, inputs := [], outputs := [(⟨[8], 7, .mel, []⟩ : CoinData)], fee := 0,
  covenants := [], data := [], sigs := [], hash := [3], rawLen := 0, covHashes := [] }

/-- genesis (`ReachWitness.cfg`: one coin of 5 MEL), then the batch `[u, f]`: the swap `u` of Props/Reach.lean
    spending the initial coin, and the faucet `f` -/
def s1 : State := getOk (applyBatch env (genesisState cfg) [u, f] default)
def ss : Sealed := getOk (sealState env s1 none)
def s2 : State := getOk (nextUnsealed env ss)

theorem facts :
    ((applyBatch env (genesisState cfg) [u, f] default).isOk = true ∧ (sealState env s1 none).isOk = true ∧
      (nextUnsealed env ss).isOk = true) ∧
    (s1.coins.getCoin ⟨env.rewardId s1.height, 0⟩ = none ∧ legacyDeposit s1 = false ∧
      (s1.coins.coins.map fun e => e.2.coinData.value).sum ≤ U128_MAX) ∧
    (s2.height = 1 ∧ 12 < supply s2 .mel) := by decide +kernel

theorem batch_ok : applyBatch env (genesisState cfg) [u, f] default = .ok s1 := eq_getOk facts.1.1
theorem seal_ok : sealState env s1 none = .ok ss := eq_getOk facts.1.2.1
theorem next_ok : nextUnsealed env ss = .ok s2 := eq_getOk facts.1.2.2

theorem batchFresh : BatchFresh (genesisState cfg) [u, f] := batchFresh_genesis _ _ (by decide) (by decide)

theorem markerFresh : MarkerFresh env (genesisState cfg) [u, f] := by
  intro x hx hk _ w hw
  simp only [List.mem_cons, List.not_mem_nil, or_false] at hx
  rcases hx with rfl | rfl
  · cases hk
  · have hw' : w = u ∨ w = f := by
      rcases hw with hw | hw
      · simpa using hw
      · exact nomatch hw
    rcases hw' with rfl | rfl <;> decide

theorem rewardFresh : RewardFresh env s1 := facts.2.1.1

theorem bounded : ∀ d, coinsTotal s1.coins d ≤ U128_MAX :=
  fun d => Nat.le_trans (coinsTotal_le_sum _ d) facts.2.1.2.2

theorem run : IssRun env (genesisState cfg)
    (fun d => (0 + batchIssuance [u, f] d) + sealAllowance s1 d) s2 :=
  .block (.batch (.refl _) batchFresh markerFresh batch_ok) rewardFresh facts.2.1.2.1 bounded seal_ok next_ok

end C01HistWitness

/-- non-vacuity of `C01_history` / `C01_history_from_genesis`: a run with one accepted batch (a swap request and a
    faucet transaction) and one sealed block exists from a genesis state; the genesis supply of MEL is 5, the batch
    issues 7 MEL, and after the block (builtin pools created, the swap settled) the MEL supply is within the bound -/
theorem C01_history_nonvacuous :
    ∃ (env : Env) (cfg : GenesisConfig) (iss : Denom → Nat) (s' : State),
      IssRun env (genesisState cfg) iss s' ∧ s'.height = 1 ∧ (∀ k : PoolKey, Denom.mel ≠ liqTokenDenom env k) ∧
      supply (genesisState cfg) .mel = 5 ∧ batchIssuance [C01HistWitness.f] .mel = 7 ∧
      12 < supply s' .mel ∧ supply s' .mel ≤ 5 + iss .mel := by
  open C01HistWitness in
  have hmel : ∀ k : PoolKey, Denom.mel ≠ liqTokenDenom ReachWitness.env k := by intro k e; cases e
  have h2 : supply (genesisState ReachWitness.cfg) .mel = 5 := by decide +kernel
  have h3 : batchIssuance [f] .mel = 7 := by decide +kernel
  -- the issuance is kept abstract: the kernel evaluates closed sums it has to compare, here the whole history
  obtain ⟨iss, hrun⟩ : ∃ iss, IssRun ReachWitness.env (genesisState ReachWitness.cfg) iss s2 := ⟨_, run⟩
  have h := C01_history_from_genesis ReachWitness.env ReachWitness.cfg s2 iss hrun .mel hmel
  exact ⟨ReachWitness.env, ReachWitness.cfg, iss, s2, hrun, facts.2.2.1, hmel, h2, h3, facts.2.2.2, h⟩


namespace C01HistWitness

/-- a swap request of 2^127 MEL against the ERG/MEL pool (`[100]` spells the pool's name) -/
def sw (n : UInt8) : Tx := {
  kind := .swap, inputs := [], outputs := [(⟨[7], 2 ^ 127, .mel, []⟩ : CoinData)], fee := 0,
  covenants := [], data := [100], sigs := [], hash := [n], rawLen := 0, covHashes := [] }

/-- the ERG/MEL pool holds (2^120 ERG, 1 MEL); the block contains four swap requests of 2^127 MEL each, whose coins
    exist as declared: 2^129 MEL in coins, more than a u128 -/
def big : State := {
  network := .custom02, height := 10, history := [],
  coins := { coins := [(⟨[2], 0⟩, ⟨⟨[7], 2 ^ 127, .mel, []⟩, 10⟩), (⟨[3], 0⟩, ⟨⟨[7], 2 ^ 127, .mel, []⟩, 10⟩),
                       (⟨[4], 0⟩, ⟨⟨[7], 2 ^ 127, .mel, []⟩, 10⟩), (⟨[5], 0⟩, ⟨⟨[7], 2 ^ 127, .mel, []⟩, 10⟩)],
             counts := [([7], 4)] },
  txs := [sw 2, sw 3, sw 4, sw 5], feePool := 0, feeMultiplier := 0, tips := 0, doscSpeed := 0,
  pools := [(poolMelErg, ⟨2 ^ 120, 1, 0, 1⟩)], stakes := [] }

theorem big_faithful : Faithful big := by
  intro tx htx i o c ho hc
  have hcoin : ∀ n : UInt8, n ∈ [2, 3, 4, 5] →
      big.coins.getCoin ⟨(sw n).hash, 0⟩ = some ⟨⟨[7], 2 ^ 127, .mel, []⟩, 10⟩ := by decide
  have hmem : ∃ n : UInt8, n ∈ [2, 3, 4, 5] ∧ tx = sw n := by
    simp only [big, List.mem_cons, List.not_mem_nil, or_false] at htx
    rcases htx with rfl | rfl | rfl | rfl
    · exact ⟨2, by decide, rfl⟩
    · exact ⟨3, by decide, rfl⟩
    · exact ⟨4, by decide, rfl⟩
    · exact ⟨5, by decide, rfl⟩
  obtain ⟨n, hn, rfl⟩ := hmem
  match i with
  | 0 =>
    simp only [sw, List.getElem?_cons_zero, Option.some.injEq] at ho
    subst ho
    rw [hcoin n hn] at hc
    cases hc
    exact ⟨rfl, rfl⟩
  | k + 1 => simp [sw] at ho

end C01HistWitness

/-- The u128 bound on the coin totals cannot be dropped from the seal step: the state `big` meets every
    hypothesis of `C01_seal_whole` except `SealPre.bounded` (its four swap requests bring 2^129 MEL, and `satSum`
    clamps their total to u128::MAX), and sealing it doubles the ERG in existence: each request is paid
    `withdrawn · 2^127 / (2^128 − 1)`, about half of what the pool gives up, four times over.
    (The state is not reachable — a transaction output is at most 2^120 — but more than 2^8 requests of 2^120 each,
    funded by faucets off mainnet, saturate the same sum; hence the premise in `IssRun.block`.) -/
theorem C01_seal_unbounded_counterexample :
    ∃ (env : Env) (s : State) (ss : Sealed), sealState env s none = .ok ss ∧
      (s.coins.coins.map (·.1)).Nodup ∧ (s.pools.map (·.1)).Nodup ∧ (s.txs.map (·.hash)).Nodup ∧ Faithful s ∧
      legacyDeposit s = false ∧ RewardFresh env s ∧ (∀ k : PoolKey, Denom.erg ≠ liqTokenDenom env k) ∧
      2 ^ 129 ≤ coinsTotal s.coins .mel ∧
      supply s .erg + sealAllowance s .erg < supply ss.st .erg := by
  open C01HistWitness in
  have hv : ((sealState WholeL.Witness.env big none).okAnd fun ss =>
      decide (supply big .erg + sealAllowance big .erg < supply ss.st .erg)) = true := by decide +kernel
  obtain ⟨ss, hs, h⟩ := Outcome.exists_of_okAnd hv
  have hr : RewardFresh WholeL.Witness.env big := by unfold RewardFresh; decide
  have herg : ∀ k : PoolKey, Denom.erg ≠ liqTokenDenom WholeL.Witness.env k := by intro k e; cases e
  exact ⟨WholeL.Witness.env, big, ss, hs, by decide, by decide, by decide, big_faithful, by decide, hr,
    herg, by decide +kernel, of_decide_eq_true h⟩


namespace C01HistWitness
open ReachWitness

theorem cclosed : ClosedBatch [u] := by
  intro x hx
  simp only [List.mem_cons, List.not_mem_nil, or_false] at hx
  subst hx
  refine ⟨by decide, by decide, ?_⟩
  intro o ho
  simp only [u, List.mem_cons, List.not_mem_nil, or_false] at ho
  subst ho
  decide

/-! the closed history is that of `C09ReachWitness`: genesis, the batch `[u]` (a swap request, no faucet / mint / new
    token), the block -/

theorem cfacts :
    (legacyDeposit C09ReachWitness.s1 = false ∧
      (C09ReachWitness.s1.coins.coins.map fun e => e.2.coinData.value).sum ≤ U128_MAX) ∧
    0 + (builtinsCreated C09ReachWitness.s1 .erg + recreated env C09ReachWitness.s1 .erg) = 2000000000 ∧
    supply C09ReachWitness.s2 .erg = 1999995925 := by
  decide +kernel

theorem crun : ClosedRun env (genesisState cfg)
    (fun d => 0 + (builtinsCreated C09ReachWitness.s1 d + recreated env C09ReachWitness.s1 d)) C09ReachWitness.s2 :=
  .block (.batch (.refl _) C09ReachWitness.batchFresh C09ReachWitness.markerFresh cclosed C09ReachWitness.batch_ok)
    C09ReachWitness.rewardFresh1 cfacts.1.1
    (fun d => Nat.le_trans (coinsTotal_le_sum _ d) cfacts.1.2)
    C09ReachWitness.seal1_ok C09ReachWitness.next1_ok

end C01HistWitness

/-- non-vacuity of `C01_history_closed`: a closed run with a batch and a block exists from a genesis state; no ERG
    exists at genesis, the run records the 2·10^9 ERG of the two builtin ERG pools, and slightly less ERG than that
    exists afterwards (the TIP-909 subsidy swaps SYM into the ERG/SYM pool and the ERG it takes out goes nowhere) -/
theorem C01_history_closed_nonvacuous :
    ∃ (env : Env) (cfg : GenesisConfig) (rec : Denom → Nat) (s' : State),
      ClosedRun env (genesisState cfg) rec s' ∧ s'.height = 1 ∧ supply (genesisState cfg) .erg = 0 ∧
      rec .erg = 2000000000 ∧ supply s' .erg = 1999995925 := by
  open C01HistWitness in
  have h2 : supply (genesisState ReachWitness.cfg) .erg = 0 := by decide +kernel
  exact ⟨ReachWitness.env, ReachWitness.cfg, _, C09ReachWitness.s2, crun, C09ReachWitness.height2, h2,
    cfacts.2.1, cfacts.2.2⟩

end Mel

#print axioms Mel.C01_reachable_faithful
#print axioms Mel.C01_sealPre_reachable
#print axioms Mel.IssRun.reachable
#print axioms Mel.C01_history
#print axioms Mel.C01_history_closed
#print axioms Mel.C01_history_closed_custom
#print axioms Mel.C01_genesis_supply
#print axioms Mel.C01_history_from_genesis
#print axioms Mel.C01_history_nonvacuous
#print axioms Mel.C01_seal_unbounded_counterexample
#print axioms Mel.C01_history_closed_nonvacuous

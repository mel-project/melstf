/-
  C07 — the constants the property's statement (and the recorded deviations) fix, stated of the values regenerated
  from /repo's source (Generated/Tables.lean): TIP-908 (transaction leaves including the full hash) is active on
  Custom08 only: its mainnet activation height is `u64::MAX`. The model is parametric in these constants: a changed
  constant breaks these theorems instead of being followed silently.
-/
import MelModel.Generated.Tables
namespace Mel
open Mel.Gen

theorem C07_pin_TIP_908_HEIGHT : TIP_908_HEIGHT = 18446744073709551615 := rfl

end Mel

#print axioms Mel.C07_pin_TIP_908_HEIGHT

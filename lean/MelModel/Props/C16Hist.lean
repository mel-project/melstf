/-
  C16, history level — the liquidity tokens of a pool in circulation never exceed the liquidity the pool records.

  "In circulation" counts every unit of the pool's token wherever it sits: in unspent coins and in the reserves of
  other pools (a liquidity token can itself be deposited into a pool) — `supply s (liqTokenDenom env k)`.
  Excluded by explicit hypotheses, each a recorded finding: tokens minted by a faucet transaction (K-faucet-liq)
  and the legacy deposit window (K-legacy-deposit).  A deposit that drives a pool's recorded liquidity into the u128
  ceiling (K-liq-saturation) needs no exclusion: such a deposit is left unsettled
  (`C16_saturating_deposit_skipped`), and a deposit that is settled satisfies `pool.liqs + issued ≤ u128::MAX`, so
  the saturating addition in `PoolState::deposit` is exact.  `C16_old_saturating_deposit` records the arithmetic
  that broke the backing before that fix.

  Pools are quantified over *canonical* keys (`CanonKey`): `PoolKey.toBytes` spells `(SYM, MEL)` like `(MEL, SYM)`,
  so the two keys share one token denomination; `LiqDenomsApart` (injectivity over all keys) is
  therefore unsatisfiable (`LiqDenomsApart_unsatisfiable`) and `∀ k, Backed env s k` fails for the non-canonical
  spelling as soon as anybody holds MEL-pool liquidity.  `C16_backed_*_pool` are the per-pool versions.
-/
import MelModel.Seal
import MelModel.SupplyDefs
import MelModel.Props.C01
import MelModel.Props.C01Seal
import MelModel.Props.C16
import MelModel.Lemmas.BackL
import MelModel.Lemmas.WholeL
namespace Mel
open Mel.Gen

/-- the liquidity recorded by pool `k` (0 when the pool does not exist) -/
def recordedLiqs (s : State) (k : PoolKey) : Nat := ((s.pools.get k).map (·.liqs)).getD 0

theorem recordedLiqs_eq (s : State) (k : PoolKey) : recordedLiqs s k = BackL.liqsAt s.pools k := rfl

/-- pool `k`'s tokens are backed: no more of them exist than the pool has issued and not yet redeemed -/
def Backed (env : Env) (s : State) (k : PoolKey) : Prop :=
  supply s (liqTokenDenom env k) ≤ recordedLiqs s k

/-- the token denominations of distinct pool keys are distinct -/
structure LiqDenomsApart (env : Env) : Prop where
  inj : ∀ k k' : PoolKey, liqTokenDenom env k = liqTokenDenom env k' → k = k'

/-- `LiqDenomsApart` holds for no environment: `PoolKey.toBytes` spells the non-canonical key
    `(SYM, MEL)` exactly like the canonical `(MEL, SYM)`, so the two have the same token denomination whatever
    `liqHash` is. The theorems assume `LiqDenomsApartC` below instead. -/
theorem LiqDenomsApart_unsatisfiable (env : Env) : ¬ LiqDenomsApart env := by
  intro h
  have := h.inj ⟨.mel, .sym⟩ ⟨.sym, .mel⟩ rfl
  cases this

/-- a pool key in the one spelling settlement accepts (`canonical_pool_key`): the only keys for which pools are
    created, deposits are taken and tokens are issued -/
def CanonKey (k : PoolKey) : Prop := canonicalPoolKey k.toBytes = some k

/-- the token denominations of distinct *canonical* pool keys are distinct
    (collision-freeness of the keyed hash `liqHash`; `toBytes` is injective on canonical keys) -/
structure LiqDenomsApartC (env : Env) : Prop where
  inj : ∀ k k' : PoolKey, CanonKey k → CanonKey k' → liqTokenDenom env k = liqTokenDenom env k' → k = k'

/-- A batch keeps every pool's tokens backed, unless it mints them: no faucet output (K-faucet-liq) and no
    newly created custom token coincides with the pool's token denomination -/
theorem C16_backed_batch (env : Env) (s s' : State) (txs : List Tx) (fb : Header) (k : PoolKey)
    (h : applyBatch env s txs fb = .ok s') (hk : (s.coins.coins.map (·.1)).Nodup)
    (hmint : batchIssuance txs (liqTokenDenom env k) = 0)
    (hb : Backed env s k) : Backed env s' k := by
  have h1 := C01_apply env s s' txs fb h hk (liqTokenDenom env k)
  have hp := BackL.applyBatch_pools h
  unfold Backed recordedLiqs at *
  rw [hp]
  omega

theorem C16_backed_settle_pool (env : Env) (s s' : State) (h : settle env s = .ok s') (hp : SealPre s)
    (hl : legacyDeposit s = false) (k : PoolKey)
    (hinj : ∀ k', CanonKey k' → liqTokenDenom env k' = liqTokenDenom env k → k' = k) :
    Good s s' ∧ (Backed env s k → Backed env s' k) := by
  obtain ⟨g, l⟩ := settle_chain h hp hl (liqTokenDenom env k) k hinj
  refine ⟨g, fun hb => ?_⟩
  unfold Backed at *
  rw [recordedLiqs_eq, BackL.supply_liq] at *
  unfold BackL.Step at l
  rw [if_pos rfl, if_pos rfl] at l
  omega

/-- Settlement keeps every pool's tokens backed: deposits issue at most what the pool adds to its record
    (`C16_issue_backed`), withdrawals burn exactly what the pool subtracts, swaps and the settlement of other
    pools only move tokens between coins and reserves.  Pools are quantified over canonical keys: for the
    spelling `(SYM, MEL)`, whose token is the MEL/SYM pool's, `Backed` fails as soon as anybody holds MEL/SYM
    liquidity.  No hypothesis excludes K-liq-saturation: a deposit that would saturate the record is left
    unsettled (`C16_saturating_deposit_skipped`). -/
theorem C16_backed_settle (env : Env) (s s' : State) (h : settle env s = .ok s') (hp : SealPre s)
    (hl : legacyDeposit s = false) (ha : LiqDenomsApartC env)
    (hb : ∀ k, CanonKey k → Backed env s k) : ∀ k, CanonKey k → Backed env s' k := by
  intro k hk
  exact (C16_backed_settle_pool env s s' h hp hl k (fun k' hk' e => ha.inj k' k hk' hk e)).2 (hb k hk)

theorem C16_backed_of_same {env : Env} {s s' : State} {k : PoolKey}
    (hc : coinsTotal s'.coins (.custom (env.liqHash k.toBytes)) ≤ coinsTotal s.coins (.custom (env.liqHash k.toBytes)))
    (ht : poolsTotal s'.pools (.custom (env.liqHash k.toBytes)) = poolsTotal s.pools (.custom (env.liqHash k.toBytes)))
    (hq : BackL.liqsAt s.pools k ≤ BackL.liqsAt s'.pools k) (hb : Backed env s k) : Backed env s' k := by
  unfold Backed at *
  rw [recordedLiqs_eq, BackL.supply_liq] at *
  unfold cp liqTokenDenom at *
  omega

theorem C16_backed_builtins_pool (env : Env) (s : State) (hk : (s.pools.map (·.1)).Nodup) (k : PoolKey)
    (hb : Backed env s k) : Backed env (createBuiltins s) k := by
  obtain ⟨_, t, l⟩ := BackL.createBuiltins_back s (env.liqHash k.toBytes) hk
  exact C16_backed_of_same (s := s) (s' := createBuiltins s) (Nat.le_refl _) t (l k) hb

/-- Creating the builtin pools keeps tokens backed: a new builtin pool records 10^9 nobody-owned liquidity; a
    builtin pool is also created afresh when it recorded no liquidity (F23) — then none of its tokens were in
    circulation, and the recorded liquidity only grows. -/
theorem C16_backed_builtins (env : Env) (s : State) (hk : (s.pools.map (·.1)).Nodup)
    (hb : ∀ k, Backed env s k) (hnone : ∀ k ∈ [poolMelSym, poolMelErg, poolErgSym], s.pools.get k = none →
      supply s (liqTokenDenom env k) = 0) :
    ∀ k, Backed env (createBuiltins s) k := by
  intro k
  have _ := hnone   -- implied by `hb`: an absent pool records 0, so none of its tokens may exist
  exact C16_backed_builtins_pool env s hk k (hb k)

theorem C16_backed_pegging_pool (env : Env) (s s' : State) (h : processPegging s = .ok s')
    (hk : (s.pools.map (·.1)).Nodup) (k : PoolKey) (hb : Backed env s k) : Backed env s' k := by
  obtain ⟨hc, _, t, l⟩ := BackL.processPegging_back h hk (env.liqHash k.toBytes)
  exact C16_backed_of_same (by rw [hc]; exact Nat.le_refl _) t (by rw [l k]; exact Nat.le_refl _) hb

/-- pegging, the TIP-909 subsidy and the proposer reward touch neither recorded liquidity nor any token -/
theorem C16_backed_pegging (env : Env) (s s' : State) (h : processPegging s = .ok s')
    (hk : (s.pools.map (·.1)).Nodup)
    (hsym : ∀ k, liqTokenDenom env k ≠ .mel ∧ liqTokenDenom env k ≠ .sym ∧ liqTokenDenom env k ≠ .erg)
    (hb : ∀ k, Backed env s k) : ∀ k, Backed env s' k := by
  intro k
  have _ := hsym   -- automatic: a token denomination is a `custom` one
  exact C16_backed_pegging_pool env s s' h hk k (hb k)

theorem C16_settle_of_phases {env : Env} {s0 t1 t2 t3 : State} (h1 : processSwaps s0 = .ok t1)
    (h2 : processDeposits env t1 = .ok t2) (h3 : processWithdrawals env t2 = .ok t3) :
    settle env s0 = .ok t3 := by
  unfold settle
  rw [h1]
  show (processDeposits env t1).bind _ = _
  rw [h2]
  exact h3

theorem C16_backed_seal_pool (env : Env) (s : State) (a : Option ProposerAction) (ss : Sealed)
    (h : sealState env s a = .ok ss) (hp : SealPre s) (hl : legacyDeposit s = false) (k : PoolKey)
    (hinj : ∀ k', CanonKey k' → liqTokenDenom env k' = liqTokenDenom env k → k' = k)
    (hb : Backed env s k) : Backed env ss.st k := by
  have hm : liqTokenDenom env k ≠ .mel := fun e => by cases e
  have hs : liqTokenDenom env k ≠ .sym := fun e => by cases e
  have he : liqTokenDenom env k ≠ .erg := fun e => by cases e
  have l := WholeL.seal_potential h hp hl (liqTokenDenom env k) k hinj
  have l0 := C01_builtins_sharp s (liqTokenDenom env k) hp.poolKeys
  rw [if_pos rfl, if_pos rfl, builtinsCreated_other _ _ hm hs he, WholeL.midPart_zero _ _ hm hs] at l
  rw [builtinsCreated_other _ _ hm hs he] at l0
  unfold Backed at *
  rw [recordedLiqs_eq] at *
  omega

/-- Sealing keeps the tokens of every pool with a canonical key backed (see `C16_backed_settle`).  `hsym`, `hfresh`
    and `hnone` are not used. -/
theorem C16_backed_seal (env : Env) (s : State) (a : Option ProposerAction) (ss : Sealed)
    (h : sealState env s a = .ok ss) (hp : SealPre s) (hl : legacyDeposit s = false) (ha : LiqDenomsApartC env)
    (hsym : ∀ k, liqTokenDenom env k ≠ .mel ∧ liqTokenDenom env k ≠ .sym ∧ liqTokenDenom env k ≠ .erg)
    (hfresh : s.coins.getCoin { txhash := env.rewardId s.height, index := 0 } = none)
    (hnone : ∀ k ∈ [poolMelSym, poolMelErg, poolErgSym], s.pools.get k = none →
      supply s (liqTokenDenom env k) = 0)
    (hb : ∀ k, CanonKey k → Backed env s k) : ∀ k, CanonKey k → Backed env ss.st k := by
  intro k hk
  have _ := hsym
  have _ := hfresh
  have _ := hnone
  exact C16_backed_seal_pool env s a ss h hp hl k (fun k' hk' e => ha.inj k' k hk' hk e) (hb k hk)

namespace C16HistWitness

def env : Env := {
  vm := { hash := id, sigOk := fun _ _ _ => true },
  liqHash := id, fdp := fun h => 9 :: h, rewardId := fun _ => [], hdrHash := fun _ => [],
  powOk := fun _ _ _ _ => .invalid, isGrandfathered := fun _ => false,
  historyRoot := fun _ => [], coinsRoot := fun _ => [], txsRoot := fun _ _ => [],
  poolsRoot := fun _ => [], stakesRoot := fun _ => [] }

def s0 : State := {
  network := .custom02, height := 10, history := [], coins := {},
  txs := [], feePool := 0, feeMultiplier := 0, tips := 0, doscSpeed := 0, pools := [], stakes := [] }

def faucet : Tx := {
  kind := .faucet, inputs := [], outputs := [(⟨[8], 5, liqTokenDenom env poolMelSym, []⟩ : CoinData)], fee := 0,
  covenants := [], data := [], sigs := [], hash := [2], rawLen := 0, covHashes := [] }

def tok : Denom := liqTokenDenom env poolMelSym

def dep (a b : Nat) : Tx := {
  kind := .liqDeposit, inputs := [], outputs := [(⟨[7], a, .mel, []⟩ : CoinData), ⟨[7], b, .sym, []⟩], fee := 0,
  covenants := [], data := [115], sigs := [], hash := [2], rawLen := 0, covHashes := [] }

/-- a state in which the MEL/SYM pool holds `(l, r)` and records `q` liquidity, all `q` tokens are in one coin,
    and the block contains the deposit `dep a b`, whose two coins exist as declared -/
def sDep (l r q a b : Nat) : State := {
  network := .custom02, height := 10, history := [],
  coins := { coins := [(⟨[1], 0⟩, ⟨⟨[7], q, tok, []⟩, 5⟩), (⟨[2], 0⟩, ⟨⟨[7], a, .mel, []⟩, 10⟩),
                       (⟨[2], 1⟩, ⟨⟨[7], b, .sym, []⟩, 10⟩)], counts := [([7], 3)] },
  txs := [dep a b], feePool := 0, feeMultiplier := 0, tips := 0, doscSpeed := 0,
  pools := [(poolMelSym, ⟨l, r, 0, q⟩)], stakes := [] }

theorem env_apart : LiqDenomsApartC env := by
  refine ⟨fun k k' hk hk' e => ?_⟩
  have e' : k.toBytes = k'.toBytes := Denom.custom.inj e
  unfold CanonKey at hk hk'
  rw [e', hk'] at hk
  exact (Option.some.inj hk).symm

theorem canon_melSym : CanonKey poolMelSym := by unfold CanonKey; decide

theorem sealPre_sDep (l r q a b : Nat) (hfit : q + a + b ≤ U128_MAX) : SealPre (sDep l r q a b) := by
  refine ⟨?_, ?_, ?_, ?_, ?_⟩
  · show ([⟨[1], 0⟩, ⟨[2], 0⟩, ⟨[2], 1⟩] : List CoinID).Nodup
    decide
  · show ([poolMelSym] : List PoolKey).Nodup
    decide
  · show ([[2]] : List Hash).Nodup
    decide
  · intro tx htx i o c ho hc
    simp only [sDep, List.mem_cons, List.not_mem_nil, or_false] at htx
    subst htx
    match i with
    | 0 =>
      simp only [dep, List.getElem?_cons_zero, Option.some.injEq] at ho
      subst ho
      have : c = ⟨⟨[7], a, .mel, []⟩, 10⟩ := by
        have h2 : (sDep l r q a b).coins.getCoin ⟨(dep a b).hash, 0⟩ = some ⟨⟨[7], a, .mel, []⟩, 10⟩ := rfl
        rw [h2] at hc; exact (Option.some.inj hc).symm
      subst this
      exact ⟨rfl, rfl⟩
    | 1 =>
      simp only [dep, List.getElem?_cons_succ, List.getElem?_cons_zero, Option.some.injEq] at ho
      subst ho
      have : c = ⟨⟨[7], b, .sym, []⟩, 10⟩ := by
        have h2 : (sDep l r q a b).coins.getCoin ⟨(dep a b).hash, 1⟩ = some ⟨⟨[7], b, .sym, []⟩, 10⟩ := rfl
        rw [h2] at hc; exact (Option.some.inj hc).symm
      subst this
      exact ⟨rfl, rfl⟩
    | n + 2 => simp [dep] at ho
  · intro d
    refine Nat.le_trans (coinsTotal_le_sum _ d) ?_
    simp only [sDep, List.map_cons, List.map_nil, List.sum_cons, List.sum_nil]
    omega

theorem backed_sDep (l r q a b : Nat) : ∀ k, CanonKey k → Backed env (sDep l r q a b) k := by
  intro k hk
  by_cases e : k = poolMelSym
  · subst e
    unfold Backed
    have htok : tok = .custom [115] := by decide
    have h1 : supply (sDep l r q a b) (liqTokenDenom env poolMelSym) = q := by
      show supply _ tok = q
      simp [supply, coinsTotal, poolsTotal, sDep, htok, poolMelSym_eq]
    have h2 : recordedLiqs (sDep l r q a b) poolMelSym = q := by
      simp [recordedLiqs, sDep, AList.get]
    rw [h1, h2]
    exact Nat.le_refl _
  · have hne : k.toBytes ≠ [115] := by
      intro hb
      unfold CanonKey at hk
      rw [hb] at hk
      have : canonicalPoolKey [115] = some poolMelSym := by decide
      rw [this] at hk
      exact e (Option.some.inj hk).symm
    have hne' : ¬ ([115] : Bytes) = k.toBytes := fun h => hne h.symm
    unfold Backed
    have htok : tok = .custom [115] := by decide
    have h1 : supply (sDep l r q a b) (liqTokenDenom env k) = 0 := by
      show supply _ (.custom k.toBytes) = 0
      generalize k.toBytes = bs at hne hne'
      simp [supply, coinsTotal, poolsTotal, sDep, htok, poolMelSym_eq, hne']
    rw [h1]
    exact Nat.zero_le _

theorem coinMap_ext {a b : CoinMap} (h1 : a.coins = b.coins) (h2 : a.counts = b.counts) : a = b := by
  cases a; cases b; simp only at h1 h2; subst h1; subst h2; rfl

/-- the saturating deposit of K-liq-saturation: the MEL/SYM pool holds (2^120, 1) and records 2^120 liquidity,
    all 2^120 tokens are in circulation, and the block deposits 2^120 MEL and 2^120 SYM -/
def sSat : State := sDep (2 ^ 120) 1 (2 ^ 120) (2 ^ 120) (2 ^ 120)

end C16HistWitness

/-- K-liq-saturation: the MEL/SYM pool holds (2^120, 1) and records 2^120 liquidity — the
    state right after a first deposit of 2^120 MEL and 1 SYM — and all 2^120 tokens are in circulation.
    A second deposit of 2^120 MEL and 2^120 SYM is worth √(2^360) = 2^180 liquidity, which `deposit` clamps to
    `u128::MAX`; recording it would saturate (`2^120 + u128::MAX > u128::MAX`), so the deposit is left unsettled:
    `settle` succeeds and leaves the pools, the coins (the depositor's two coins included) and the token supply
    exactly as they were; the pool's 2^120 tokens stay backed by its record of 2^120.
    Every hypothesis of `C16_backed_settle` holds in this state. -/
theorem C16_saturating_deposit_skipped :
    ∃ s', settle C16HistWitness.env C16HistWitness.sSat = .ok s' ∧
      s'.pools = C16HistWitness.sSat.pools ∧ s'.coins = C16HistWitness.sSat.coins ∧
      supply s' (liqTokenDenom C16HistWitness.env poolMelSym)
        = supply C16HistWitness.sSat (liqTokenDenom C16HistWitness.env poolMelSym) ∧
      supply s' (liqTokenDenom C16HistWitness.env poolMelSym) = 2 ^ 120 ∧ recordedLiqs s' poolMelSym = 2 ^ 120 ∧
      Backed C16HistWitness.env s' poolMelSym ∧
      SealPre C16HistWitness.sSat ∧ legacyDeposit C16HistWitness.sSat = false ∧
      LiqDenomsApartC C16HistWitness.env ∧ (∀ k, CanonKey k → Backed C16HistWitness.env C16HistWitness.sSat k) := by
  open C16HistWitness in
  have hv : ((settle env sSat).okAnd fun s' => decide (s'.pools = sSat.pools ∧
      s'.coins.coins = sSat.coins.coins ∧ s'.coins.counts = sSat.coins.counts ∧
      supply sSat (liqTokenDenom env poolMelSym) = 2 ^ 120 ∧ supply s' (liqTokenDenom env poolMelSym) = 2 ^ 120 ∧
      recordedLiqs s' poolMelSym = 2 ^ 120)) = true := by decide +kernel
  obtain ⟨s', hs, h⟩ := Outcome.exists_of_okAnd hv
  obtain ⟨hpools, hc1, hc2, hsup0, hsup, hrec⟩ := of_decide_eq_true h
  refine ⟨s', hs, hpools, coinMap_ext hc1 hc2, hsup.trans hsup0.symm, hsup, hrec, ?_,
    sealPre_sDep (2 ^ 120) 1 (2 ^ 120) (2 ^ 120) (2 ^ 120) (by decide), by decide, env_apart,
    backed_sDep _ _ _ _ _⟩
  unfold Backed
  rw [hsup, hrec]
  exact Nat.le_refl _

/-- K-liq-saturation before the fix, as pure arithmetic: on the pool of
    `C16_saturating_deposit_skipped` — (2^120, 1) with 2^120 liquidity recorded — `PoolState::deposit` of
    (2^120, 2^120) hands out `u128::MAX` liquidity while the new record is `saturating_add(2^120, u128::MAX) =
    u128::MAX`: the record grows by less than what is issued.  The depositors were issued all
    of it, leaving 2^120 + u128::MAX tokens in circulation against a record of u128::MAX. -/
theorem C16_old_saturating_deposit :
    ∃ p' : PoolState, PoolState.deposit ⟨2 ^ 120, 1, 0, 2 ^ 120⟩ (2 ^ 120) (2 ^ 120) = .ok (p', U128_MAX) ∧
      p'.liqs = U128_MAX ∧ p'.liqs < 2 ^ 120 + U128_MAX := by
  have h : ((PoolState.deposit ⟨2 ^ 120, 1, 0, 2 ^ 120⟩ (2 ^ 120) (2 ^ 120)).okAnd fun r =>
      decide (r.2 = U128_MAX ∧ r.1.liqs = U128_MAX)) = true := by decide +kernel
  obtain ⟨⟨p', q⟩, hd, h⟩ := Outcome.exists_of_okAnd h
  have h' : q = U128_MAX ∧ p'.liqs = U128_MAX := of_decide_eq_true h
  refine ⟨p', by rw [hd, h'.1], h'.2, ?_⟩
  rw [h'.2]
  decide

/-- non-vacuity of `C16_backed_settle`: an ordinary deposit (500 MEL and 5 SYM into a pool holding (1000, 10)
    with 1000 liquidity recorded and in circulation) meets every hypothesis; afterwards 1500 tokens circulate
    against a record of 1500 -/
theorem C16_backed_settle_nonvacuous :
    ∃ (env : Env) (s s' : State), settle env s = .ok s' ∧ SealPre s ∧ legacyDeposit s = false ∧
      LiqDenomsApartC env ∧ (∀ k, CanonKey k → Backed env s k) ∧
      supply s' (liqTokenDenom env poolMelSym) = 1500 ∧ recordedLiqs s' poolMelSym = 1500 := by
  open C16HistWitness in
  have hv : ((settle env (sDep 1000 10 1000 500 5)).okAnd fun s' =>
      decide (supply s' (liqTokenDenom env poolMelSym) = 1500 ∧ recordedLiqs s' poolMelSym = 1500)) = true := by
    decide +kernel
  obtain ⟨s', hs, h⟩ := Outcome.exists_of_okAnd hv
  obtain ⟨hsup, hrec⟩ := of_decide_eq_true h
  exact ⟨env, sDep 1000 10 1000 500 5, s', hs,
    sealPre_sDep _ _ _ _ _ (by decide), by decide, env_apart, backed_sDep _ _ _ _ _, hsup, hrec⟩

/-- why K-faucet-liq is excluded: a faucet output in the token's denomination breaks `Backed` -/
theorem C16_faucet_breaks_backing :
    ∃ (env : Env) (s s' : State) (tx : Tx) (fb : Header) (k : PoolKey),
      Backed env s k ∧ tx.kind = .faucet ∧ applyBatch env s [tx] fb = .ok s' ∧ ¬ Backed env s' k := by
  open C16HistWitness in
  have hv : ((applyBatch env s0 [faucet] default).okAnd fun s' =>
      decide (supply s0 (liqTokenDenom env poolMelSym) ≤ recordedLiqs s0 poolMelSym ∧
        ¬ supply s' (liqTokenDenom env poolMelSym) ≤ recordedLiqs s' poolMelSym)) = true := by decide +kernel
  obtain ⟨s', hs, h⟩ := Outcome.exists_of_okAnd hv
  obtain ⟨h0, h1⟩ := of_decide_eq_true h
  exact ⟨env, s0, s', faucet, default, poolMelSym, h0, rfl, hs, h1⟩

/-- non-vacuity of `C16_backed_seal`: the same ordinary deposit, sealed without a proposer action, meets every
    hypothesis; afterwards the MEL/SYM pool's 1500 tokens are backed by a record of 1500 -/
theorem C16_backed_seal_nonvacuous :
    ∃ (env : Env) (s : State) (ss : Sealed), sealState env s none = .ok ss ∧ SealPre s ∧
      legacyDeposit s = false ∧ LiqDenomsApartC env ∧
      (∀ k, liqTokenDenom env k ≠ .mel ∧ liqTokenDenom env k ≠ .sym ∧ liqTokenDenom env k ≠ .erg) ∧
      s.coins.getCoin { txhash := env.rewardId s.height, index := 0 } = none ∧
      (∀ k ∈ [poolMelSym, poolMelErg, poolErgSym], s.pools.get k = none → supply s (liqTokenDenom env k) = 0) ∧
      (∀ k, CanonKey k → Backed env s k) ∧
      supply ss.st (liqTokenDenom env poolMelSym) = 1500 ∧ recordedLiqs ss.st poolMelSym = 1500 := by
  open C16HistWitness in
  have hb := backed_sDep 1000 10 1000 500 5
  have hv : ((sealState env (sDep 1000 10 1000 500 5) none).okAnd fun ss =>
      decide (supply ss.st (liqTokenDenom env poolMelSym) = 1500 ∧ recordedLiqs ss.st poolMelSym = 1500)) = true := by
    decide +kernel
  obtain ⟨ss, hss, h1⟩ := Outcome.exists_of_okAnd hv
  have h1 := of_decide_eq_true h1
  refine ⟨env, sDep 1000 10 1000 500 5, ss, hss, sealPre_sDep _ _ _ _ _ (by decide), by decide, env_apart,
    fun k => ⟨(by intro e; cases e), (by intro e; cases e), (by intro e; cases e)⟩, rfl, ?_, hb, h1.1, h1.2⟩
  intro k hk hnone
  have hc : CanonKey k := by
    simp only [List.mem_cons, List.not_mem_nil, or_false] at hk
    rcases hk with rfl | rfl | rfl <;> (unfold CanonKey; decide)
  have h2 := hb k hc
  unfold Backed recordedLiqs at h2
  rw [hnone] at h2
  exact Nat.le_zero.mp h2

end Mel

#print axioms Mel.C16_backed_batch
#print axioms Mel.C16_backed_settle
#print axioms Mel.C16_backed_builtins
#print axioms Mel.C16_backed_pegging
#print axioms Mel.C16_backed_seal
#print axioms Mel.C16_faucet_breaks_backing
#print axioms Mel.LiqDenomsApart_unsatisfiable
#print axioms Mel.C16_backed_settle_pool
#print axioms Mel.C16_backed_seal_pool
#print axioms Mel.C16_saturating_deposit_skipped
#print axioms Mel.C16_old_saturating_deposit
#print axioms Mel.C16_backed_settle_nonvacuous
#print axioms Mel.C16_backed_seal_nonvacuous

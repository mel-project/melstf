/-
  C13, over histories — the life cycle of a stake across blocks: from the batch that registers it, through every
  later batch and block, the stake stays registered (so no output of its transaction can be spent, `C13_locked`)
  as long as the chain's epoch does not exceed the stake's end field; once a block of a later epoch has been
  opened the stake is gone, and stays gone.
-/
import MelModel.Chain
import MelModel.Props.C13
import MelModel.Lemmas.LifeL
import MelModel.Lemmas.Batch
namespace Mel
open Mel.Gen

/-- one step of the chain: an accepted batch, or a seal followed by the opening of the next block -/
inductive ChainStep (env : Env) : State → State → Prop
  | batch {s s' : State} {txs : List Tx} {fb : Header} : applyBatch env s txs fb = .ok s' → ChainStep env s s'
  | block {s s' : State} {ss : Sealed} {a : Option ProposerAction} :
      sealState env s a = .ok ss → nextUnsealed env ss = .ok s' → ChainStep env s s'

inductive ChainRun (env : Env) : State → State → Prop
  | refl (s : State) : ChainRun env s s
  | step {s m s' : State} : ChainRun env s m → ChainStep env m s' → ChainRun env s s'

/-- a `ChainRun` no batch of which contains a transaction with hash `h` (collision-freeness: a transaction hash is
    used once; registering under the same hash again would overwrite the entry) -/
inductive ChainRunAvoiding (env : Env) (h : Hash) : State → State → Prop
  | refl (s : State) : ChainRunAvoiding env h s s
  | batch {s m s' : State} {txs : List Tx} {fb : Header} : ChainRunAvoiding env h s m →
      (∀ t ∈ txs, t.hash ≠ h) → applyBatch env m txs fb = .ok s' → ChainRunAvoiding env h s s'
  | block {s m s' : State} {ss : Sealed} {a : Option ProposerAction} : ChainRunAvoiding env h s m →
      sealState env m a = .ok ss → nextUnsealed env ss = .ok s' → ChainRunAvoiding env h s s'

theorem ChainRun.invariant {env : Env} {P : State → Prop}
    (batch : ∀ {s s' : State} {txs : List Tx} {fb : Header}, P s → applyBatch env s txs fb = .ok s' → P s')
    (block : ∀ {s s' : State} {ss : Sealed} {a : Option ProposerAction},
      P s → sealState env s a = .ok ss → nextUnsealed env ss = .ok s' → P s')
    {s s' : State} (h : ChainRun env s s') (hs : P s) : P s' := by
  induction h with
  | refl => exact hs
  | step _ hstep ih =>
    cases hstep with
    | batch hb => exact batch ih hb
    | block h1 h2 => exact block ih h1 h2

def StakeKeysUnique (s : State) : Prop := (s.stakes.map (·.1)).Nodup

/-- the height never decreases, hence neither does the epoch -/
theorem C13_epoch_monotone (env : Env) (s s' : State) (h : ChainRun env s s') :
    s.height ≤ s'.height ∧ s.epoch ≤ s'.epoch := by
  have hh : s.height ≤ s'.height :=
    h.invariant (P := fun x => s.height ≤ x.height) (fun ih hb => (applyBatch_frame hb).height ▸ ih)
      (fun ih h1 h2 => LifeL.block_height h1 h2 ▸ Nat.le_succ_of_le ih) (Nat.le_refl _)
  exact ⟨hh, LifeL.epoch_mono hh⟩

theorem batch_epoch {env : Env} {s s' : State} {txs : List Tx} {fb : Header}
    (hb : applyBatch env s txs fb = .ok s') : s'.epoch = s.epoch :=
  congrArg (· / STAKE_EPOCH) (applyBatch_frame hb).height

theorem C13_keys_unique (env : Env) (s s' : State) (h : ChainRun env s s') (hu : StakeKeysUnique s) :
    StakeKeysUnique s' :=
  h.invariant (fun ih hb => LifeL.batch_keys_nodup hb ih) (fun ih h1 h2 => LifeL.block_keys_nodup h1 h2 ih) hu

theorem ChainRunAvoiding.toRun {env : Env} {h : Hash} {s s' : State} (hrun : ChainRunAvoiding env h s s') :
    ChainRun env s s' := by
  induction hrun with
  | refl => exact .refl _
  | batch _ _ hb ih => exact .step ih (.batch hb)
  | block _ h1 h2 ih => exact .step ih (.block h1 h2)

/-- locked for the life of the stake: a stake registered under transaction hash `h` with end field `d.ePostEnd`
    is still registered, unchanged, in every later state whose epoch is at most `d.ePostEnd` -/
theorem C13_life_registered (env : Env) (h : Hash) (d : StakeDoc) (s s' : State)
    (hrun : ChainRunAvoiding env h s s') (hu : StakeKeysUnique s)
    (hreg : s.stakes.getStake h = some d) (hep : s'.epoch ≤ d.ePostEnd) :
    s'.stakes.getStake h = some d := by
  induction hrun with
  | refl => exact hreg
  | batch hr hne hb ih =>
    rw [LifeL.batch_get_avoid hb h hne]
    exact ih (batch_epoch hb ▸ hep)
  | block hr h1 h2 ih =>
    have hle := (C13_epoch_monotone env _ _ (.step (.refl _) (.block h1 h2))).2
    rw [LifeL.block_get h1 h2 (C13_keys_unique env _ _ hr.toRun hu) h, ih (Nat.le_trans hle hep)]
    exact if_pos hep

/-- … so throughout that time no batch spending any output of that transaction is accepted -/
theorem C13_life_locked (env : Env) (h : Hash) (d : StakeDoc) (s s' : State)
    (hrun : ChainRunAvoiding env h s s') (hu : StakeKeysUnique s)
    (hreg : s.stakes.getStake h = some d) (hep : s'.epoch ≤ d.ePostEnd) (hl : legacyStakeLock s' = false)
    (txs : List Tx) (fb : Header) (tx : Tx) (htx : tx ∈ txs) (id : CoinID) (hid : id ∈ tx.inputs)
    (hh : id.txhash = h) : ∀ s'', applyBatch env s' txs fb ≠ .ok s'' := by
  have hg := C13_life_registered env h d s s' hrun hu hreg hep
  exact C13_locked env s' txs fb tx htx id hid hl (.inl (by rw [hh, hg]; rfl))

/-- unlocked afterwards: once the chain has opened a block of an epoch beyond the end field, the stake is no
    longer registered, and it does not come back -/
theorem C13_life_unlocked (env : Env) (h : Hash) (d : StakeDoc) (s s' : State)
    (hrun : ChainRunAvoiding env h s s') (hu : StakeKeysUnique s)
    (hreg : s.stakes.getStake h = some d) (hbefore : s.epoch ≤ d.ePostEnd) (hep : d.ePostEnd < s'.epoch) :
    s'.stakes.getStake h = none := by
  induction hrun with
  | refl => exact absurd hbefore (Nat.not_le_of_lt hep)
  | batch hr hne hb ih =>
    rw [LifeL.batch_get_avoid hb h hne]
    exact ih (batch_epoch hb ▸ hep)
  | @block m s' ss a hr h1 h2 ih =>
    rw [LifeL.block_get h1 h2 (C13_keys_unique env _ _ hr.toRun hu) h]
    by_cases hm : m.epoch ≤ d.ePostEnd
    · rw [C13_life_registered env h d s m hr hu hreg hm]
      exact if_neg (Nat.not_le_of_lt hep)
    · rw [ih (Nat.lt_of_not_le hm)]

/-- voting power follows: in every later state of an epoch within [start, end) the stake still counts for its key -/
theorem C13_life_votes (env : Env) (h : Hash) (d : StakeDoc) (s s' : State)
    (hrun : ChainRunAvoiding env h s s') (hu : StakeKeysUnique s)
    (hreg : s.stakes.getStake h = some d) (hstart : d.eStart ≤ s'.epoch) (hend : s'.epoch < d.ePostEnd) :
    d.symsStaked ≤ s'.stakes.votes s'.epoch d.pubkey := by
  have hg := C13_life_registered env h d s s' hrun hu hreg (Nat.le_of_lt hend)
  exact LifeL.votes_ge_of_get hg _ hstart hend

/-- non-vacuity: a run that crosses an epoch boundary exists (a state one block below the boundary, sealed and
    reopened), so the hypotheses of the theorems above can be met with `s.epoch < s'.epoch` -/
theorem C13_life_nonvacuous :
    ∃ (env : Env) (s s' : State) (h : Hash) (d : StakeDoc), ChainRunAvoiding env h s s' ∧ StakeKeysUnique s ∧
      s.stakes.getStake h = some d ∧ s.epoch ≤ d.ePostEnd ∧ d.ePostEnd < s'.epoch := by
  open LifeL.Witness in
  obtain ⟨ss, s', h1, h2, he⟩ := crossing
  refine ⟨env, s0, s', [1], doc, .block (.refl _) h1 h2, ?_, rfl, Nat.zero_le _, ?_⟩
  · unfold StakeKeysUnique; decide
  · rw [he]; decide

end Mel

#print axioms Mel.C13_epoch_monotone
#print axioms Mel.C13_keys_unique
#print axioms Mel.C13_life_registered
#print axioms Mel.C13_life_locked
#print axioms Mel.C13_life_unlocked
#print axioms Mel.C13_life_votes
#print axioms Mel.C13_life_nonvacuous

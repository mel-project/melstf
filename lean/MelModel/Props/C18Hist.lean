/-
  C18, over histories — the DOSC speed never decreases along the chain: batches only raise it (`C18_speed_monotone`,
  the maximum of the previous value and the speeds demonstrated by the batch's ERG mints), sealing and opening the next
  block leave it alone; consequently the speeds recorded in the headers of successive blocks are non-decreasing.
-/
import MelModel.Chain
import MelModel.Props.C18
import MelModel.Props.C13Life
import MelModel.Props.Reach
import MelModel.Lemmas.HistL
import MelModel.Lemmas.Blocks
namespace Mel
open Mel.Gen

theorem C18_seal_keeps_speed (env : Env) (s : State) (a : Option ProposerAction) (ss : Sealed)
    (h : sealState env s a = .ok ss) : ss.st.doscSpeed = s.doscSpeed := (sealState_keeps h).doscSpeed

theorem C18_next_keeps_speed (env : Env) (ss : Sealed) (s' : State) (h : nextUnsealed env ss = .ok s') :
    s'.doscSpeed = ss.st.doscSpeed := HistL.nextUnsealed_speed h

theorem C18_header_records_speed (env : Env) (ss : Sealed) (hdr : Header) (h : headerOf env ss = .ok hdr) :
    hdr.doscSpeed = ss.st.doscSpeed := HistL.headerOf_speed h

theorem C18_speed_monotone_step (env : Env) (s s' : State) (h : ChainStep env s s') : s.doscSpeed ≤ s'.doscSpeed := by
  cases h with
  | batch hb => exact C18_speed_monotone env _ _ _ _ hb
  | block hs hn => rw [HistL.nextUnsealed_speed hn, (sealState_keeps hs).doscSpeed]; exact Nat.le_refl _

/-- the DOSC speed never decreases along a history: any number of accepted batches and sealed blocks -/
theorem C18_speed_monotone_run (env : Env) (s s' : State) (h : ChainRun env s s') : s.doscSpeed ≤ s'.doscSpeed :=
  h.invariant (P := fun x => s.doscSpeed ≤ x.doscSpeed)
    (fun ih hb => Nat.le_trans ih (C18_speed_monotone_step env _ _ (.batch hb)))
    (fun ih hs hn => Nat.le_trans ih (C18_speed_monotone_step env _ _ (.block hs hn))) (Nat.le_refl _)

/-- header speeds are monotone: the DOSC speed recorded in the header of a later sealed block is at least the
    one recorded in the header of an earlier sealed block (block 1 is sealed from `s₁` and followed by `n₁`; any run
    leads from `n₁` to `s₂`, from which block 2 is sealed) -/
theorem C18_header_speed_monotone (env : Env) (s₁ n₁ s₂ : State) (a₁ a₂ : Option ProposerAction)
    (ss₁ ss₂ : Sealed) (hdr₁ hdr₂ : Header)
    (hs₁ : sealState env s₁ a₁ = .ok ss₁) (hh₁ : headerOf env ss₁ = .ok hdr₁) (hn₁ : nextUnsealed env ss₁ = .ok n₁)
    (hrun : ChainRun env n₁ s₂)
    (hs₂ : sealState env s₂ a₂ = .ok ss₂) (hh₂ : headerOf env ss₂ = .ok hdr₂) :
    hdr₁.doscSpeed ≤ hdr₂.doscSpeed := by
  have _ := hs₁
  rw [HistL.headerOf_speed hh₁, HistL.headerOf_speed hh₂, (sealState_keeps hs₂).doscSpeed, ← HistL.nextUnsealed_speed hn₁]
  exact C18_speed_monotone_run env n₁ s₂ hrun

theorem C18_speedHist_step (env : Env) (s s' : State) (h : ChainStep env s s') (hi : HistL.SpeedHist s) :
    HistL.SpeedHist s' := by
  cases h with
  | batch hb =>
    have f := applyBatch_frame hb
    exact HistL.speedHist_same hi f.history f.height (C18_speed_monotone env _ _ _ _ hb)
  | @block ss a hs hn =>
    obtain ⟨e1, e2, -⟩ := sealState_hhn _ _ _ _ hs
    have hi' : HistL.SpeedHist ss.st := HistL.speedHist_same hi e1 e2 (Nat.le_of_eq (sealState_keeps hs).doscSpeed.symm)
    obtain ⟨hdr, hh, f1, f2, -⟩ := nextUnsealed_ok _ _ _ hn
    exact HistL.speedHist_next hi' (HistL.headerOf_speed hh) f1 f2 (HistL.nextUnsealed_speed hn)

/-- the history of every reachable state records non-decreasing speeds, none above the current speed: for
    heights `h₁ ≤ h₂` with recorded headers `x₁`, `x₂`: `x₁.doscSpeed ≤ x₂.doscSpeed ≤ s.doscSpeed` -/
theorem C18_history_speeds_sorted (env : Env) (s : State) (h : Reachable env s) (h₁ h₂ : Nat) (x₁ x₂ : Header)
    (hle : h₁ ≤ h₂) (g₁ : s.history.get h₁ = some x₁) (g₂ : s.history.get h₂ = some x₂) :
    x₁.doscSpeed ≤ x₂.doscSpeed ∧ x₂.doscSpeed ≤ s.doscSpeed := by
  have hi : HistL.SpeedHist s :=
    h.invariant HistL.speedHist_genesis (fun ih hb => C18_speedHist_step env _ _ (.batch hb) ih)
      (fun ih hs hn => C18_speedHist_step env _ _ (.block hs hn) ih)
  exact ⟨hi.sorted h₁ h₂ x₁ x₂ hle g₁ g₂, hi.le h₂ x₂ g₂⟩

/-- non-vacuity: a run with a batch and a sealed block exists (the witness of Props/Reach.lean), and the header
    recorded for block 0 carries the genesis speed -/
theorem C18_run_nonvacuous :
    ∃ (env : Env) (s s' : State) (x : Header), ChainRun env s s' ∧ s.height < s'.height ∧
      s'.history.get 0 = some x ∧ x.doscSpeed = s.doscSpeed := by
  open ReachWitness in
  obtain ⟨-, ⟨-, hspeed⟩, -⟩ := facts
  have h2 : s2.height = 1 := by
    rw [LifeL.block_height seal_ok next_ok, (applyBatch_frame batch_ok).height]
    rfl
  obtain ⟨x, hx, hg⟩ := nextUnsealed_history env ss s2 next_ok
  rw [h2] at hg
  refine ⟨env, genesisState cfg, s2, x, .step (.step (.refl _) (.batch batch_ok)) (.block seal_ok next_ok),
    by rw [h2]; exact Nat.zero_lt_one, hg, ?_⟩
  rw [C18_header_records_speed _ _ _ hx, C18_seal_keeps_speed _ _ _ _ seal_ok]
  exact hspeed

end Mel

#print axioms Mel.C18_seal_keeps_speed
#print axioms Mel.C18_next_keeps_speed
#print axioms Mel.C18_header_records_speed
#print axioms Mel.C18_speed_monotone_step
#print axioms Mel.C18_speed_monotone_run
#print axioms Mel.C18_header_speed_monotone
#print axioms Mel.C18_speedHist_step
#print axioms Mel.C18_history_speeds_sorted
#print axioms Mel.C18_run_nonvacuous

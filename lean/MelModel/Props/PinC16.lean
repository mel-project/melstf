/-
  C16 — the constants the property's statement (and the recorded deviations) fix, stated of the values regenerated
  from /repo's source (Generated/Tables.lean): builtin pools start with 10^9 (= MICRO_CONVERTER * 1000) of nobody-
  owned liquidity; the ERG/SYM pool exists from TIP-902 on. The model is parametric in these constants: a changed
  constant breaks these theorems instead of being followed silently.
-/
import MelModel.Generated.Tables
namespace Mel
open Mel.Gen

theorem C16_pin_BUILTIN_LIQ_MULT : BUILTIN_LIQ_MULT = 1000 := rfl
theorem C16_pin_TIP_902_HEIGHT : TIP_902_HEIGHT = 180000 := rfl

end Mel

#print axioms Mel.C16_pin_BUILTIN_LIQ_MULT
#print axioms Mel.C16_pin_TIP_902_HEIGHT

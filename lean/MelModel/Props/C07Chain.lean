/-
  C07 (chain part) — headers chain together and commit to the whole state.
-/
import MelModel.Chain
import MelModel.Lemmas.ChainL
import MelModel.Lemmas.Batch
namespace Mel

/-- the header of a child state (any batches, any action) has height parent + 1, the parent header's hash as
    `previous`, the same network; the history holds the parent header at the parent's height and everything
    it held before -/
theorem C07_chain (env : Env) (ss child : Sealed) (basis u : State) (txs : List Tx) (a : Option ProposerAction)
    (fb phdr chdr : Header)
    (hp : headerOf env ss = .ok phdr) (h1 : nextUnsealed env ss = .ok basis)
    (h2 : applyBatch env basis txs fb = .ok u) (h3 : sealState env u a = .ok child)
    (h4 : headerOf env child = .ok chdr) :
    chdr.height = phdr.height + 1 ∧ chdr.previous = env.hdrHash phdr ∧ chdr.network = phdr.network ∧
    child.st.history.get ss.st.height = some phdr ∧
    (∀ h, h ≠ ss.st.height → child.st.history.get h = ss.st.history.get h) := by
  obtain ⟨hdr, hh, bhist, bht, bnet⟩ := nextUnsealed_ok env ss basis h1
  cases hp.symm.trans hh
  have f := applyBatch_frame h2
  obtain ⟨chist, cht, cnet⟩ := sealState_hhn _ _ _ _ h3
  have chist' : child.st.history = ss.st.history.set ss.st.height phdr := chist.trans (f.history.trans bhist)
  have cht' : child.st.height = ss.st.height + 1 := cht.trans (f.height.trans bht)
  have cnet' : child.st.network = ss.st.network := cnet.trans (f.network.trans bnet)
  obtain ⟨pp, _, hpe⟩ := headerOf_ok env ss phdr hp
  obtain ⟨cp, hcp, hce⟩ := headerOf_ok env child chdr h4
  have hph : phdr.height = ss.st.height := by rw [hpe]
  have hpn : phdr.network = ss.st.network := by rw [hpe]
  have hget : child.st.history.get ss.st.height = some phdr := by
    rw [chist']; exact AList.get_set_self _ _ _
  refine ⟨?_, ?_, ?_, hget, ?_⟩
  · rw [hce, hph]; exact cht'
  · rcases hcp with ⟨h0, _⟩ | ⟨_, ph, hg, hcpe⟩
    · rw [cht'] at h0
      cases h0
    · rw [cht', Nat.add_sub_cancel, hget] at hg
      cases hg
      rw [hce]; exact hcpe
  · rw [hce, hpn]; exact cnet'
  · intro h hne
    rw [chist']; exact AList.get_set_ne _ _ hne

/-- the root functions of the environment are injective (collision-free hashing) -/
structure RootsInjective (env : Env) : Prop where
  history : ∀ a b, env.historyRoot a = env.historyRoot b → a = b
  coins : ∀ a b : CoinMap, env.coinsRoot a = env.coinsRoot b → a.coins = b.coins ∧ a.counts = b.counts
  txs : ∀ t a b, env.txsRoot t a = env.txsRoot t b → a = b
  pools : ∀ a b, env.poolsRoot a = env.poolsRoot b → a = b
  stakes : ∀ a b, env.stakesRoot a = env.stakesRoot b → a = b

theorem same_header_fields {env : Env} {s₁ s₂ : Sealed} {h : Header}
    (h₁ : headerOf env s₁ = .ok h) (h₂ : headerOf env s₂ = .ok h) :
    s₁.st.network = s₂.st.network ∧ s₁.st.height = s₂.st.height ∧
    env.historyRoot s₁.st.history = env.historyRoot s₂.st.history ∧
    env.coinsRoot s₁.st.coins = env.coinsRoot s₂.st.coins ∧
    env.txsRoot s₁.st.tip908 s₁.st.txs = env.txsRoot s₂.st.tip908 s₂.st.txs ∧
    s₁.st.feePool = s₂.st.feePool ∧ s₁.st.feeMultiplier = s₂.st.feeMultiplier ∧ s₁.st.doscSpeed = s₂.st.doscSpeed ∧
    env.poolsRoot s₁.st.pools = env.poolsRoot s₂.st.pools ∧ env.stakesRoot s₁.st.stakes = env.stakesRoot s₂.st.stakes := by
  obtain ⟨p₁, -, e₁⟩ := headerOf_ok env s₁ h h₁
  obtain ⟨p₂, -, e₂⟩ := headerOf_ok env s₂ h h₂
  rw [e₁] at e₂
  simp only [Header.mk.injEq] at e₂
  obtain ⟨hn, -, rest⟩ := e₂
  exact ⟨hn, rest⟩

/-- equal headers mean equal coins, pools, stakes, transactions, history, fee pool, fee multiplier and DOSC
    speed (pending tips are deliberately not implied: see C08) -/
theorem C07_sensitive (env : Env) (hi : RootsInjective env) (s₁ s₂ : Sealed) (h : Header)
    (h₁ : headerOf env s₁ = .ok h) (h₂ : headerOf env s₂ = .ok h) (ht : s₁.st.tip908 = s₂.st.tip908) :
    s₁.st.coins.coins = s₂.st.coins.coins ∧ s₁.st.coins.counts = s₂.st.coins.counts ∧
    s₁.st.pools = s₂.st.pools ∧ s₁.st.stakes = s₂.st.stakes ∧ s₁.st.txs = s₂.st.txs ∧
    s₁.st.history = s₂.st.history ∧ s₁.st.feePool = s₂.st.feePool ∧
    s₁.st.feeMultiplier = s₂.st.feeMultiplier ∧ s₁.st.doscSpeed = s₂.st.doscSpeed ∧
    s₁.st.height = s₂.st.height ∧ s₁.st.network = s₂.st.network := by
  obtain ⟨hn, hh, hhist, hcoins, htxs, hfp, hfm, hds, hpools, hstakes⟩ := same_header_fields h₁ h₂
  rw [ht] at htxs
  have hc := hi.coins _ _ hcoins
  exact ⟨hc.1, hc.2, hi.pools _ _ hpools, hi.stakes _ _ hstakes, hi.txs _ _ _ htxs,
    hi.history _ _ hhist, hfp, hfm, hds, hh, hn⟩

/-- any difference in fee pool, fee multiplier or DOSC speed changes the header -/
theorem C07_scalar_change (env : Env) (s₁ s₂ : Sealed) (h₁ h₂ : Header)
    (e₁ : headerOf env s₁ = .ok h₁) (e₂ : headerOf env s₂ = .ok h₂)
    (hd : s₁.st.feePool ≠ s₂.st.feePool ∨ s₁.st.feeMultiplier ≠ s₂.st.feeMultiplier ∨ s₁.st.doscSpeed ≠ s₂.st.doscSpeed) :
    h₁ ≠ h₂ := by
  intro he
  subst he
  obtain ⟨-, -, -, -, -, hfp, hfm, hds, -⟩ := same_header_fields e₁ e₂
  rcases hd with hd | hd | hd
  · exact hd hfp
  · exact hd hfm
  · exact hd hds

end Mel

#print axioms Mel.C07_chain
#print axioms Mel.C07_sensitive
#print axioms Mel.C07_scalar_change

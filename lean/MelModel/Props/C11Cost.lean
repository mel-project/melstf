/-
  C11 (cost of EXECUTION) — what a covenant makes the executor do is bounded by the weight that is paid for:
    (1) the table weights of the executed instructions sum to at most the weight,
    (2) the bytes flattened out of ropes (`Hash`, `SigEOk`, `BtoI`) are bounded by the executed weight, hence by the weight,
    (3) the nesting depth of the values grows by at most one per executed instruction (hence by at most the weight).
-/
import MelModel.VM.Cost
import MelModel.Lemmas.CostX
import MelModel.Props.C11
import MelModel.Props.C10Struct
namespace Mel.VM
open Mel Mel.Gen

/-! `runCost` is `runFuel` with two more accumulators -/

theorem C11_runCost_agrees (o : Oracles) (ops : List Op) (fuel : Nat) (st : Exec) (c : Cost) :
    (runCost o ops fuel st c).1 = (runFuel o ops fuel st c.steps).1 ∧
    (runCost o ops fuel st c).2.steps = (runFuel o ops fuel st c.steps).2 :=
  runCost_fst_steps o ops fuel st c

theorem C11_runCostOf_agrees (o : Oracles) (ops : List Op) (heap : Heap) :
    (runCostOf o ops heap).1 = run o ops heap ∧ (runCostOf o ops heap).2.steps = runSteps o ops heap :=
  runCost_fst_steps o ops (weightU ops + 1) (initExec heap) {}

/-- the table weights (`opWeight`, for a `Loop` instruction the table weight of the instruction itself, `wLoopExtra`)
    of the executed instructions — the failing one included — sum to at most the (un-saturated) weight,
    whatever the fuel, the oracles and the initial heap -/
theorem C11_executed_weight_le_weight (o : Oracles) (ops : List Op) (heap : Heap) (fuel : Nat) :
    (runCost o ops fuel (initExec heap) {}).2.xw ≤ weightU ops := by
  have h := runCost_xw_le o ops fuel (initExec heap) {}
  rw [phi_init] at h
  simpa using h

/-- the general form: from any machine state the weight still to be executed is bounded by the potential `phi`
    (which is `weightU ops` in the initial state, `phi_init`) -/
theorem C11_executed_weight_le_potential (o : Oracles) (ops : List Op) (fuel : Nat) (st : Exec) (c : Cost) :
    (runCost o ops fuel st c).2.xw ≤ c.xw + phi ops st.pc st.loops :=
  runCost_xw_le o ops fuel st c

/-- the executed weight refines the step count: steps ≤ executed weight (≤ weight) -/
theorem C11_steps_le_executed_weight (o : Oracles) (ops : List Op) (heap : Heap) (fuel : Nat) :
    (runCost o ops fuel (initExec heap) {}).2.steps ≤ (runCost o ops fuel (initExec heap) {}).2.xw :=
  runCost_steps_le_xw o ops fuel (initExec heap) {} (Nat.le_refl _)

/-- with a weight below the u128 cap, executed weight ≤ the weight the spender is charged for -/
theorem C11_executed_weight_le_charged (o : Oracles) (ops : List Op) (heap : Heap)
    (h : weight ops < U128_MAX) : (runCostOf o ops heap).2.xw ≤ weight ops := by
  have h1 := C11_executed_weight_le_weight o ops heap (weightU ops + 1)
  have h2 := C11_weight_saturates ops
  unfold runCostOf
  omega

/-- one instruction flattens at most its table weight: `Hash n` weighs `50 + n ≥ n`, `SigEOk n` weighs
    `100 + n ≥ 32 + n + 64`, `BtoI` weighs `50 ≥ 32` (generated table) — for every stack -/
theorem C11_flat_le_op_weight (op : Op) (s : List Value) : opFlat op s ≤ opWeight op :=
  opFlat_le_opWeight op s

/-- … for every machine state (both sides are 0 when the pc is outside the program) -/
theorem C11_flat_le_step_weight (o : Oracles) (ops : List Op) (st : Exec) :
    stepFlat o ops st ≤ opWeightAt ops st.pc :=
  stepFlat_le_opWeightAt o ops st

theorem C11_flat_le_step_weight' (o : Oracles) (ops : List Op) (st : Exec) (h : st.pc < ops.length) :
    stepFlat o ops st ≤ opWeight ops[st.pc] := by
  rw [← opWeightAt_eq ops h]
  exact stepFlat_le_opWeightAt o ops st

theorem C11_flat_le_executed_weight (o : Oracles) (ops : List Op) (heap : Heap) (fuel : Nat) :
    (runCost o ops fuel (initExec heap) {}).2.flat ≤ (runCost o ops fuel (initExec heap) {}).2.xw :=
  runCost_flat_le_xw o ops fuel (initExec heap) {} (Nat.le_refl _)

theorem C11_flat_le_weight (o : Oracles) (ops : List Op) (heap : Heap) (fuel : Nat) :
    (runCost o ops fuel (initExec heap) {}).2.flat ≤ weightU ops :=
  Nat.le_trans (C11_flat_le_executed_weight o ops heap fuel) (C11_executed_weight_le_weight o ops heap fuel)

/-- with a weight below the u128 cap, flattened bytes ≤ the weight the spender is charged for -/
theorem C11_flat_le_charged (o : Oracles) (ops : List Op) (heap : Heap)
    (h : weight ops < U128_MAX) : (runCostOf o ops heap).2.flat ≤ weight ops := by
  have h1 := C11_flat_le_weight o ops heap (weightU ops + 1)
  have h2 := C11_weight_saturates ops
  unfold runCostOf
  omega

/-- … and ≤ the value `opcodes_weight` returns (the implemented weigher) -/
theorem C11_flat_le_charged_impl (o : Oracles) (ops : List Op) (heap : Heap)
    (h : weightDP ops < U128_MAX) : (runCostOf o ops heap).2.flat ≤ weightDP ops := by
  rw [C11_weightDP_eq_weight] at h ⊢
  exact C11_flat_le_charged o ops heap h

/-- one instruction deepens the deepest value held by the machine (stack and heap) by at most one level -/
theorem C11_depth_step (o : Oracles) (ops : List Op) (st st' : Exec) (h : step o ops st = some st') :
    st'.maxDepth ≤ st.maxDepth + 1 :=
  step_maxDepth h

theorem C11_depth_le_steps (o : Oracles) (ops : List Op) (k : Nat) (st st' : Exec)
    (h : stepN o ops k st = some st') : st'.maxDepth ≤ st.maxDepth + k :=
  stepN_maxDepth o ops k st st' h

/-- from the initial state at most `weightU ops` steps can be executed, so every reachable machine state holds
    values of depth at most (deepest value of the initial heap) + weight -/
theorem C11_depth_le_weight (o : Oracles) (ops : List Op) (heap : Heap) (k : Nat) (st' : Exec)
    (h : stepN o ops k (initExec heap) = some st') :
    k ≤ weightU ops ∧ st'.maxDepth ≤ Heap.depth heap + weightU ops := by
  have h1 := stepN_phi o ops k _ _ h
  have h2 := stepN_maxDepth o ops k _ _ h
  rw [phi_init] at h1
  have h3 : (initExec heap).maxDepth = Heap.depth heap := by simp [initExec, Exec.maxDepth]
  omega

theorem C11_result_depth_le_steps (o : Oracles) (ops : List Op) (heap : Heap) (v : Value)
    (h : run o ops heap = some v) : v.depth ≤ Heap.depth heap + runSteps o ops heap := by
  have h1 := runFuel_result_depth o ops (weightU ops + 1) (initExec heap) 0 v h
  have h3 : (initExec heap).maxDepth = Heap.depth heap := by simp [initExec, Exec.maxDepth]
  unfold runSteps
  omega

theorem C11_result_depth_le_weight (o : Oracles) (ops : List Op) (heap : Heap) (v : Value)
    (h : run o ops heap = some v) : v.depth ≤ Heap.depth heap + weightU ops := by
  have h1 := C11_result_depth_le_steps o ops heap v h
  have h2 := C11_steps_le_weight o ops heap (weightU ops + 1)
  unfold runSteps at h1
  omega

/-- the heap a covenant starts from (`Executor::new_from_env`) holds values of depth at most 3 (the transaction) -/
theorem C11_env_depth_le (tx : Tx) (env : Option CovEnv) : Heap.depth (heapOfEnv tx env) ≤ 3 :=
  depth_heapOfEnv tx env

/-- so every machine state reachable while executing a covenant holds values of depth at most 3 + weight -/
theorem C11_covenant_depth_le_weight (o : Oracles) (ops : List Op) (tx : Tx) (env : Option CovEnv) (k : Nat)
    (st' : Exec) (h : stepN o ops k (initExec (heapOfEnv tx env)) = some st') :
    st'.maxDepth ≤ 3 + weightU ops := by
  have h1 := (C11_depth_le_weight o ops _ k st' h).2
  have h2 := C11_env_depth_le tx env
  omega

theorem C11_execute_depth_le_weight (o : Oracles) (ops : List Op) (tx : Tx) (env : Option CovEnv) (v : Value)
    (h : execute o ops tx env = some v) : v.depth ≤ 3 + weightU ops := by
  have h1 := C11_result_depth_le_weight o ops _ v h
  have h2 := C11_env_depth_le tx env
  omega

/-- the bound is tight up to the factor 2: `VEmpty; Loop(n, 2) { VEmpty; VPush }` reaches depth `n + 1` after
    `2 n + 2` steps (a single `VEmpty` reaches depth 1 in 1 step, so the one-step bound `C11_depth_step` is tight) -/
theorem C11_depth_witness (o : Oracles) (n : UInt16) (heap : Heap) :
    stepN o (nestProg n) (2 * n.toNat + 2) (initExec heap)
      = some { stack := [nestVal n.toNat], heap := heap, pc := 4, loops := [] } ∧
    (nestVal n.toNat).depth = n.toNat + 1 := by
  -- `nestProg n` is the flat form of `nestS n`, whose loop body wraps the value once per pass (`nest_eval`)
  refine ⟨?_, depth_nestVal n.toNat⟩
  have h := C10_structured_top o (nestS n) rfl [] [] (initExec heap) rfl rfl
  rw [show eval o (nestS n) ((initExec heap).stack, (initExec heap).heap) = _ from nest_eval o n heap] at h
  rw [show 2 * n.toNat + 2 = stepsOf (nestS n) by show _ = 1 + (1 + n.toNat * (1 + (1 + 0)) + 0); omega]
  exact h

/-- the weight of the witness program is `14 n + 19`: depth 65536 (`n = 65535`) costs weight 917509 -/
theorem C11_depth_witness_weight (n : UInt16) : weightU (nestProg n) = 14 * n.toNat + 19 := by
  simp [nestProg, weightU, weightUF, opWeight, wVEmpty, wVPush, wLoopExtra]
  omega

/-- test oracles: "hash" = identity, every signature verifies -/
def testOracles : Oracles := { hash := fun b => b, sigOk := fun _ _ _ => true }

/-- `PushB 010203; Hash 5`: 2 steps, weight 1 + 55, 3 bytes flattened -/
example : (runCostOf testOracles [.pushb [1, 2, 3], .hash 5] []).2 = { steps := 2, xw := 56, flat := 3 } := by decide
example : weightU [.pushb [1, 2, 3], .hash 5] = 56 := by decide
/-- operand longer than the `Hash` bound: the instruction fails before flattening anything, and is still charged -/
example : (runCostOf testOracles [.pushb [1, 2, 3], .hash 2] []).2 = { steps := 2, xw := 53, flat := 0 } := by decide
/-- a loop: `PushI 0; Loop(3, 2) { PushI 1; Add }`: 2 + 3·2 steps, executed weight 1 + 1 + 3·5 = 17 ≤ weight 22
    (the weigher counts the body once more as part of the enclosing sequence) -/
example : (runCostOf testOracles [.pushi 0, .loop 3 2, .pushi 1, .add] []).2 = { steps := 8, xw := 17, flat := 0 } := by
  decide
example : weightU [.pushi 0, .loop 3 2, .pushi 1, .add] = 22 := by decide
example : ((runCostOf testOracles [.pushi 0, .loop 3 2, .pushi 1, .add] []).1.bind Value.intoInt) = some 3 := by decide
/-- `SigEOk 10` with a 64-byte signature, a 32-byte key and a 3-byte message flattens 32 + 3 + 64 bytes -/
example : (runCostOf testOracles
    [.pushb (List.replicate 64 0), .pushb (List.replicate 32 0), .pushb [1, 2, 3], .sigeok 10] []).2
    = { steps := 4, xw := 113, flat := 99 } := by decide
/-- a 5-byte key is flattened (5 bytes) before `Ed25519PK::from_bytes` rejects it -/
example : ((runCostOf testOracles
      [.pushb (List.replicate 64 0), .pushb [1, 2, 3, 4, 5], .pushb [1, 2, 3], .sigeok 10] []).1.isNone,
    (runCostOf testOracles
      [.pushb (List.replicate 64 0), .pushb [1, 2, 3, 4, 5], .pushb [1, 2, 3], .sigeok 10] []).2)
    = (true, { steps := 4, xw := 113, flat := 5 }) := by decide
/-- `BtoI` flattens only a 32-byte operand -/
example : (runCostOf testOracles [.pushb (List.replicate 32 7), .btoi] []).2 = { steps := 2, xw := 51, flat := 32 } := by
  decide
example : (runCostOf testOracles [.pushb (List.replicate 33 7), .btoi] []).2 = { steps := 2, xw := 51, flat := 0 } := by
  decide
example : runCostLine testOracles [.pushb [1, 2, 3], .hash 5] [] = " xw=56 flat=3" := by decide
/-- the depth witness, run: depth 4 after 8 steps (executed weight 47, weight 61) -/
example : ((runCostOf testOracles (nestProg 3) []).1.map Value.depth, (runCostOf testOracles (nestProg 3) []).2)
    = (some 4, { steps := 8, xw := 47, flat := 0 }) := by decide
/-- non-vacuity of the hypotheses of `C11_depth_le_steps` / `C11_depth_le_weight` -/
example : ∃ st', stepN testOracles (nestProg 3) 8 (initExec []) = some st' ∧ st'.maxDepth = 4 :=
  ⟨_, (C11_depth_witness testOracles 3 []).1, by decide⟩
/-- non-vacuity of `C11_result_depth_le_weight` -/
example : (run testOracles (nestProg 3) []).map Value.depth = some 4 := by decide
/-- non-vacuity of `C11_flat_le_charged` / `C11_executed_weight_le_charged` -/
example : weight [.pushb [1, 2, 3], .hash 5] < U128_MAX := by decide

end Mel.VM

#print axioms Mel.VM.C11_runCost_agrees
#print axioms Mel.VM.C11_runCostOf_agrees
#print axioms Mel.VM.C11_executed_weight_le_weight
#print axioms Mel.VM.C11_executed_weight_le_potential
#print axioms Mel.VM.C11_steps_le_executed_weight
#print axioms Mel.VM.C11_executed_weight_le_charged
#print axioms Mel.VM.C11_flat_le_op_weight
#print axioms Mel.VM.C11_flat_le_step_weight
#print axioms Mel.VM.C11_flat_le_step_weight'
#print axioms Mel.VM.C11_flat_le_executed_weight
#print axioms Mel.VM.C11_flat_le_weight
#print axioms Mel.VM.C11_flat_le_charged
#print axioms Mel.VM.C11_flat_le_charged_impl
#print axioms Mel.VM.C11_depth_step
#print axioms Mel.VM.C11_depth_le_steps
#print axioms Mel.VM.C11_depth_le_weight
#print axioms Mel.VM.C11_result_depth_le_steps
#print axioms Mel.VM.C11_result_depth_le_weight
#print axioms Mel.VM.C11_env_depth_le
#print axioms Mel.VM.C11_covenant_depth_le_weight
#print axioms Mel.VM.C11_execute_depth_le_weight
#print axioms Mel.VM.C11_depth_witness
#print axioms Mel.VM.C11_depth_witness_weight

/-
  C10 — the executor (`MelModel/VM/Exec.lean`) follows the documented MelVM semantics: the laws of the single
  instructions (the loop laws are in MelModel/Props/C10Struct.lean).  `st.stack` has its top at the head; `st.next s`
  is the successor state of a non-jumping instruction: stack `s`, `pc + 1`, same heap, same loop stack.  A theorem whose
  name ends in `_actual` records behaviour of the model (= of the code it mirrors) that deviates from the documented law.
-/
import MelModel.Lemmas.Exec
namespace Mel.VM
open Mel

theorem C10_add (o : Oracles) (st : Exec) (a b : U256) (rest : List Value)
    (hs : st.stack = .int a :: .int b :: rest) :
    execOp o .add st = some (st.next (.int (a + b) :: rest)) :=
  execOp_of_stack hs rfl

theorem C10_add_toNat (o : Oracles) (st : Exec) (a b : U256) (rest : List Value)
    (hs : st.stack = .int a :: .int b :: rest) :
    ∃ r : U256, execOp o .add st = some (st.next (.int r :: rest)) ∧
      r.toNat = (a.toNat + b.toNat) % 2 ^ 256 :=
  ⟨a + b, C10_add o st a b rest hs, BitVec.toNat_add a b⟩

theorem C10_sub (o : Oracles) (st : Exec) (a b : U256) (rest : List Value)
    (hs : st.stack = .int a :: .int b :: rest) :
    execOp o .sub st = some (st.next (.int (a - b) :: rest)) :=
  execOp_of_stack hs rfl

theorem C10_sub_toNat (o : Oracles) (st : Exec) (a b : U256) (rest : List Value)
    (hs : st.stack = .int a :: .int b :: rest) :
    ∃ r : U256, execOp o .sub st = some (st.next (.int r :: rest)) ∧
      r.toNat = (a.toNat + (2 ^ 256 - b.toNat)) % 2 ^ 256 ∧
      (b.toNat ≤ a.toNat → r.toNat = a.toNat - b.toNat) := by
  refine ⟨a - b, C10_sub o st a b rest hs, ?_, ?_⟩
  · rw [BitVec.toNat_sub, Nat.add_comm]
  · intro h
    exact BitVec.toNat_sub_of_le (BitVec.le_def.mpr h)

theorem C10_mul (o : Oracles) (st : Exec) (a b : U256) (rest : List Value)
    (hs : st.stack = .int a :: .int b :: rest) :
    execOp o .mul st = some (st.next (.int (a * b) :: rest)) :=
  execOp_of_stack hs rfl

theorem C10_mul_toNat (o : Oracles) (st : Exec) (a b : U256) (rest : List Value)
    (hs : st.stack = .int a :: .int b :: rest) :
    ∃ r : U256, execOp o .mul st = some (st.next (.int r :: rest)) ∧
      r.toNat = (a.toNat * b.toNat) % 2 ^ 256 :=
  ⟨a * b, C10_mul o st a b rest hs, BitVec.toNat_mul a b⟩

theorem C10_div (o : Oracles) (st : Exec) (a b : U256) (rest : List Value)
    (hs : st.stack = .int a :: .int b :: rest) :
    execOp o .div st = if b = 0 then none else some (st.next (.int (a / b) :: rest)) := by
  simp only [execOp, binop, intBin, hs]
  split <;> simp_all

theorem C10_div_none_iff (o : Oracles) (st : Exec) (a b : U256) (rest : List Value)
    (hs : st.stack = .int a :: .int b :: rest) :
    execOp o .div st = none ↔ b = 0 := by
  rw [C10_div o st a b rest hs]; split <;> simp_all

theorem C10_div_toNat (o : Oracles) (st : Exec) (a b : U256) (rest : List Value)
    (hs : st.stack = .int a :: .int b :: rest) (hb : b ≠ 0) :
    ∃ r : U256, execOp o .div st = some (st.next (.int r :: rest)) ∧
      r.toNat = a.toNat / b.toNat := by
  refine ⟨a / b, ?_, BitVec.toNat_udiv⟩
  rw [C10_div o st a b rest hs, if_neg hb]

theorem C10_rem (o : Oracles) (st : Exec) (a b : U256) (rest : List Value)
    (hs : st.stack = .int a :: .int b :: rest) :
    execOp o .rem st = if b = 0 then none else some (st.next (.int (a % b) :: rest)) := by
  simp only [execOp, binop, intBin, hs]
  split <;> simp_all

theorem C10_rem_none_iff (o : Oracles) (st : Exec) (a b : U256) (rest : List Value)
    (hs : st.stack = .int a :: .int b :: rest) :
    execOp o .rem st = none ↔ b = 0 := by
  rw [C10_rem o st a b rest hs]; split <;> simp_all

theorem C10_rem_toNat (o : Oracles) (st : Exec) (a b : U256) (rest : List Value)
    (hs : st.stack = .int a :: .int b :: rest) (hb : b ≠ 0) :
    ∃ r : U256, execOp o .rem st = some (st.next (.int r :: rest)) ∧
      r.toNat = a.toNat % b.toNat := by
  refine ⟨a % b, ?_, BitVec.toNat_umod⟩
  rw [C10_rem o st a b rest hs, if_neg hb]

theorem C10_exp (o : Oracles) (st : Exec) (k : UInt8) (b e : U256) (rest : List Value)
    (hs : st.stack = .int b :: .int e :: rest) :
    execOp o (.exp k) st =
      if e.toNat < 2 ^ (k.toNat + 1)
      then some (st.next (.int (BitVec.ofNat 256 (b.toNat ^ e.toNat)) :: rest))
      else none := by
  have h := expLoop_eq 256 e.toNat b.toNat 1 (k.toNat + 1) e.isLt
    (by unfold U256_MOD; exact Nat.one_lt_two_pow (by omega))
  simp only [execOp, binop, intBin, hs, h]
  split
  · simp [ofNat_mod_U256]
  · simp

theorem C10_exp_some_iff (o : Oracles) (st : Exec) (k : UInt8) (b e : U256) (rest : List Value)
    (hs : st.stack = .int b :: .int e :: rest) :
    (execOp o (.exp k) st).isSome ↔ e.toNat < 2 ^ (k.toNat + 1) := by
  rw [C10_exp o st k b e rest hs]; split <;> simp_all

theorem C10_exp_toNat (o : Oracles) (st : Exec) (k : UInt8) (b e : U256) (rest : List Value)
    (hs : st.stack = .int b :: .int e :: rest) (he : e.toNat < 2 ^ (k.toNat + 1)) :
    ∃ r : U256, execOp o (.exp k) st = some (st.next (.int r :: rest)) ∧
      r.toNat = b.toNat ^ e.toNat % 2 ^ 256 := by
  refine ⟨_, ?_, BitVec.toNat_ofNat _ _⟩
  rw [C10_exp o st k b e rest hs, if_pos he]

theorem C10_and (o : Oracles) (st : Exec) (a b : U256) (rest : List Value)
    (hs : st.stack = .int a :: .int b :: rest) :
    execOp o .and st = some (st.next (.int (a &&& b) :: rest)) :=
  execOp_of_stack hs rfl

theorem C10_or (o : Oracles) (st : Exec) (a b : U256) (rest : List Value)
    (hs : st.stack = .int a :: .int b :: rest) :
    execOp o .or st = some (st.next (.int (a ||| b) :: rest)) :=
  execOp_of_stack hs rfl

theorem C10_xor (o : Oracles) (st : Exec) (a b : U256) (rest : List Value)
    (hs : st.stack = .int a :: .int b :: rest) :
    execOp o .xor st = some (st.next (.int (a ^^^ b) :: rest)) :=
  execOp_of_stack hs rfl

theorem C10_not (o : Oracles) (st : Exec) (a : U256) (rest : List Value)
    (hs : st.stack = .int a :: rest) :
    execOp o .not st = some (st.next (.int (~~~ a) :: rest)) :=
  execOp_of_stack hs rfl

theorem C10_eql (o : Oracles) (st : Exec) (a b : U256) (rest : List Value)
    (hs : st.stack = .int a :: .int b :: rest) :
    execOp o .eql st = some (st.next (.int (if a = b then 1 else 0) :: rest)) :=
  execOp_of_stack hs rfl

theorem C10_lt (o : Oracles) (st : Exec) (a b : U256) (rest : List Value)
    (hs : st.stack = .int a :: .int b :: rest) :
    execOp o .lt st = some (st.next (.int (if a.toNat < b.toNat then 1 else 0) :: rest)) :=
  execOp_of_stack hs rfl

theorem C10_gt (o : Oracles) (st : Exec) (a b : U256) (rest : List Value)
    (hs : st.stack = .int a :: .int b :: rest) :
    execOp o .gt st = some (st.next (.int (if a.toNat > b.toNat then 1 else 0) :: rest)) :=
  execOp_of_stack hs rfl

theorem C10_shl (o : Oracles) (st : Exec) (a off : U256) (rest : List Value)
    (hs : st.stack = .int a :: .int off :: rest) :
    execOp o .shl st = some (st.next (.int (a <<< (off.toNat % 256)) :: rest)) := by
  rw [← mod_u32_mod_256]
  exact execOp_of_stack hs rfl

theorem C10_shl_toNat (a off : U256) :
    (a <<< (off.toNat % 256)).toNat = a.toNat * 2 ^ (off.toNat % 256) % 2 ^ 256 := by
  rw [BitVec.toNat_shiftLeft, Nat.shiftLeft_eq]

theorem C10_shr (o : Oracles) (st : Exec) (a off : U256) (rest : List Value)
    (hs : st.stack = .int a :: .int off :: rest) :
    execOp o .shr st = some (st.next (.int (a >>> (off.toNat % 256)) :: rest)) := by
  rw [← mod_u32_mod_256]
  exact execOp_of_stack hs rfl

theorem C10_shr_toNat (a off : U256) :
    (a >>> (off.toNat % 256)).toNat = a.toNat / 2 ^ (off.toNat % 256) := by
  rw [BitVec.toNat_ushiftRight, Nat.shiftRight_eq_div_pow]

theorem C10_hash (o : Oracles) (st : Exec) (n : UInt16) (b : Bytes) (rest : List Value)
    (hs : st.stack = .bytes b :: rest) :
    execOp o (.hash n) st =
      if b.length > n.toNat then none else some (st.next (.bytes (o.hash b) :: rest)) := by
  simp only [execOp, monop, hs]
  split <;> simp_all

theorem C10_hash_none_iff (o : Oracles) (st : Exec) (n : UInt16) (b : Bytes) (rest : List Value)
    (hs : st.stack = .bytes b :: rest) :
    execOp o (.hash n) st = none ↔ b.length > n.toNat := by
  rw [C10_hash o st n b rest hs]; split <;> simp_all

/-- whatever the message and the signature are: see `C10_sigeok_type_error_masked_actual` -/
theorem C10_sigeok_pk_long (o : Oracles) (st : Exec) (n : UInt16) (msg sig : Value) (pk : Bytes)
    (rest : List Value) (hs : st.stack = msg :: .bytes pk :: sig :: rest) (hpk : pk.length > 32) :
    execOp o (.sigeok n) st = some (st.next (.int 0 :: rest)) := by
  simp [execOp, triop, hs, hpk, Value.ofBool]

theorem C10_sigeok_pk_short (o : Oracles) (st : Exec) (n : UInt16) (msg sig : Value) (pk : Bytes)
    (rest : List Value) (hs : st.stack = msg :: .bytes pk :: sig :: rest) (hpk : pk.length < 32) :
    execOp o (.sigeok n) st = none := by
  have h1 : ¬ pk.length > 32 := by omega
  have h2 : pk.length ≠ 32 := by omega
  simp [execOp, triop, hs, h1, h2]

theorem C10_sigeok_msg_long (o : Oracles) (st : Exec) (n : UInt16) (sig : Value) (msg pk : Bytes)
    (rest : List Value) (hs : st.stack = .bytes msg :: .bytes pk :: sig :: rest)
    (hpk : pk.length = 32) (hmsg : msg.length > n.toNat) :
    execOp o (.sigeok n) st = none := by
  simp [execOp, triop, hs, hpk, hmsg]

theorem C10_sigeok_sig_badlen (o : Oracles) (st : Exec) (n : UInt16) (msg pk sig : Bytes)
    (rest : List Value) (hs : st.stack = .bytes msg :: .bytes pk :: .bytes sig :: rest)
    (hpk : pk.length = 32) (hmsg : msg.length ≤ n.toNat) (hsig : sig.length ≠ 64) :
    execOp o (.sigeok n) st = some (st.next (.int 0 :: rest)) := by
  have h1 : ¬ msg.length > n.toNat := by omega
  by_cases h2 : sig.length > 64 <;> simp [execOp, triop, hs, hpk, h1, h2, hsig, Value.ofBool]

theorem C10_sigeok_ok (o : Oracles) (st : Exec) (n : UInt16) (msg pk sig : Bytes)
    (rest : List Value) (hs : st.stack = .bytes msg :: .bytes pk :: .bytes sig :: rest)
    (hpk : pk.length = 32) (hmsg : msg.length ≤ n.toNat) (hsig : sig.length = 64) :
    execOp o (.sigeok n) st =
      some (st.next (.int (if o.sigOk pk msg sig then 1 else 0) :: rest)) := by
  have h1 : ¬ msg.length > n.toNat := by omega
  simp [execOp, triop, hs, hpk, h1, hsig, Value.ofBool]

/-- the type errors of `sigeok` that do fail; the others: `C10_sigeok_type_error_masked_actual` -/
theorem C10_sigeok_type_error (o : Oracles) (st : Exec) (n : UInt16) (msg pk sig : Value)
    (rest : List Value) (hs : st.stack = msg :: pk :: sig :: rest)
    (h : (∀ p, pk ≠ .bytes p) ∨
         (∃ p, pk = .bytes p ∧ p.length = 32 ∧
            ((∀ m, msg ≠ .bytes m) ∨
             (∃ m, msg = .bytes m ∧ m.length ≤ n.toNat ∧ ∀ s, sig ≠ .bytes s)))) :
    execOp o (.sigeok n) st = none := by
  rcases h with h | ⟨p, rfl, hp, h | ⟨m, rfl, hm, h⟩⟩
  · cases pk <;> simp_all [execOp, triop]
  · cases msg <;> simp_all [execOp, triop]
  · have h1 : ¬ m.length > n.toNat := by omega
    cases sig <;> simp_all [execOp, triop]

/-- DEVIATION (from "an operand of the wrong type gives `none`"): the length of the public
    key is examined before the types of the message and of the signature, so with an over-long key
    `sigeok` succeeds with 0 even when the message and the signature are not byte strings -/
theorem C10_sigeok_type_error_masked_actual (o : Oracles) (st : Exec) (n : UInt16) (x : U256)
    (l : List Value) (pk : Bytes) (rest : List Value)
    (hs : st.stack = .int x :: .bytes pk :: .vec l :: rest) (hpk : pk.length > 32) :
    execOp o (.sigeok n) st = some (st.next (.int 0 :: rest)) :=
  C10_sigeok_pk_long o st n _ _ pk rest hs hpk

theorem C10_heap_get_set (h : Heap) (i j : Nat) (v : Value) :
    Heap.get (Heap.set h i v) j = if i = j then some v else Heap.get h j := by
  simp [Heap.get, Heap.set]

theorem C10_heap_get_set_same (h : Heap) (i : Nat) (v : Value) :
    Heap.get (Heap.set h i v) i = some v := by
  simp [Heap.get, Heap.set]

theorem C10_heap_get_set_other (h : Heap) (i j : Nat) (v : Value) (hij : j ≠ i) :
    Heap.get (Heap.set h i v) j = Heap.get h j := by
  have : ¬ i = j := fun e => hij e.symm
  simp [Heap.get, Heap.set, this]

theorem C10_storeimm (o : Oracles) (st : Exec) (i : UInt16) (v : Value) (rest : List Value)
    (hs : st.stack = v :: rest) :
    execOp o (.storeimm i) st =
      some { st with stack := rest, heap := st.heap.set i.toNat v, pc := st.pc + 1 } :=
  execOp_of_stack hs rfl

theorem C10_loadimm (o : Oracles) (st : Exec) (i : UInt16) :
    execOp o (.loadimm i) st = (st.heap.get i.toNat).map fun v => st.next (v :: st.stack) := by
  simp only [execOp]
  cases st.heap.get i.toNat <;> rfl

theorem C10_loadimm_unset (o : Oracles) (st : Exec) (i : UInt16)
    (h : st.heap.get i.toNat = none) : execOp o (.loadimm i) st = none := by
  rw [C10_loadimm, h]; rfl

theorem C10_storeimm_loadimm (o : Oracles) (st : Exec) (i : UInt16) (v : Value)
    (rest : List Value) (hs : st.stack = v :: rest) :
    (execOp o (.storeimm i) st).bind (execOp o (.loadimm i)) =
      some { st with stack := v :: rest, heap := st.heap.set i.toNat v, pc := st.pc + 2 } := by
  rw [C10_storeimm o st i v rest hs]
  simp [C10_loadimm, C10_heap_get_set_same]

theorem C10_store (o : Oracles) (st : Exec) (a : U256) (v : Value) (rest : List Value)
    (hs : st.stack = .int a :: v :: rest) :
    execOp o .store st =
      if a.toNat > 65535 then none
      else some { st with stack := rest, heap := st.heap.set a.toNat v, pc := st.pc + 1 } := by
  simp only [execOp, hs, Value.intoU16]
  split <;> simp

theorem C10_load (o : Oracles) (st : Exec) (a : U256) (rest : List Value)
    (hs : st.stack = .int a :: rest) :
    execOp o .load st =
      if a.toNat > 65535 then none
      else (st.heap.get a.toNat).map fun v => st.next (v :: rest) := by
  simp only [execOp, hs, Value.intoU16]
  split
  · simp
  · simp only [Option.bind_some]
    cases st.heap.get a.toNat <;> rfl

theorem C10_store_load (o : Oracles) (st : Exec) (a : U256) (v : Value) (rest : List Value)
    (hs : st.stack = .int a :: v :: rest) (ha : a.toNat ≤ 65535) :
    ∃ st1, execOp o .store st = some st1 ∧ st1.stack = rest ∧
      ∀ st2, st2.heap = st1.heap → st2.stack = .int a :: rest →
        execOp o .load st2 = some (st2.next (v :: rest)) := by
  have h1 : ¬ a.toNat > 65535 := by omega
  refine ⟨_, by rw [C10_store o st a v rest hs, if_neg h1], rfl, ?_⟩
  intro st2 hh hs2
  rw [C10_load o st2 a rest hs2, if_neg h1, hh]
  simp [C10_heap_get_set_same]

/-! Indices are read with `into_u16`: an index above 65535 makes the instruction fail *before* the length is looked
    at.  For `vref`/`bref`/`vset`/`bset` this only matters for a vector longer than 65536 (reachable by repeated
    `vappend`); for slices it changes the documented result. -/

/-- DEVIATION: `vref` (vector on top, index second) fails iff `i ≥ length` **or `i > 65535`** -/
theorem C10_vref_actual (o : Oracles) (st : Exec) (l : List Value) (i : U256) (rest : List Value)
    (hs : st.stack = .vec l :: .int i :: rest) :
    execOp o .vref st =
      if i.toNat > 65535 then none else (l[i.toNat]?).map fun v => st.next (v :: rest) := by
  refine execOp_of_stack hs ?_
  simp only [execOp, binop, Value.intoU16, Value.intoVec, bind]
  split
  · rfl
  · simp only [Option.bind_some]
    cases l[i.toNat]? <;> rfl

/-- the documented law holds for vectors of at most 65536 elements -/
theorem C10_vref (o : Oracles) (st : Exec) (l : List Value) (i : U256) (rest : List Value)
    (hs : st.stack = .vec l :: .int i :: rest) (hl : l.length ≤ 65536) :
    execOp o .vref st = (l[i.toNat]?).map (fun v => st.next (v :: rest)) ∧
    (execOp o .vref st = none ↔ i.toNat ≥ l.length) := by
  rw [C10_vref_actual o st l i rest hs, ite_index_gt hl fun h => by rw [List.getElem?_eq_none h]; rfl]
  exact ⟨rfl, by rw [Option.map_eq_none_iff, List.getElem?_eq_none_iff]⟩

/-- witness of the deviation: index 65536 of a 65537-element vector is in range, yet `vref` fails -/
theorem C10_vref_long_vector_actual (o : Oracles) (st : Exec) (rest : List Value)
    (hs : st.stack = .vec (List.replicate 65537 (.int 0)) :: .int 65536 :: rest) :
    execOp o .vref st = none ∧
      (65536 : U256).toNat < (List.replicate 65537 (Value.int 0)).length := by
  have hn : (65536 : U256).toNat = 65536 := by decide
  rw [C10_vref_actual o st _ _ rest hs, hn, List.length_replicate, if_pos (by omega)]
  exact ⟨rfl, by omega⟩

/-- DEVIATION: as `vref` -/
theorem C10_bref_actual (o : Oracles) (st : Exec) (l : Bytes) (i : U256) (rest : List Value)
    (hs : st.stack = .bytes l :: .int i :: rest) :
    execOp o .bref st =
      if i.toNat > 65535 then none
      else (l[i.toNat]?).map fun b => st.next (.int (BitVec.ofNat 256 b.toNat) :: rest) := by
  refine execOp_of_stack hs ?_
  simp only [execOp, binop, Value.intoU16, Value.intoBytes, bind]
  split
  · rfl
  · simp only [Option.bind_some]
    cases l[i.toNat]? <;> rfl

theorem C10_bref (o : Oracles) (st : Exec) (l : Bytes) (i : U256) (rest : List Value)
    (hs : st.stack = .bytes l :: .int i :: rest) (hl : l.length ≤ 65536) :
    execOp o .bref st =
      (l[i.toNat]?).map (fun b => st.next (.int (BitVec.ofNat 256 b.toNat) :: rest)) ∧
    (execOp o .bref st = none ↔ i.toNat ≥ l.length) := by
  rw [C10_bref_actual o st l i rest hs, ite_index_gt hl fun h => by rw [List.getElem?_eq_none h]; rfl]
  exact ⟨rfl, by rw [Option.map_eq_none_iff, List.getElem?_eq_none_iff]⟩

/-- DEVIATION: as `vref` -/
theorem C10_vset_actual (o : Oracles) (st : Exec) (l : List Value) (i : U256) (v : Value)
    (rest : List Value) (hs : st.stack = .vec l :: .int i :: v :: rest) :
    execOp o .vset st =
      if i.toNat > 65535 then none
      else if i.toNat < l.length then some (st.next (.vec (l.set i.toNat v) :: rest))
      else none := by
  refine execOp_of_stack hs ?_
  simp only [execOp, triop, Value.intoU16, Value.intoVec, listSet_eq, bind]
  split
  · rfl
  · simp only [Option.bind_some]
    split <;> rfl

theorem C10_vset (o : Oracles) (st : Exec) (l : List Value) (i : U256) (v : Value)
    (rest : List Value) (hs : st.stack = .vec l :: .int i :: v :: rest) (hl : l.length ≤ 65536) :
    execOp o .vset st =
      if i.toNat < l.length then some (st.next (.vec (l.set i.toNat v) :: rest)) else none := by
  rw [C10_vset_actual o st l i v rest hs, ite_index_gt hl fun h => if_neg (Nat.not_lt.mpr h)]

/-- DEVIATION: as `vref` -/
theorem C10_bset_actual (o : Oracles) (st : Exec) (l : Bytes) (i v : U256)
    (rest : List Value) (hs : st.stack = .bytes l :: .int i :: .int v :: rest) :
    execOp o .bset st =
      if i.toNat > 65535 then none
      else if i.toNat < l.length
        then some (st.next (.bytes (l.set i.toNat (UInt8.ofNat (v.toNat % 256))) :: rest))
      else none := by
  refine execOp_of_stack hs ?_
  simp only [execOp, triop, Value.intoU16, Value.intoBytes, Value.intoTruncU8, listSet_eq, bind]
  split
  · rfl
  · simp only [Option.bind_some]
    split <;> rfl

theorem C10_bset (o : Oracles) (st : Exec) (l : Bytes) (i v : U256)
    (rest : List Value) (hs : st.stack = .bytes l :: .int i :: .int v :: rest)
    (hl : l.length ≤ 65536) :
    execOp o .bset st =
      if i.toNat < l.length
        then some (st.next (.bytes (l.set i.toNat (UInt8.ofNat (v.toNat % 256))) :: rest))
      else none := by
  rw [C10_bset_actual o st l i v rest hs, ite_index_gt hl fun h => if_neg (Nat.not_lt.mpr h)]

/-! The six instructions that grow a byte string or a vector fail when the result's length would not fit a
    `usize` (`USIZE_MAX`; fix for F13: the ropes' length counter used to overflow there).  Each law therefore
    carries the hypothesis that the result's length fits — every list a machine can hold satisfies it — and has
    a companion `…_too_long` for the failing case. -/

theorem C10_vappend (o : Oracles) (st : Exec) (l1 l2 : List Value) (rest : List Value)
    (hs : st.stack = .vec l1 :: .vec l2 :: rest) (hfit : l1.length + l2.length ≤ USIZE_MAX) :
    execOp o .vappend st = some (st.next (.vec (l1 ++ l2) :: rest)) := by
  simp [execOp, binop, hs, Value.intoVec, Nat.not_lt.mpr hfit]

theorem C10_vappend_too_long (o : Oracles) (st : Exec) (l1 l2 : List Value) (rest : List Value)
    (hs : st.stack = .vec l1 :: .vec l2 :: rest) (hbig : l1.length + l2.length > USIZE_MAX) :
    execOp o .vappend st = none := by
  simp [execOp, binop, hs, Value.intoVec, hbig]

theorem C10_bappend (o : Oracles) (st : Exec) (l1 l2 : Bytes) (rest : List Value)
    (hs : st.stack = .bytes l1 :: .bytes l2 :: rest) (hfit : l1.length + l2.length ≤ USIZE_MAX) :
    execOp o .bappend st = some (st.next (.bytes (l1 ++ l2) :: rest)) := by
  simp [execOp, binop, hs, Value.intoBytes, Nat.not_lt.mpr hfit]

theorem C10_bappend_too_long (o : Oracles) (st : Exec) (l1 l2 : Bytes) (rest : List Value)
    (hs : st.stack = .bytes l1 :: .bytes l2 :: rest) (hbig : l1.length + l2.length > USIZE_MAX) :
    execOp o .bappend st = none := by
  simp [execOp, binop, hs, Value.intoBytes, hbig]

theorem C10_vpush (o : Oracles) (st : Exec) (l : List Value) (x : Value) (rest : List Value)
    (hs : st.stack = .vec l :: x :: rest) (hfit : l.length + 1 ≤ USIZE_MAX) :
    execOp o .vpush st = some (st.next (.vec (l ++ [x]) :: rest)) := by
  simp [execOp, binop, hs, Value.intoVec, Nat.not_lt.mpr hfit]

theorem C10_vpush_too_long (o : Oracles) (st : Exec) (l : List Value) (x : Value) (rest : List Value)
    (hs : st.stack = .vec l :: x :: rest) (hbig : l.length + 1 > USIZE_MAX) :
    execOp o .vpush st = none := by
  simp [execOp, binop, hs, Value.intoVec, hbig]

theorem C10_vcons (o : Oracles) (st : Exec) (l : List Value) (x : Value) (rest : List Value)
    (hs : st.stack = x :: .vec l :: rest) (hfit : l.length + 1 ≤ USIZE_MAX) :
    execOp o .vcons st = some (st.next (.vec (x :: l) :: rest)) := by
  simp [execOp, binop, hs, Value.intoVec, Nat.not_lt.mpr hfit]

theorem C10_vcons_too_long (o : Oracles) (st : Exec) (l : List Value) (x : Value) (rest : List Value)
    (hs : st.stack = x :: .vec l :: rest) (hbig : l.length + 1 > USIZE_MAX) :
    execOp o .vcons st = none := by
  simp [execOp, binop, hs, Value.intoVec, hbig]

theorem C10_bpush (o : Oracles) (st : Exec) (l : Bytes) (v : U256) (rest : List Value)
    (hs : st.stack = .bytes l :: .int v :: rest) (hfit : l.length + 1 ≤ USIZE_MAX) :
    execOp o .bpush st =
      some (st.next (.bytes (l ++ [UInt8.ofNat (v.toNat % 256)]) :: rest)) := by
  simp [execOp, binop, hs, Value.intoBytes, Value.intoTruncU8, Nat.not_lt.mpr hfit]

theorem C10_bpush_too_long (o : Oracles) (st : Exec) (l : Bytes) (v : U256) (rest : List Value)
    (hs : st.stack = .bytes l :: .int v :: rest) (hbig : l.length + 1 > USIZE_MAX) :
    execOp o .bpush st = none := by
  simp [execOp, binop, hs, Value.intoBytes, Value.intoTruncU8, hbig]

theorem C10_bcons (o : Oracles) (st : Exec) (l : Bytes) (v : U256) (rest : List Value)
    (hs : st.stack = .int v :: .bytes l :: rest) (hfit : l.length + 1 ≤ USIZE_MAX) :
    execOp o .bcons st =
      some (st.next (.bytes (UInt8.ofNat (v.toNat % 256) :: l) :: rest)) := by
  simp [execOp, binop, hs, Value.intoBytes, Value.intoTruncU8, Nat.not_lt.mpr hfit]

theorem C10_bcons_too_long (o : Oracles) (st : Exec) (l : Bytes) (v : U256) (rest : List Value)
    (hs : st.stack = .int v :: .bytes l :: rest) (hbig : l.length + 1 > USIZE_MAX) :
    execOp o .bcons st = none := by
  simp [execOp, binop, hs, Value.intoBytes, Value.intoTruncU8, hbig]

theorem C10_vempty (o : Oracles) (st : Exec) :
    execOp o .vempty st = some (st.next (.vec [] :: st.stack)) := rfl

theorem C10_bempty (o : Oracles) (st : Exec) :
    execOp o .bempty st = some (st.next (.bytes [] :: st.stack)) := rfl

theorem C10_vlength (o : Oracles) (st : Exec) (l : List Value) (rest : List Value)
    (hs : st.stack = .vec l :: rest) :
    execOp o .vlength st = some (st.next (.int (BitVec.ofNat 256 l.length) :: rest)) :=
  execOp_of_stack hs rfl

theorem C10_blength (o : Oracles) (st : Exec) (l : Bytes) (rest : List Value)
    (hs : st.stack = .bytes l :: rest) :
    execOp o .blength st = some (st.next (.int (BitVec.ofNat 256 l.length) :: rest)) :=
  execOp_of_stack hs rfl

/-- DEVIATION: `vslice` (vector on top, begin `b` second, end `e` third) **fails** when `b` or `e`
    exceeds 65535 (the documented result for `e > len` is the empty vector); otherwise it is
    the documented law: empty when `e > len ∨ e < b`, else the elements `[b, e)` -/
theorem C10_vslice_actual (o : Oracles) (st : Exec) (l : List Value) (b e : U256)
    (rest : List Value) (hs : st.stack = .vec l :: .int b :: .int e :: rest) :
    execOp o .vslice st =
      if b.toNat > 65535 ∨ e.toNat > 65535 then none
      else if e.toNat > l.length ∨ e.toNat < b.toNat then some (st.next (.vec [] :: rest))
      else some (st.next (.vec ((l.drop b.toNat).take (e.toNat - b.toNat)) :: rest)) := by
  refine execOp_of_stack hs ?_
  simp only [execOp, triop, Value.intoU16, slice, bind]
  by_cases h1 : b.toNat > 65535
  · simp only [h1, true_or, if_true]; rfl
  · by_cases h2 : e.toNat > 65535
    · simp only [h1, h2, or_true, if_true, if_false]; rfl
    · simp only [h1, h2, or_self, if_false, Option.bind_some]
      split <;> rfl

/-- the documented law, for in-range indices -/
theorem C10_vslice (o : Oracles) (st : Exec) (l : List Value) (b e : U256)
    (rest : List Value) (hs : st.stack = .vec l :: .int b :: .int e :: rest)
    (hb : b.toNat ≤ 65535) (he : e.toNat ≤ 65535) :
    execOp o .vslice st =
      if e.toNat > l.length ∨ e.toNat < b.toNat then some (st.next (.vec [] :: rest))
      else some (st.next (.vec ((l.drop b.toNat).take (e.toNat - b.toNat)) :: rest)) := by
  rw [C10_vslice_actual o st l b e rest hs, if_neg (by omega)]

/-- DEVIATION: as `vslice` -/
theorem C10_bslice_actual (o : Oracles) (st : Exec) (l : Bytes) (b e : U256)
    (rest : List Value) (hs : st.stack = .bytes l :: .int b :: .int e :: rest) :
    execOp o .bslice st =
      if b.toNat > 65535 ∨ e.toNat > 65535 then none
      else if e.toNat > l.length ∨ e.toNat < b.toNat then some (st.next (.bytes [] :: rest))
      else some (st.next (.bytes ((l.drop b.toNat).take (e.toNat - b.toNat)) :: rest)) := by
  refine execOp_of_stack hs ?_
  simp only [execOp, triop, Value.intoU16, slice, bind]
  by_cases h1 : b.toNat > 65535
  · simp only [h1, true_or, if_true]; rfl
  · by_cases h2 : e.toNat > 65535
    · simp only [h1, h2, or_true, if_true, if_false]; rfl
    · simp only [h1, h2, or_self, if_false, Option.bind_some]
      split <;> rfl

theorem C10_bslice (o : Oracles) (st : Exec) (l : Bytes) (b e : U256)
    (rest : List Value) (hs : st.stack = .bytes l :: .int b :: .int e :: rest)
    (hb : b.toNat ≤ 65535) (he : e.toNat ≤ 65535) :
    execOp o .bslice st =
      if e.toNat > l.length ∨ e.toNat < b.toNat then some (st.next (.bytes [] :: rest))
      else some (st.next (.bytes ((l.drop b.toNat).take (e.toNat - b.toNat)) :: rest)) := by
  rw [C10_bslice_actual o st l b e rest hs, if_neg (by omega)]

/-- what "the elements `[b, e)`" of the slice laws are -/
theorem C10_slice_elements {α} (l : List α) (b e : Nat) (_hbe : b ≤ e) (he : e ≤ l.length) :
    ((l.drop b).take (e - b)).length = e - b ∧
    ∀ k, k < e - b → ((l.drop b).take (e - b))[k]? = l[b + k]? := by
  refine ⟨slice_length l b e he, ?_⟩
  intro k hk
  have := slice_getElem? l b e k
  rw [if_pos hk] at this
  exact this

theorem C10_underflow (o : Oracles) (op : Op) (st : Exec) (h : st.stack.length < op.arity) :
    execOp o op st = none := by
  by_cases hp : op.isPure
  · obtain ⟨sh, ha, he⟩ := execOp_pure o op hp
    rw [he, sh.app_short (ha ▸ h)]; rfl
  · cases Op.special_of_not_pure hp
    case noop | loadimm | jmp | loop => all_goals cases h
    case store =>
      match hs : st.stack, h with
      | [], _ => exact execOp_of_stack hs rfl
      | [_], _ => exact execOp_of_stack hs rfl
    case load | storeimm | bez | bnz | dup =>
      all_goals
        match hs : st.stack, h with
        | [], _ => exact execOp_of_stack hs rfl

theorem C10_type_error_int_binop (o : Oracles) (op : Op) (st : Exec) (x y : Value)
    (rest : List Value) (hop : op.isIntBinop) (hs : st.stack = x :: y :: rest)
    (h : (∀ a, x ≠ .int a) ∨ (∀ b, y ≠ .int b)) :
    execOp o op st = none := by
  obtain ⟨f, hf⟩ := execOp_intBinop o op hop
  rw [hf, hs]
  show ((intBin f x y).map _).bind _ = none
  rw [intBin_eq_none h]; rfl

theorem C10_type_error_not (o : Oracles) (st : Exec) (x : Value) (rest : List Value)
    (hs : st.stack = x :: rest) (h : ∀ a, x ≠ .int a) : execOp o .not st = none := by
  simp [execOp, monop, hs, intoInt_eq_none h]

theorem C10_type_error_hash (o : Oracles) (st : Exec) (n : UInt16) (x : Value) (rest : List Value)
    (hs : st.stack = x :: rest) (h : ∀ b, x ≠ .bytes b) : execOp o (.hash n) st = none := by
  cases x <;> simp_all [execOp, monop]

theorem C10_type_error_vref (o : Oracles) (st : Exec) (x y : Value) (rest : List Value)
    (hs : st.stack = x :: y :: rest) (h : (∀ l, x ≠ .vec l) ∨ (∀ i, y ≠ .int i)) :
    execOp o .vref st = none := by
  rcases h with h | h
  · simp [execOp, binop, hs, intoVec_eq_none h]
  · simp [execOp, binop, hs, intoU16_eq_none h]

theorem C10_type_error_bref (o : Oracles) (st : Exec) (x y : Value) (rest : List Value)
    (hs : st.stack = x :: y :: rest) (h : (∀ l, x ≠ .bytes l) ∨ (∀ i, y ≠ .int i)) :
    execOp o .bref st = none := by
  rcases h with h | h
  · simp [execOp, binop, hs, intoBytes_eq_none h]
  · simp [execOp, binop, hs, intoU16_eq_none h]

theorem C10_type_error_vappend (o : Oracles) (st : Exec) (x y : Value) (rest : List Value)
    (hs : st.stack = x :: y :: rest) (h : (∀ l, x ≠ .vec l) ∨ (∀ l, y ≠ .vec l)) :
    execOp o .vappend st = none := by
  rcases h with h | h <;> simp [execOp, binop, hs, intoVec_eq_none h]

theorem C10_type_error_bappend (o : Oracles) (st : Exec) (x y : Value) (rest : List Value)
    (hs : st.stack = x :: y :: rest) (h : (∀ l, x ≠ .bytes l) ∨ (∀ l, y ≠ .bytes l)) :
    execOp o .bappend st = none := by
  rcases h with h | h <;> simp [execOp, binop, hs, intoBytes_eq_none h]

theorem C10_type_error_btoi (o : Oracles) (st : Exec) (x : Value) (rest : List Value)
    (hs : st.stack = x :: rest) (h : ∀ b, x ≠ .bytes b) : execOp o .btoi st = none := by
  cases x <;> simp_all [execOp, monop]

theorem C10_type_error_itob (o : Oracles) (st : Exec) (x : Value) (rest : List Value)
    (hs : st.stack = x :: rest) (h : ∀ a, x ≠ .int a) : execOp o .itob st = none := by
  simp [execOp, monop, hs, intoInt_eq_none h]

theorem C10_type_error_store_load (o : Oracles) (st : Exec) (x : Value) (rest : List Value)
    (hs : st.stack = x :: rest) (h : ∀ a, x ≠ .int a) :
    execOp o .store st = none ∧ execOp o .load st = none := by
  cases x <;> cases rest <;> simp_all [execOp, Value.intoU16]

theorem C10_type_error_vset (o : Oracles) (st : Exec) (x y v : Value) (rest : List Value)
    (hs : st.stack = x :: y :: v :: rest) (h : (∀ l, x ≠ .vec l) ∨ (∀ i, y ≠ .int i)) :
    execOp o .vset st = none := by
  rcases h with h | h
  · simp [execOp, triop, hs, intoVec_eq_none h]
  · simp [execOp, triop, hs, intoU16_eq_none h]

theorem C10_type_error_bset (o : Oracles) (st : Exec) (x y v : Value) (rest : List Value)
    (hs : st.stack = x :: y :: v :: rest)
    (h : (∀ l, x ≠ .bytes l) ∨ (∀ i, y ≠ .int i) ∨ (∀ a, v ≠ .int a)) :
    execOp o .bset st = none := by
  rcases h with h | h | h
  · simp [execOp, triop, hs, intoBytes_eq_none h]
  · simp [execOp, triop, hs, intoU16_eq_none h]
  · simp [execOp, triop, hs, intoTruncU8_eq_none h]

theorem C10_type_error_vslice (o : Oracles) (st : Exec) (x y z : Value) (rest : List Value)
    (hs : st.stack = x :: y :: z :: rest)
    (h : (∀ l, x ≠ .vec l) ∨ (∀ i, y ≠ .int i) ∨ (∀ i, z ≠ .int i)) :
    execOp o .vslice st = none := by
  rcases h with h | h | h
  · cases x
    case vec l => exact absurd rfl (h l)
    all_goals simp [execOp, triop, hs]
  · simp [execOp, triop, hs, intoU16_eq_none h]
  · simp [execOp, triop, hs, intoU16_eq_none h]

theorem C10_type_error_bslice (o : Oracles) (st : Exec) (x y z : Value) (rest : List Value)
    (hs : st.stack = x :: y :: z :: rest)
    (h : (∀ l, x ≠ .bytes l) ∨ (∀ i, y ≠ .int i) ∨ (∀ i, z ≠ .int i)) :
    execOp o .bslice st = none := by
  rcases h with h | h | h
  · cases x
    case bytes l => exact absurd rfl (h l)
    all_goals simp [execOp, triop, hs]
  · simp [execOp, triop, hs, intoU16_eq_none h]
  · simp [execOp, triop, hs, intoU16_eq_none h]

theorem C10_type_error_vlength_blength (o : Oracles) (st : Exec) (x : Value) (rest : List Value)
    (hs : st.stack = x :: rest) :
    ((∀ l, x ≠ .vec l) → execOp o .vlength st = none) ∧
    ((∀ l, x ≠ .bytes l) → execOp o .blength st = none) := by
  cases x <;> simp_all [execOp, monop]

theorem C10_type_error_push_cons (o : Oracles) (st : Exec) (x y : Value) (rest : List Value)
    (hs : st.stack = x :: y :: rest) :
    ((∀ l, x ≠ .vec l) → execOp o .vpush st = none) ∧
    ((∀ l, y ≠ .vec l) → execOp o .vcons st = none) ∧
    ((∀ l, x ≠ .bytes l) ∨ (∀ a, y ≠ .int a) → execOp o .bpush st = none) ∧
    ((∀ a, x ≠ .int a) ∨ (∀ l, y ≠ .bytes l) → execOp o .bcons st = none) := by
  refine ⟨fun h => ?_, fun h => ?_, fun h => ?_, fun h => ?_⟩
  · simp [execOp, binop, hs, intoVec_eq_none h]
  · simp [execOp, binop, hs, intoVec_eq_none h]
  · rcases h with h | h
    · simp [execOp, binop, hs, intoBytes_eq_none h]
    · simp [execOp, binop, hs, intoTruncU8_eq_none h]
  · rcases h with h | h
    · simp [execOp, binop, hs, intoTruncU8_eq_none h]
    · simp [execOp, binop, hs, intoBytes_eq_none h]

theorem C10_itob (o : Oracles) (st : Exec) (v : U256) (rest : List Value)
    (hs : st.stack = .int v :: rest) :
    execOp o .itob st = some (st.next (.bytes (toBE 32 v.toNat) :: rest)) :=
  execOp_of_stack hs rfl

theorem C10_itob_bytes (v : U256) :
    (toBE 32 v.toNat).length = 32 ∧
    ∀ i, i < 32 → (toBE 32 v.toNat)[i]? = some (UInt8.ofNat (v.toNat / 256 ^ (31 - i) % 256)) :=
  ⟨toBE_length _ _, fun i hi => toBE_getElem? 32 v.toNat i hi⟩

theorem C10_btoi (o : Oracles) (st : Exec) (b : Bytes) (rest : List Value)
    (hs : st.stack = .bytes b :: rest) :
    execOp o .btoi st =
      if b.length = 32 then some (st.next (.int (BitVec.ofNat 256 (fromBE b)) :: rest))
      else none := by
  simp only [execOp, monop, hs, Value.ofNat]
  split <;> simp_all

theorem C10_btoi_none_iff (o : Oracles) (st : Exec) (b : Bytes) (rest : List Value)
    (hs : st.stack = .bytes b :: rest) :
    execOp o .btoi st = none ↔ b.length ≠ 32 := by
  rw [C10_btoi o st b rest hs]; split <;> simp_all

theorem C10_btoi_itob (o : Oracles) (st : Exec) (v : U256) (rest : List Value)
    (hs : st.stack = .int v :: rest) :
    (execOp o .itob st).bind (execOp o .btoi) =
      some { st with stack := .int v :: rest, pc := st.pc + 2 } := by
  rw [C10_itob o st v rest hs]
  simp only [Option.bind_some]
  rw [C10_btoi o _ (toBE 32 v.toNat) rest rfl]
  simp [fromBE_toBE_32]

theorem C10_itob_btoi (o : Oracles) (st : Exec) (b : Bytes) (rest : List Value)
    (hs : st.stack = .bytes b :: rest) (hb : b.length = 32) :
    (execOp o .btoi st).bind (execOp o .itob) =
      some { st with stack := .bytes b :: rest, pc := st.pc + 2 } := by
  rw [C10_btoi o st b rest hs, if_pos hb]
  simp only [Option.bind_some]
  rw [C10_itob o _ _ rest rfl]
  have hlt : fromBE b < 2 ^ 256 := by
    have := fromBE_lt b
    rw [hb, pow_256_32] at this
    exact this
  have : toBE 32 (BitVec.ofNat 256 (fromBE b)).toNat = b := by
    rw [BitVec.toNat_ofNat, Nat.mod_eq_of_lt hlt, ← hb, toBE_fromBE]
  simp only [this]

theorem C10_typeq (o : Oracles) (st : Exec) (x : Value) (rest : List Value)
    (hs : st.stack = x :: rest) :
    execOp o .typeq st =
      some (st.next (.int (match x with | .int _ => 0 | .bytes _ => 1 | .vec _ => 2) :: rest)) := by
  cases x <;> exact execOp_of_stack hs rfl

theorem C10_forward_only (o : Oracles) (op : Op) (st st' : Exec)
    (h : execOp o op st = some st') : st'.pc ≥ st.pc + 1 := by
  rcases execOp_cases h with ⟨_, h⟩ | ⟨_, _, _, _, h, _⟩ <;> omega

theorem C10_bez (o : Oracles) (st : Exec) (j : UInt16) (x : Value) (rest : List Value)
    (hs : st.stack = x :: rest) :
    (x = .int 0 → execOp o (.bez j) st = some { st with stack := rest, pc := st.pc + 1 + j.toNat }) ∧
    (x ≠ .int 0 → execOp o (.bez j) st = some { st with stack := rest, pc := st.pc + 1 }) := by
  cases x <;> simp [execOp, hs, Value.isZeroInt]
  constructor <;> intro h <;> simp [h]

theorem C10_bnz (o : Oracles) (st : Exec) (j : UInt16) (x : Value) (rest : List Value)
    (hs : st.stack = x :: rest) :
    (x = .int 0 → execOp o (.bnz j) st = some { st with stack := rest, pc := st.pc + 1 }) ∧
    (x ≠ .int 0 → execOp o (.bnz j) st = some { st with stack := rest, pc := st.pc + 1 + j.toNat }) := by
  cases x <;> simp [execOp, hs, Value.isZeroInt]
  constructor <;> intro h <;> simp [h]

theorem C10_jmp (o : Oracles) (st : Exec) (j : UInt16) :
    execOp o (.jmp j) st = some { st with pc := st.pc + 1 + j.toNat } := rfl

theorem C10_loop_zero (o : Oracles) (st : Exec) (it n : UInt16) (hit : it.toNat = 0) :
    execOp o (.loop it n) st = some { st with pc := st.pc + 1 + n.toNat } := by
  simp [execOp, hit]

/-- `left` counts the iterations that remain after the current one -/
theorem C10_loop_enter (o : Oracles) (st : Exec) (it n : UInt16) (hit : it.toNat > 0)
    (hl : st.loops = []) :
    execOp o (.loop it n) st =
      some { st with pc := st.pc + 1,
                     loops := [{ begin_ := st.pc + 1, end_ := st.pc + 1 + n.toNat - 1,
                                 left := it.toNat - 1 }] } := by
  simp [execOp, hit, hl]

theorem C10_loop_nested (o : Oracles) (st : Exec) (it n : UInt16) (hit : it.toNat > 0)
    (last : LoopState) (ls : List LoopState) (hl : st.loops = last :: ls) :
    execOp o (.loop it n) st =
      if st.pc + n.toNat > last.end_ then none
      else some { st with pc := st.pc + 1,
                          loops := { begin_ := st.pc + 1, end_ := st.pc + 1 + n.toNat - 1,
                                     left := it.toNat - 1 } :: st.loops } := by
  have e : st.pc + 1 + n.toNat - 1 = st.pc + n.toNat := by omega
  simp only [execOp, hit, hl, e]
  simp

theorem C10_loop_overrun_fails (o : Oracles) (st : Exec) (it n : UInt16) (hit : it.toNat > 0)
    (last : LoopState) (ls : List LoopState) (hl : st.loops = last :: ls)
    (h : st.pc + n.toNat > last.end_) : execOp o (.loop it n) st = none := by
  rw [C10_loop_nested o st it n hit last ls hl, if_pos h]

theorem C10_result_top (o : Oracles) (ops : List Op) (fuel : Nat) (st : Exec) (n : Nat)
    (h : st.pc ≥ ops.length) :
    runFuel o ops (fuel + 1) st n = (st.stack.head?, n) := by
  have : ¬ st.pc < ops.length := by omega
  simp [runFuel, this]

theorem C10_noop (o : Oracles) (st : Exec) : execOp o .noop st = some (st.next st.stack) := rfl

theorem C10_push (o : Oracles) (st : Exec) (v : U256) (bs : Bytes) :
    execOp o (.pushi v) st = some (st.next (.int v :: st.stack)) ∧
    execOp o (.pushic v) st = some (st.next (.int v :: st.stack)) ∧
    execOp o (.pushb bs) st = some (st.next (.bytes bs :: st.stack)) :=
  ⟨rfl, rfl, rfl⟩

theorem C10_dup (o : Oracles) (st : Exec) (v : Value) (rest : List Value)
    (hs : st.stack = v :: rest) : execOp o .dup st = some (st.next (v :: v :: rest)) :=
  execOp_of_stack hs rfl

section Examples
variable (o : Oracles)

example : run o [.pushic 2, .pushic 3, .add] [] = some (.int 5) := rfl
example : run o [.pushic 2, .pushic 3, .sub] [] = some (.int 1) := rfl
example : run o [.pushic 3, .pushic 2, .sub] [] = some (.int (BitVec.ofNat 256 (2 ^ 256 - 1))) := rfl
example : run o [.pushic 0, .pushic 3, .div] [] = none := rfl
example : run o [.pushic 2, .pushic 7, .div] [] = some (.int 3) := rfl
example : run o [.pushic 2, .pushic 7, .rem] [] = some (.int 1) := rfl
example : run o [.pushic 0, .loop 3 2, .pushic 5, .add] [] = some (.int 15) := rfl
example : runSteps o [.pushic 0, .loop 3 2, .pushic 5, .add] [] = 1 + (1 + 3 * 2) := rfl
example : run o [.pushic 7, .loop 0 2, .pushic 5, .add] [] = some (.int 7) := rfl
/-- `exp 1` allows a 2-bit exponent: 2^3 = 8 is fine, exponent 4 is over the budget -/
example : run o [.pushic 3, .pushic 2, .exp 1] [] = some (.int 8) := rfl
example : run o [.pushic 4, .pushic 2, .exp 1] [] = none := rfl
example : run o [.pushic 256, .pushic 2, .exp 255] [] = some (.int 0) := rfl
example : run o [.pushic 3, .pushic 2, .lt] [] = some (.int 1) := rfl
example : run o [.pushic 3, .pushic 2, .gt] [] = some (.int 0) := rfl
/-- shift amounts are taken mod 256 -/
example : run o [.pushic 257, .pushic 1, .shl] [] = some (.int 2) := rfl
example : run o [.pushic 9, .storeimm 4, .loadimm 4] [] = some (.int 9) := rfl
example : run o [.loadimm 4] [] = none := rfl
example : run o [.pushic 1, .pushic 8, .vempty, .vpush, .vref] [] = none := rfl
example : run o [.pushic 0, .pushic 8, .vempty, .vpush, .vref] [] = some (.int 8) := rfl
example : run o [.pushic 0, .pushic 258, .bempty, .bpush, .bref] [] = some (.int 2) := rfl
example : run o [.pushic 77, .itob, .btoi] [] = some (.int 77) := rfl
example : run o [.pushb [1, 2], .hash 2] [] = some (.bytes (o.hash [1, 2])) := rfl
example : run o [.pushb [1, 2], .hash 1] [] = none := rfl
example : run o [.pushic 0, .bez 1, .pushic 5, .pushic 6] [] = some (.int 6) := rfl
example : run o [.pushic 1, .pushic 0, .bnz 1, .pushic 5] [] = some (.int 5) := rfl
example : run o [.pushb [], .pushic 1, .add] [] = none := rfl
example : run o [.pushic 1, .add] [] = none := rfl
/-- out-of-u16 slice bound: fails (the documented result is the empty vector) -/
example : run o [.pushic 65536, .pushic 0, .vempty, .vslice] [] = none := rfl
example : run o [.pushic 5, .pushic 0, .vempty, .vslice] [] = some (.vec []) := rfl
/-- a nested loop overrunning its parent fails -/
example : run o [.loop 2 2, .loop 2 2, .noop, .noop] [] = none := rfl

end Examples

#print axioms C10_add
#print axioms C10_add_toNat
#print axioms C10_sub
#print axioms C10_sub_toNat
#print axioms C10_mul
#print axioms C10_mul_toNat
#print axioms C10_div
#print axioms C10_div_none_iff
#print axioms C10_div_toNat
#print axioms C10_rem
#print axioms C10_rem_none_iff
#print axioms C10_rem_toNat
#print axioms C10_exp
#print axioms C10_exp_some_iff
#print axioms C10_exp_toNat
#print axioms C10_and
#print axioms C10_or
#print axioms C10_xor
#print axioms C10_not
#print axioms C10_eql
#print axioms C10_lt
#print axioms C10_gt
#print axioms C10_shl
#print axioms C10_shl_toNat
#print axioms C10_shr
#print axioms C10_shr_toNat
#print axioms C10_hash
#print axioms C10_hash_none_iff
#print axioms C10_sigeok_pk_long
#print axioms C10_sigeok_pk_short
#print axioms C10_sigeok_msg_long
#print axioms C10_sigeok_sig_badlen
#print axioms C10_sigeok_ok
#print axioms C10_sigeok_type_error
#print axioms C10_sigeok_type_error_masked_actual
#print axioms C10_heap_get_set
#print axioms C10_heap_get_set_same
#print axioms C10_heap_get_set_other
#print axioms C10_storeimm
#print axioms C10_loadimm
#print axioms C10_loadimm_unset
#print axioms C10_storeimm_loadimm
#print axioms C10_store
#print axioms C10_load
#print axioms C10_store_load
#print axioms C10_vref_actual
#print axioms C10_vref
#print axioms C10_vref_long_vector_actual
#print axioms C10_bref_actual
#print axioms C10_bref
#print axioms C10_vset_actual
#print axioms C10_vset
#print axioms C10_bset_actual
#print axioms C10_bset
#print axioms C10_vappend
#print axioms C10_vappend_too_long
#print axioms C10_bappend
#print axioms C10_bappend_too_long
#print axioms C10_vpush
#print axioms C10_vpush_too_long
#print axioms C10_vcons
#print axioms C10_vcons_too_long
#print axioms C10_bpush
#print axioms C10_bpush_too_long
#print axioms C10_bcons
#print axioms C10_bcons_too_long
#print axioms C10_vempty
#print axioms C10_bempty
#print axioms C10_vlength
#print axioms C10_blength
#print axioms C10_vslice_actual
#print axioms C10_vslice
#print axioms C10_bslice_actual
#print axioms C10_bslice
#print axioms C10_slice_elements
#print axioms C10_underflow
#print axioms C10_type_error_int_binop
#print axioms C10_type_error_not
#print axioms C10_type_error_hash
#print axioms C10_type_error_vref
#print axioms C10_type_error_bref
#print axioms C10_type_error_vappend
#print axioms C10_type_error_bappend
#print axioms C10_type_error_btoi
#print axioms C10_type_error_itob
#print axioms C10_type_error_store_load
#print axioms C10_type_error_vset
#print axioms C10_type_error_bset
#print axioms C10_type_error_vslice
#print axioms C10_type_error_bslice
#print axioms C10_type_error_vlength_blength
#print axioms C10_type_error_push_cons
#print axioms C10_itob
#print axioms C10_itob_bytes
#print axioms C10_btoi
#print axioms C10_btoi_none_iff
#print axioms C10_btoi_itob
#print axioms C10_itob_btoi
#print axioms C10_typeq
#print axioms C10_forward_only
#print axioms C10_bez
#print axioms C10_bnz
#print axioms C10_jmp
#print axioms C10_loop_zero
#print axioms C10_loop_enter
#print axioms C10_loop_nested
#print axioms C10_loop_overrun_fails
#print axioms C10_result_top
#print axioms C10_noop
#print axioms C10_push
#print axioms C10_dup

end Mel.VM

/-
  C04 for blocks and over histories — when a block is accepted (`applyBlock`), every input of every transaction of the
  block was approved by its coin's covenant, evaluated in that input's own environment, in which the last header is
  the header of the state the block was applied to; and along any run of the chain every accepted batch satisfies
  the gate, the last header shown to covenants being the newest header on record (or the stand-in, in the first
  block).  (`Props/C04.lean` has the one-batch statement `C04_gate`.)
-/
import MelModel.Chain
import MelModel.Props.C04
import MelModel.Props.C13Life
import MelModel.Props.C07Hist
import MelModel.Props.C08Reach
import MelModel.Lemmas.MiscHistL
namespace Mel
open Mel.Gen Mel.MiscHistL

/-- the conclusion of `C04_gate`, for a whole batch: every input of every transaction is approved by the covenant of
    the coin it spends, against the one table `rel` of relevant coins the batch was validated with -/
def GateHolds (env : Env) (s : State) (txs : List Tx) (fb : Header) : Prop :=
  ∃ rel, loadRelevantCoins s txs = .ok rel ∧
    ∀ tx ∈ txs, ∀ (i : Nat) (hi : i < tx.inputs.length),
      ∃ coin, rel.get tx.inputs[i] = some coin ∧ Approves env s fb tx i tx.inputs[i] coin

theorem C04_batch_gate (env : Env) (s s' : State) (txs : List Tx) (fb : Header)
    (h : applyBatch env s txs fb = .ok s') : GateHolds env s txs fb := by
  obtain ⟨-, -, -, -, rel, hrel, -⟩ := SeqL.batch_keeps h
  refine ⟨rel, hrel, fun tx htx i hi => ?_⟩
  obtain ⟨rel', coin, hrel', hget, happ⟩ := C04_gate env s s' txs fb h tx htx i hi
  have : rel' = rel := Outcome.ok.inj (hrel'.symm.trans hrel)
  subst this
  exact ⟨coin, hget, happ⟩

theorem C04_next_last_header (env : Env) (ss : Sealed) (basis : State) (h : nextUnsealed env ss = .ok basis) :
    ∃ hdr, headerOf env ss = .ok hdr ∧ basis.history.get (basis.height - 1) = some hdr :=
  nextUnsealed_history env ss basis h

/-- The covenant gate for blocks: if `applyBlock env ss blk` succeeds, then the block's transactions were
    applied as one batch to the block `basis` opened on `ss`, the result sealed with the block's action is the new
    sealed state, and every input of every transaction of the block was approved by its coin's covenant in its own
    environment — whose last header is the header of `ss` -/
theorem C04_block_gate (env : Env) (ss ss' : Sealed) (blk : Block) (h : applyBlock env ss blk = .ok ss') :
    ∃ basis hdr applied, nextUnsealed env ss = .ok basis ∧ headerOf env ss = .ok hdr ∧
      applyBatch env basis blk.transactions default = .ok applied ∧
      sealState env applied blk.action = .ok ss' ∧
      GateHolds env basis blk.transactions default ∧
      ∀ (tx : Tx) (i : Nat) (id : CoinID) (coin : CoinDataHeight),
        (spendEnv basis default tx i id coin).lastHeader = hdr := by
  obtain ⟨basis, applied, hn, -, hb, hs, -⟩ := (applyBlock_eq_ok_iff env ss ss' blk).mp h
  obtain ⟨hdr, hh, hlast⟩ := C04_next_last_header env ss basis hn
  exact ⟨basis, hdr, applied, hn, hh, hb, hs, C04_batch_gate env basis applied _ default hb,
    fun tx i id coin => C04_later_block_env basis default tx i id coin hdr hlast⟩

/-- … spelled out for one input -/
theorem C04_block_gate_input (env : Env) (ss ss' : Sealed) (blk : Block) (h : applyBlock env ss blk = .ok ss')
    (tx : Tx) (htx : tx ∈ blk.transactions) (i : Nat) (hi : i < tx.inputs.length) :
    ∃ basis hdr rel coin, nextUnsealed env ss = .ok basis ∧ headerOf env ss = .ok hdr ∧
      loadRelevantCoins basis blk.transactions = .ok rel ∧ rel.get tx.inputs[i] = some coin ∧
      Approves env basis default tx i tx.inputs[i] coin ∧
      (spendEnv basis default tx i tx.inputs[i] coin).lastHeader = hdr := by
  obtain ⟨basis, hdr, applied, hn, hh, -, -, ⟨rel, hrel, hg⟩, hl⟩ := C04_block_gate env ss ss' blk h
  obtain ⟨coin, hget, happ⟩ := hg tx htx i hi
  exact ⟨basis, hdr, rel, coin, hn, hh, hrel, hget, happ, hl tx i _ coin⟩

/-- along a run, every accepted batch satisfies the gate (decomposition form: whatever run led to `m`) -/
theorem C04_run_gate (env : Env) (s m m' : State) (txs : List Tx) (fb : Header)
    (_hrun : ChainRun env s m) (h : applyBatch env m txs fb = .ok m') : GateHolds env m txs fb :=
  C04_batch_gate env m m' txs fb h

/-- the same over a trace: every batch event of the run was applied in some state of the run in which the gate held -/
theorem C04_trace_gate (env : Env) (s s' : State) (tr : List Event) (hrun : RunTrace env s tr s')
    (txs : List Tx) (fb : Header) (hb : Event.batch txs fb ∈ tr) :
    ∃ m m', ChainRun env s m ∧ applyBatch env m txs fb = .ok m' ∧ ChainRun env m' s' ∧ GateHolds env m txs fb := by
  obtain ⟨m, m', h1, h2, h3⟩ := RunTrace.mem_split hrun hb
  cases h2 with
  | batch h => exact ⟨m, m', h1, h, h3, C04_batch_gate env m m' txs fb h⟩

/-- … and in a reachable state the header those covenants see is the newest one on record (the header of height
    `m.height - 1`, the one the current block builds on), whatever fallback is passed; in the first block it is the
    stand-in `genesisStandIn m` -/
theorem C04_reachable_last_header (env : Env) (m : State) (hr : Reachable env m) (fb : Header) (tx : Tx) (i : Nat)
    (id : CoinID) (coin : CoinDataHeight) :
    (0 < m.height → ∃ hdr, m.history.get (m.height - 1) = some hdr ∧ hdr.height = m.height - 1 ∧
        hdr.network = m.network ∧ (spendEnv m fb tx i id coin).lastHeader = hdr) ∧
    (m.height = 0 → (spendEnv m fb tx i id coin).lastHeader = genesisStandIn m) := by
  obtain ⟨c1, c2, -, -⟩ := C07_history_linked env m hr
  constructor
  · intro hpos
    obtain ⟨hdr, hx⟩ := c2 (m.height - 1) (Nat.sub_one_lt (Nat.ne_of_gt hpos))
    obtain ⟨-, e1, e2⟩ := c1 _ hdr hx
    exact ⟨hdr, hx, e1, e2, C04_later_block_env m fb tx i id coin hdr hx⟩
  · intro h0
    apply C04_first_block_env
    cases hg : m.history.get (m.height - 1) with
    | none => rfl
    | some x => exact absurd (Nat.lt_of_lt_of_eq (c1 _ x hg).1 h0) (Nat.not_lt_zero _)

namespace C04HistWitness
open ReachWitness (env getOk eq_getOk)
open C05HistWitness (ns pz2)
open C08ReachWitness (us1)

/-- the block written out from `us1` (the batch `[pz2]` on the block opened on `ns`, sealed with an action) -/
def blk : Block := getOk (toBlock env us1)
def ss' : Sealed := getOk (applyBlock env ns blk)

theorem facts : blk.transactions = [pz2] ∧ (applyBlock env ns blk).isOk = true := by decide +kernel

theorem blk_txs : blk.transactions = [pz2] := facts.1
theorem apply_ok : applyBlock env ns blk = .ok ss' := eq_getOk facts.2

end C04HistWitness

/-- non-vacuity of `C04_block_gate`: a block with a transaction that spends a coin is accepted on a sealed state of
    height 0, so the gate speaks about a real input: input 0 of `pz2` -/
theorem C04_block_gate_nonvacuous :
    ∃ (env : Env) (ss ss' : Sealed) (blk : Block) (tx : Tx),
      applyBlock env ss blk = .ok ss' ∧ tx ∈ blk.transactions ∧ 0 < tx.inputs.length := by
  open C04HistWitness in
  exact ⟨ReachWitness.env, C05HistWitness.ns, ss', blk, C05HistWitness.pz2, apply_ok,
    by rw [blk_txs]; exact List.mem_singleton.mpr rfl, by decide⟩

end Mel

#print axioms Mel.C04_batch_gate
#print axioms Mel.C04_next_last_header
#print axioms Mel.C04_block_gate
#print axioms Mel.C04_block_gate_input
#print axioms Mel.C04_run_gate
#print axioms Mel.C04_trace_gate
#print axioms Mel.C04_reachable_last_header
#print axioms Mel.C04_block_gate_nonvacuous

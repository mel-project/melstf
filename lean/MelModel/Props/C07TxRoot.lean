/-
  C07 — "the … transaction roots are functions of the contents alone …; every … block transaction can be proven present"
  for the TIP-908 commitment (MelModel/TxRoot.lean): the root does not depend on the order in which the block's transactions
  are listed, it determines them, every transaction is provable at its position, the position is the rank of its hash, and
  the leaf found there is that transaction's.
  The order on byte strings and what sorting with it gives are in MelModel/Lemmas/TxRootL.lean.
-/
import MelModel.TxRoot
import MelModel.Props.C07
import MelModel.Props.C07Dense
import MelModel.Lemmas.TxRootL
namespace Mel
open Mel.Merkle Mel.TxRoot

/-- the byte-string order is a total order: sorting has one result whatever the algorithm (`sort_unstable` included) -/
theorem C07_sorted_unique (l₁ l₂ : List Bytes) (hp : l₁.Perm l₂)
    (h₁ : l₁.Pairwise (fun a b => bytesLe a b = true)) (h₂ : l₂.Pairwise (fun a b => bytesLe a b = true)) : l₁ = l₂ :=
  sorted_unique l₁ l₂ hp h₁ h₂

/-- the root is a function of the set of transactions: any listing order gives the same root -/
theorem C07_txroot_perm (H : Hashers) (ls ls' : List Bytes) (hp : ls.Perm ls') : tip908Root H ls = tip908Root H ls' := by
  unfold tip908Root; rw [sortedLeaves_congr ls ls' hp]

/-- every transaction of the block is provable: its leaf sits at some position below the number of transactions, and the
    tree's own proof for that position verifies against the root -/
theorem C07_txroot_member_provable (H : Hashers) (ls : List Bytes) (l : Bytes) (hl : l ∈ ls) :
    ∃ i, i < ls.length ∧ (sortedLeaves ls).getD i [] = l ∧
      verifyDense H (denseProof H (sortedLeaves ls) i) (tip908Root H ls) i (hashData H l) = true := by
  have hm : l ∈ sortedLeaves ls := (sortedLeaves_perm ls).mem_iff.mpr hl
  obtain ⟨i, hi, e⟩ := List.mem_iff_getElem.mp hm
  have hg : (sortedLeaves ls).getD i [] = l := by
    rw [List.getD_eq_getElem?_getD, List.getElem?_eq_getElem hi]; exact e
  refine ⟨i, by rw [← sortedLeaves_length ls]; exact hi, hg, ?_⟩
  have := C07_dense_complete H (sortedLeaves ls) i hi
  rw [hg] at this
  exact this

/-- … and nothing else is provable there: a verifying proof at a position below the number of transactions proves the leaf
    that is at that position in the sorted list (hash functions injective away from the zero rules) -/
theorem C07_txroot_sound (H : Hashers) (hi : Injective H) (ls : List Bytes) (i : Nat) (b : Bytes) (proof : List Hash)
    (hp : proof.length = Nat.log2 (denseLeaves H (sortedLeaves ls)).length) (hidx : i < ls.length)
    (hv : verifyDense H proof (tip908Root H ls) i (hashData H b) = true) : (sortedLeaves ls).getD i [] = b :=
  C07_dense_proves_only_the_member H hi (sortedLeaves ls) i b proof hp (by rw [sortedLeaves_length]; exact hidx) hv

/-- the root determines the transactions: equal roots for two blocks with non-empty leaves whose leaf counts pad to the same
    size mean the same leaves up to order — "any difference in a transaction changes the header" -/
theorem C07_txroot_injective (H : Hashers) (hi : Injective H) (ls ls' : List Bytes)
    (hne : ∀ x ∈ ls, x ≠ []) (hne' : ∀ x ∈ ls', x ≠ [])
    (hsz : nextPow2 ls.length = nextPow2 ls'.length) (hr : tip908Root H ls = tip908Root H ls') : ls.Perm ls' := by
  have heq : sortedLeaves ls = sortedLeaves ls' :=
    C07_dense_root_injective H hi (sortedLeaves ls) (sortedLeaves ls')
      (fun x hx => hne x ((sortedLeaves_perm ls).mem_iff.mp hx))
      (fun x hx => hne' x ((sortedLeaves_perm ls').mem_iff.mp hx))
      (by rw [sortedLeaves_length, sortedLeaves_length]; exact hsz) hr
  exact (sortedLeaves_perm ls).symm.trans (heq ▸ sortedLeaves_perm ls')

/-- a hash has a position exactly when it is one of the block's -/
theorem C07_posn_none_iff (hashes : List Hash) (h : Hash) : sortedPosn hashes h = none ↔ h ∉ hashes := by
  rw [sortedPosn_eq, List.findIdx?_eq_none_iff]
  constructor
  · intro hall hm
    have := hall h ((sortedLeaves_perm hashes).mem_iff.mpr hm)
    simp at this
  · intro hn x hx
    have hx' := (sortedLeaves_perm hashes).mem_iff.mp hx
    cases hb : (x == h) with
    | false => rfl
    | true => exact absurd (beq_iff_eq.mp hb ▸ hx') hn

/-- the position is the rank: the number of the block's hashes that are smaller (hashes distinct) -/
theorem C07_posn_is_rank (hashes : List Hash) (h : Hash) (i : Nat) (hnd : hashes.Nodup)
    (hp : sortedPosn hashes h = some i) : i = (hashes.filter (fun k => bytesLt k h)).length := by
  obtain ⟨hi, he⟩ := posn_getElem hashes h i hp
  have h1 := filter_lt_length (sortedLeaves hashes) i hi (sorted_strict hashes hnd)
  rw [he] at h1
  rw [← h1]
  exact ((sortedLeaves_perm hashes).filter (fun k => bytesLt k h)).length_eq

/-- the accessor and the tree agree: for transactions with distinct 32-byte signature-free hashes, the leaf at the
    position the accessor reports for a transaction's hash is that transaction's leaf — so the proof for that position
    is a proof of that transaction -/
theorem C07_posn_matches_leaf (txs : List (Hash × Hash)) (hlen : ∀ t ∈ txs, t.1.length = 32)
    (hnd : (txs.map (·.1)).Nodup) (t : Hash × Hash) (ht : t ∈ txs) (i : Nat)
    (hp : sortedPosn (txs.map (·.1)) t.1 = some i) :
    (sortedLeaves (txs.map fun t => leafOf t.1 t.2)).getD i [] = leafOf t.1 t.2 := by
  let leaves := txs.map fun t => leafOf t.1 t.2
  have hpre : ∀ t' ∈ txs, (leafOf t'.1 t'.2).take 32 = t'.1 := fun t' ht' => List.take_left' (hlen t' ht')
  -- the 32-byte prefixes of the sorted leaves are the sorted hashes: equal prefixes aside, the prefixes decide the order
  have heq : (sortedLeaves leaves).map (List.take 32) = sortedLeaves (txs.map (·.1)) := by
    rw [sortedLeaves_map (List.take 32) leaves, List.map_map]
    · exact congrArg sortedLeaves (List.map_congr_left hpre)
    · intro a ha b hb hab
      obtain ⟨ta, hta, rfl⟩ := List.mem_map.mp ha
      obtain ⟨tb, htb, rfl⟩ := List.mem_map.mp hb
      rw [hpre ta hta, hpre tb htb]
      by_cases e : tb.1 = ta.1
      · rw [e]; exact bytesLe_refl _
      · rw [bytesLe_iff] at hab ⊢
        rwa [leafOf, leafOf, bytesLt_append tb.1 ta.1 tb.2 ta.2 (by rw [hlen tb htb, hlen ta hta]) e] at hab
  obtain ⟨hi, he⟩ := posn_getElem (txs.map (·.1)) t.1 i hp
  have hiL : i < (sortedLeaves leaves).length := by
    rw [← List.length_map (as := sortedLeaves leaves) (List.take 32), heq]; exact hi
  -- the leaf at `i` is some transaction's, with `t`'s hash in front, so it is `t`'s
  obtain ⟨t', ht', e⟩ := List.mem_map.mp ((sortedLeaves_perm leaves).mem_iff.mp (List.getElem_mem hiL))
  have hpi : ((sortedLeaves leaves)[i]).take 32 = t.1 := by
    rw [← List.getElem_map (List.take 32) (h := by rw [List.length_map]; exact hiL)]
    rw [← he]; congr 1
  have htt : t' = t := eq_of_nodup_map (·.1) hnd ht' ht (by rw [← hpre t' ht', e, hpi])
  rw [List.getD_eq_getElem?_getD, List.getElem?_eq_getElem hiL, Option.getD_some, ← e, htt]


example : sortedPosn [[3], [1], [2]] [2] = some 1 ∧ sortedPosn [[3], [1], [2]] [9] = none := by
  simp [sortedPosn, List.mergeSort, List.MergeSort.Internal.splitInTwo, bytesLe, bytesLt, List.findIdx?_cons]

example : sortedLeaves [[3, 0], [1, 7], [2, 5]] = [[1, 7], [2, 5], [3, 0]] := by
  simp [sortedLeaves, List.mergeSort, List.MergeSort.Internal.splitInTwo, bytesLe, bytesLt]

end Mel

#print axioms Mel.C07_sorted_unique
#print axioms Mel.C07_txroot_perm
#print axioms Mel.C07_txroot_member_provable
#print axioms Mel.C07_txroot_sound
#print axioms Mel.C07_txroot_injective
#print axioms Mel.C07_posn_none_iff
#print axioms Mel.C07_posn_is_rank
#print axioms Mel.C07_posn_matches_leaf

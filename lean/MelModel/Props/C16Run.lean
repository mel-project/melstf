/-
  C16, over histories — along any run of the chain (accepted batches and sealed blocks, in any order) that starts in
  a reachable state, the liquidity tokens of every pool in circulation never exceed the liquidity the pool records.
  Assembles the one-step theorems of Props/C16Hist.lean (`C16_backed_batch`, `C16_backed_seal_pool`) as
  Props/C01Hist.lean does for C01.

  Where the premises of the one-step theorems come from:
  * `C16_backed_batch`: unique coin ids — `Inv.coinKeys` of a reachable state; the batch mints none of the pool's
    token — a step premise (`NoLiqMint`; K-faucet-liq and the new-token collision), which `noLiqMint_of_outputs`
    reduces to a condition on the outputs.
  * `C16_backed_seal_pool`: `SealPre` — from reachability (`C01_sealPre_reachable`) but for its u128 bound on the
    coin totals, a step premise as in `IssRun`; `legacyDeposit m = false` — step premise (K-legacy-deposit);
    `LiqDenomsApartC env` — a hypothesis on the environment (collision-freeness of the keyed hash).  `hsym`, `hfresh`
    and `hnone` of `C16_backed_seal` are not needed (`C16_backed_seal_pool` does without them).
  * Pools are quantified over canonical keys: `∀ k, Backed env s k` is not preserved
    (`C16_backed_all_keys_counterexample`); every key present in the pool map of a reachable state is canonical
    (`C16_pool_keys_canonical`).
-/
import MelModel.Props.C16Hist
import MelModel.Props.C01Hist
import MelModel.Lemmas.BackRunL
namespace Mel
open Mel.Gen

/-- the declared issuance of the batch (faucet outputs, newly created tokens) is zero in the token denomination of
    every canonical pool: the premise of `C16_backed_batch` -/
def NoLiqMint (env : Env) (txs : List Tx) : Prop :=
  ∀ k, CanonKey k → batchIssuance txs (liqTokenDenom env k) = 0

/-- `NoLiqMint` output by output: no faucet output is denominated in (K-faucet-liq), and no newly created token
    coincides with, the token of a canonical pool; transactions moving existing liquidity tokens do not matter -/
theorem noLiqMint_of_outputs (env : Env) (txs : List Tx)
    (h : ∀ tx ∈ txs, ∀ o ∈ tx.outputs, tx.kind = .faucet ∨ o.denom = .newCustom →
      ∀ k, CanonKey k → createdDenom tx o ≠ liqTokenDenom env k) : NoLiqMint env txs := by
  intro k hk
  unfold batchIssuance
  apply sum_map_eq_zero
  intro tx htx
  unfold txIssuance
  have hmel : ¬ liqTokenDenom env k = .mel := by intro e; cases e
  have herg : ¬ liqTokenDenom env k = .erg := by intro e; cases e
  split
  · next hf =>
    have hnil : (tx.outputs.filter fun o => createdDenom tx o = liqTokenDenom env k) = [] := by
      rw [List.filter_eq_nil_iff]
      intro o ho
      simpa using h tx htx o ho (Or.inl hf) k hk
    rw [hnil]
    first | rfl | (rw [if_neg hmel]; rfl)
  · have hnil : (tx.outputs.filter fun o => o.denom = .newCustom ∧ liqTokenDenom env k = .custom tx.hash) = [] := by
      rw [List.filter_eq_nil_iff]
      intro o ho
      have := h tx htx o ho
      simp only [decide_eq_true_eq, not_and]
      intro hn e
      have h2 := this (Or.inr hn) k hk
      unfold createdDenom at h2
      rw [if_pos hn] at h2
      exact h2 e.symm
    rw [hnil]
    first | rfl | (rw [if_neg (fun hh => herg hh.2)]; rfl)

/-- a run of the chain from `s` to `s'` none of whose batches mints a liquidity token.  The steps carry the
    assumptions of `ReachableSep` (hash freshness / domain separation) and the premises of the one-step theorems:
    `NoLiqMint` for a batch; `legacyDeposit m = false` (K-legacy-deposit) and the u128 bound on the coin totals
    (`SealPre.bounded`, not implied by reachability: `C01_seal_unbounded_counterexample`) for a block. -/
inductive BackRun (env : Env) : State → State → Prop
  | refl (s : State) : BackRun env s s
  | batch {s m s' : State} {txs : List Tx} {fb : Header} :
      BackRun env s m → BatchFresh m txs → MarkerFresh env m txs → NoLiqMint env txs →
      applyBatch env m txs fb = .ok s' → BackRun env s s'
  | block {s m s' : State} {ss : Sealed} {a : Option ProposerAction} :
      BackRun env s m → RewardFresh env m → legacyDeposit m = false →
      (∀ d, coinsTotal m.coins d ≤ U128_MAX) →
      sealState env m a = .ok ss → nextUnsealed env ss = .ok s' → BackRun env s s'

theorem BackRun.issRun {env : Env} {s s' : State} (hrun : BackRun env s s') : ∃ iss, IssRun env s iss s' := by
  induction hrun with
  | refl => exact ⟨_, .refl _⟩
  | batch _ hf hm _ hb ih => obtain ⟨iss, h⟩ := ih; exact ⟨_, .batch h hf hm hb⟩
  | block _ hr hl hbd hs hn ih => obtain ⟨iss, h⟩ := ih; exact ⟨_, .block h hr hl hbd hs hn⟩

theorem BackRun.reachable {env : Env} {s s' : State} (hrun : BackRun env s s') (h : ReachableSep env s) :
    ReachableSep env s' := by
  obtain ⟨iss, hi⟩ := hrun.issRun
  exact hi.reachable h

theorem BackRun.trans {env : Env} {a b c : State} (h1 : BackRun env a b) (h2 : BackRun env b c) :
    BackRun env a c := by
  induction h2 with
  | refl => exact h1
  | batch _ hf hm hmint hb ih => exact .batch ih hf hm hmint hb
  | block _ hr hl hbd hs hn ih => exact .block ih hr hl hbd hs hn

/-- every pool of a reachable state is filed under a canonical key: pools are only created by `create_builtins`
    (the three builtin names) and by the settlement of a swap / deposit / withdrawal whose data `canonical_pool_key`
    accepted; pegging and the TIP-909 subsidy rewrite builtin pools; batches and `next_unsealed` keep the pool map -/
theorem C16_pool_keys_canonical (env : Env) (s : State) (h : Reachable env s) :
    ∀ k p, s.pools.get k = some p → CanonKey k := by
  have key : BackRunL.PoolsCanon s.pools := by
    induction h with
    | genesis cfg => exact BackRunL.poolsCanon_nil
    | batch _ _ hb ih => exact BackRunL.batch_canon hb ih
    | block _ _ hs hn ih => exact BackRunL.block_canon hs hn ih
  exact key

theorem C16_backed_next (env : Env) (ss : Sealed) (s' : State) (h : nextUnsealed env ss = .ok s') (k : PoolKey)
    (hb : Backed env ss.st k) : Backed env s' k := by
  unfold Backed recordedLiqs at *
  rw [WholeL.nextUnsealed_supply env ss s' h, ReachSealL.nextUnsealed_pools h]
  exact hb

/-- the one-pool version of `C16_backed_history`: only the pool's own token denomination has to be apart from
    those of the other canonical pools -/
theorem C16_backed_history_pool (env : Env) (s s' : State) (hreach : ReachableSep env s) (hrun : BackRun env s s')
    (k : PoolKey) (hk : CanonKey k)
    (hinj : ∀ k', CanonKey k' → liqTokenDenom env k' = liqTokenDenom env k → k' = k)
    (hb : Backed env s k) : Backed env s' k := by
  induction hrun with
  | refl => exact hb
  | @batch m s' txs fb hr hf hm hmint hbat ih =>
    have hi := (reachable_inv_slots env m (hr.reachable hreach)).1
    exact C16_backed_batch env m s' txs fb k hbat hi.coinKeys (hmint k hk) ih
  | @block m s' ss a hr hrf hl hbd hs hn ih =>
    have hp := C01_sealPre_reachable env m (hr.reachable hreach) hbd
    exact C16_backed_next env ss s' hn k (C16_backed_seal_pool env m a ss hs hp hl k hinj ih)

/-- C16 over histories: along any run of the chain from a reachable state — accepted batches that mint no
    liquidity token and sealed blocks outside the legacy deposit window, in any order — every canonical pool's
    tokens stay backed (no more of them exist than the pool records) -/
theorem C16_backed_history (env : Env) (s s' : State) (hreach : ReachableSep env s) (hrun : BackRun env s s')
    (ha : LiqDenomsApartC env) (hb : ∀ k, CanonKey k → Backed env s k) : ∀ k, CanonKey k → Backed env s' k := by
  intro k hk
  exact C16_backed_history_pool env s s' hreach hrun k hk (fun k' hk' e => ha.inj k' k hk' hk e) (hb k hk)

/-- at genesis there is no pool, no fee pool in a custom denomination, and one coin: every pool key (canonical or
    not) is backed unless the initial coin is denominated in that pool's token -/
theorem C16_genesis_backed (env : Env) (cfg : GenesisConfig) (k : PoolKey)
    (hg : cfg.initCoindata.denom ≠ liqTokenDenom env k) : Backed env (genesisState cfg) k := by
  unfold Backed
  rw [C01_genesis_supply, if_neg hg, if_neg (by intro e; cases e)]
  exact Nat.zero_le _

/-- C16 from genesis: at any point of any such history every canonical pool's tokens are backed.
    `hgen` is needed: `C16_genesis_token_counterexample`. -/
theorem C16_backed_from_genesis (env : Env) (cfg : GenesisConfig) (s' : State)
    (hrun : BackRun env (genesisState cfg) s') (ha : LiqDenomsApartC env)
    (hgen : ∀ k, CanonKey k → cfg.initCoindata.denom ≠ liqTokenDenom env k) :
    ∀ k, CanonKey k → Backed env s' k :=
  C16_backed_history env (genesisState cfg) s' (.genesis cfg) hrun ha
    (fun k hk => C16_genesis_backed env cfg k (hgen k hk))

/-- every pool can redeem all of its tokens: the pool's tokens — those in unspent coins together with those other
    pools hold in their reserves (a liquidity token can itself be deposited into a pool) — add up to at most
    `p.liqs`, the liquidity `PoolState::withdraw` accepts (`assert!(self.liqs >= liqs)`) -/
theorem C16_redeemable (env : Env) (s : State) (hreach : ReachableSep env s)
    (hb : ∀ k, CanonKey k → Backed env s k) (k : PoolKey) (p : PoolState) (hp : s.pools.get k = some p) :
    CanonKey k ∧
    coinsTotal s.coins (liqTokenDenom env k) + poolsTotal s.pools (liqTokenDenom env k) ≤ p.liqs := by
  have hk := C16_pool_keys_canonical env s hreach.reachable k p hp
  refine ⟨hk, ?_⟩
  have h := hb k hk
  unfold Backed at h
  rw [recordedLiqs_eq, BackL.liqsAt_some hp] at h
  have e : supply s (liqTokenDenom env k) =
      coinsTotal s.coins (liqTokenDenom env k) + poolsTotal s.pools (liqTokenDenom env k) :=
    BackL.supply_custom s _
  rw [e] at h
  exact h

theorem C16_redeemable_coins (env : Env) (s : State) (hreach : ReachableSep env s)
    (hb : ∀ k, CanonKey k → Backed env s k) (k : PoolKey) (p : PoolState) (hp : s.pools.get k = some p) :
    coinsTotal s.coins (liqTokenDenom env k) ≤ p.liqs :=
  Nat.le_trans (Nat.le_add_right _ _) (C16_redeemable env s hreach hb k p hp).2

theorem C16_redeemable_from_genesis (env : Env) (cfg : GenesisConfig) (s' : State)
    (hrun : BackRun env (genesisState cfg) s') (ha : LiqDenomsApartC env)
    (hgen : ∀ k, CanonKey k → cfg.initCoindata.denom ≠ liqTokenDenom env k)
    (k : PoolKey) (p : PoolState) (hp : s'.pools.get k = some p) :
    CanonKey k ∧
    coinsTotal s'.coins (liqTokenDenom env k) + poolsTotal s'.pools (liqTokenDenom env k) ≤ p.liqs :=
  C16_redeemable env s' (hrun.reachable (.genesis cfg)) (C16_backed_from_genesis env cfg s' hrun ha hgen) k p hp

/-! Non-vacuity: a run from genesis (`ReachWitness.cfg`: one coin of 5 MEL, no pool) — the batch `[fz, dz]` (a faucet
    creating 500 MEL and 5 SYM, their deposit into the MEL/SYM pool, whose name `[115]` spells), a block, the batch
    `[wz]` (the withdrawal of the 50 tokens the deposit was issued), a block. -/

namespace C16RunWitness
open ReachWitness

def fz : Tx := {
  kind := .faucet, inputs := [], outputs := [(⟨[7], 500, .mel, []⟩ : CoinData), ⟨[7], 5, .sym, []⟩], fee := 0,
  covenants := [], data := [], sigs := [], hash := [3], rawLen := 0, covHashes := [] }

def dz : Tx := {
  kind := .liqDeposit, inputs := [⟨[3], 0⟩, ⟨[3], 1⟩],
  outputs := [(⟨[8], 500, .mel, []⟩ : CoinData), ⟨[8], 5, .sym, []⟩], fee := 0,
  covenants := [C03Witness.cov], data := [115], sigs := [], hash := [4], rawLen := 0, covHashes := [[7]] }

def wz : Tx := {
  kind := .liqWithdraw, inputs := [⟨[4], 0⟩, ⟨zeroHash, 0⟩],
  outputs := [(⟨[6], 50, .custom [115], []⟩ : CoinData)], fee := 5,
  covenants := [C03Witness.cov, C03Witness.cov], data := [115], sigs := [], hash := [5], rawLen := 0,
  covHashes := [[8], [7]] }

def t1 : State := getOk (applyBatch env (genesisState cfg) [fz, dz] default)
def ts1 : Sealed := getOk (sealState env t1 none)
def t2 : State := getOk (nextUnsealed env ts1)
def t3 : State := getOk (applyBatch env t2 [wz] default)
def ts3 : Sealed := getOk (sealState env t3 none)
def t4 : State := getOk (nextUnsealed env ts3)

theorem facts :
    ((applyBatch env (genesisState cfg) [fz, dz] default).isOk = true ∧ (sealState env t1 none).isOk = true ∧
      (nextUnsealed env ts1).isOk = true ∧ (applyBatch env t2 [wz] default).isOk = true ∧
      (sealState env t3 none).isOk = true ∧ (nextUnsealed env ts3).isOk = true) ∧
    (t1.coins.getCoin ⟨env.rewardId t1.height, 0⟩ = none ∧ legacyDeposit t1 = false ∧
      (t1.coins.coins.map fun e => e.2.coinData.value).sum ≤ U128_MAX) ∧
    (t3.coins.getCoin ⟨env.rewardId t3.height, 0⟩ = none ∧ legacyDeposit t3 = false ∧
      (t3.coins.coins.map fun e => e.2.coinData.value).sum ≤ U128_MAX) ∧
    AList.keys t2.coins.coins = [⟨[4], 0⟩, ⟨[9, 3], 0⟩, ⟨zeroHash, 0⟩] ∧
    (t2.height = 1 ∧ t2.pools.get poolMelSym = some ⟨998962327, 1001044486, 1997920, 1000000050⟩ ∧
      supply t2 (liqTokenDenom env poolMelSym) = 50 ∧
      ¬ supply t2 (liqTokenDenom env ⟨.sym, .mel⟩) ≤ recordedLiqs t2 ⟨.sym, .mel⟩) ∧
    (t4.height = 2 ∧ t4.pools.get poolMelSym = some ⟨997931432, 1002083753, 3991706, 1000000000⟩ ∧
      supply t4 (liqTokenDenom env poolMelSym) = 0) := by decide +kernel

theorem steps :
    applyBatch env (genesisState cfg) [fz, dz] default = .ok t1 ∧ sealState env t1 none = .ok ts1 ∧
    nextUnsealed env ts1 = .ok t2 ∧ applyBatch env t2 [wz] default = .ok t3 ∧
    sealState env t3 none = .ok ts3 ∧ nextUnsealed env ts3 = .ok t4 := by
  obtain ⟨⟨h1, h2, h3, h4, h5, h6⟩, -⟩ := facts
  exact ⟨eq_getOk h1, eq_getOk h2, eq_getOk h3, eq_getOk h4, eq_getOk h5, eq_getOk h6⟩

theorem env_apart : LiqDenomsApartC env := by
  refine ⟨fun k k' hk hk' e => ?_⟩
  have e' : k.toBytes = k'.toBytes := Denom.custom.inj e
  unfold CanonKey at hk hk'
  rw [e', hk'] at hk
  exact (Option.some.inj hk).symm

theorem genesis_apart : ∀ k, CanonKey k → cfg.initCoindata.denom ≠ liqTokenDenom env k := by
  intro k _ e; cases e

theorem batchFresh1 : BatchFresh (genesisState cfg) [fz, dz] := batchFresh_genesis _ _ (by decide) (by decide)

theorem markerFresh1 : MarkerFresh env (genesisState cfg) [fz, dz] := by
  intro x hx hk _ w hw
  simp only [List.mem_cons, List.not_mem_nil, or_false] at hx
  rcases hx with rfl | rfl
  · have hw' : w = fz ∨ w = dz := by
      rcases hw with hw | hw
      · simpa using hw
      · exact nomatch hw
    rcases hw' with rfl | rfl <;> decide
  · cases hk

theorem noMint1 : NoLiqMint env [fz, dz] := by
  apply noLiqMint_of_outputs
  intro tx htx o ho _ k _
  simp only [List.mem_cons, List.not_mem_nil, or_false] at htx
  rcases htx with rfl | rfl
  · simp only [fz, List.mem_cons, List.not_mem_nil, or_false] at ho
    rcases ho with rfl | rfl <;> (intro e; cases e)
  · simp only [dz, List.mem_cons, List.not_mem_nil, or_false] at ho
    rcases ho with rfl | rfl <;> (intro e; cases e)

theorem batchFresh2 : BatchFresh t2 [wz] := by
  obtain ⟨-, -, -, keys, -⟩ := facts
  refine ⟨by decide, ?_⟩
  intro x hx i
  simp only [List.mem_cons, List.not_mem_nil, or_false] at hx
  subst hx
  unfold CoinMap.getCoin
  rw [AList.get_eq_none_iff_not_mem_keys, keys]
  simp [wz, zeroHash]

theorem markerFresh2 : MarkerFresh env t2 [wz] := by
  intro x hx hk
  simp only [List.mem_cons, List.not_mem_nil, or_false] at hx
  subst hx
  cases hk

theorem noMint2 : NoLiqMint env [wz] := by
  apply noLiqMint_of_outputs
  intro tx htx o ho hor k _
  simp only [List.mem_cons, List.not_mem_nil, or_false] at htx
  subst htx
  simp only [wz, List.mem_cons, List.not_mem_nil, or_false] at ho
  subst ho
  rcases hor with h | h <;> cases h

theorem run2 : BackRun env (genesisState cfg) t2 := by
  obtain ⟨-, ⟨hr, hl, hb⟩, -⟩ := facts
  obtain ⟨batch1, seal1, next1, -⟩ := steps
  exact .block (.batch (.refl _) batchFresh1 markerFresh1 noMint1 batch1) hr hl
    (fun d => Nat.le_trans (coinsTotal_le_sum _ d) hb) seal1 next1

theorem run24 : BackRun env t2 t4 := by
  obtain ⟨-, -, ⟨hr, hl, hb⟩, -⟩ := facts
  obtain ⟨-, -, -, batch2, seal2, next2⟩ := steps
  exact .block (.batch (.refl _) batchFresh2 markerFresh2 noMint2 batch2) hr hl
    (fun d => Nat.le_trans (coinsTotal_le_sum _ d) hb) seal2 next2

theorem run4 : BackRun env (genesisState cfg) t4 := run2.trans run24

end C16RunWitness

/-- non-vacuity of `C16_backed_history` / `C16_backed_from_genesis` / `C16_redeemable_from_genesis`: in the run above
    50 tokens of the (freshly created, builtin) MEL/SYM pool are in circulation after the first block against a
    record of 10^9 + 50; after the withdrawal and the second block none is left against a record of 10^9 -/
theorem C16_backed_history_nonvacuous :
    ∃ (env : Env) (cfg : GenesisConfig) (s2 s4 : State) (p2 p4 : PoolState),
      BackRun env (genesisState cfg) s2 ∧ BackRun env s2 s4 ∧ LiqDenomsApartC env ∧
      (∀ k, CanonKey k → cfg.initCoindata.denom ≠ liqTokenDenom env k) ∧
      s2.height = 1 ∧ s4.height = 2 ∧
      s2.pools.get poolMelSym = some p2 ∧ supply s2 (liqTokenDenom env poolMelSym) = 50 ∧ p2.liqs = 1000000050 ∧
      s4.pools.get poolMelSym = some p4 ∧ supply s4 (liqTokenDenom env poolMelSym) = 0 ∧ p4.liqs = 1000000000 ∧
      Backed env s2 poolMelSym ∧ Backed env s4 poolMelSym ∧
      coinsTotal s2.coins (liqTokenDenom env poolMelSym) + poolsTotal s2.pools (liqTokenDenom env poolMelSym)
        ≤ p2.liqs := by
  open C16RunWitness in
  have hc : CanonKey poolMelSym := by unfold CanonKey; decide
  obtain ⟨-, -, -, -, ⟨h2, g2, sup2, -⟩, h4, g4, sup4⟩ := facts
  exact ⟨ReachWitness.env, ReachWitness.cfg, t2, t4, _, _, run2, run24, env_apart, genesis_apart,
    h2, h4, g2, sup2, rfl, g4, sup4, rfl,
    C16_backed_from_genesis _ _ _ run2 env_apart genesis_apart _ hc,
    C16_backed_from_genesis _ _ _ run4 env_apart genesis_apart _ hc,
    (C16_redeemable_from_genesis _ _ _ run2 env_apart genesis_apart _ _ g2).2⟩

/-- `∀ k, Backed env s k` is not preserved (so `C16_backed_history` is stated for canonical keys): in the run
    above every pool key is backed at genesis; after the deposit and its block the 50 tokens of the MEL/SYM pool are
    also the tokens of the non-canonical spelling `(SYM, MEL)` — `PoolKey.toBytes` spells both `[115]` — under which
    no pool is ever recorded (`C16_pool_keys_canonical`) -/
theorem C16_backed_all_keys_counterexample :
    ∃ (env : Env) (cfg : GenesisConfig) (s' : State), BackRun env (genesisState cfg) s' ∧ LiqDenomsApartC env ∧
      (∀ k, Backed env (genesisState cfg) k) ∧ ¬ CanonKey ⟨.sym, .mel⟩ ∧ ¬ Backed env s' ⟨.sym, .mel⟩ := by
  open C16RunWitness in
  obtain ⟨-, -, -, -, ⟨-, -, -, hnot⟩, -⟩ := facts
  exact ⟨ReachWitness.env, ReachWitness.cfg, t2, run2, env_apart,
    fun k => C16_genesis_backed _ _ k (by intro e; cases e), by unfold CanonKey; decide, hnot⟩

/-- `hgen` cannot be dropped from `C16_backed_from_genesis`: a genesis configuration whose initial coin is
    denominated in the MEL/SYM pool's token starts with 5 tokens against no record at all -/
theorem C16_genesis_token_counterexample :
    ∃ (env : Env) (cfg : GenesisConfig), LiqDenomsApartC env ∧ CanonKey poolMelSym ∧
      BackRun env (genesisState cfg) (genesisState cfg) ∧ ¬ Backed env (genesisState cfg) poolMelSym := by
  refine ⟨ReachWitness.env,
    { network := .custom02, initCoindata := ⟨[7], 5, .custom [115], []⟩, stakes := [], initFeePool := 0,
      initFeeMultiplier := 0 }, C16RunWitness.env_apart, by unfold CanonKey; decide, .refl _, ?_⟩
  unfold Backed
  decide +kernel

end Mel

#print axioms Mel.noLiqMint_of_outputs
#print axioms Mel.BackRun.issRun
#print axioms Mel.BackRun.reachable
#print axioms Mel.BackRun.trans
#print axioms Mel.C16_pool_keys_canonical
#print axioms Mel.C16_backed_next
#print axioms Mel.C16_backed_history_pool
#print axioms Mel.C16_backed_history
#print axioms Mel.C16_genesis_backed
#print axioms Mel.C16_backed_from_genesis
#print axioms Mel.C16_redeemable
#print axioms Mel.C16_redeemable_coins
#print axioms Mel.C16_redeemable_from_genesis
#print axioms Mel.C16_backed_history_nonvacuous
#print axioms Mel.C16_backed_all_keys_counterexample
#print axioms Mel.C16_genesis_token_counterexample

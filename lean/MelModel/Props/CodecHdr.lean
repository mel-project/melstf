/-
  C07 — "any difference in a coin, pool, stake, transaction, fee pool, fee multiplier or DOSC speed changes the header":
  the header hash is the hash of `stdcode::serialize(header)`; `Stdcode.encodeHeader` writes those bytes (compared with the
  real ones on the stdcode stream, `hdrenc` lines) and is injective, so two different headers have different preimages and
  the premise "equal header hash ⇒ equal header" of the C06 / C07 theorems is collision-freeness of the hash function alone.
  Likewise for coin ids (keys of the coin tree, seeds of MelPoW puzzles).
  That the eleven fields can be read back one after the other is proved in MelModel/Lemmas/CodecHdrL.lean.
-/
import MelModel.Stdcode
import MelModel.Props.CodecTx
import MelModel.Lemmas.CodecHdrL
namespace Mel
open Mel.Stdcode

/-- different headers, different bytes: every one of the eleven fields is recoverable from the serialisation -/
theorem C07_header_encoding_injective (h h' : Header) (hk : HeaderOk h) (hk' : HeaderOk h')
    (he : encodeHeader h = encodeHeader h') : h = h' :=
  cancels_encodeHeader.inj hk hk' he

/-- in particular a different fee pool, fee multiplier or DOSC speed gives a different preimage -/
theorem C07_header_bytes_sensitive (h h' : Header) (hk : HeaderOk h) (hk' : HeaderOk h')
    (hd : h.feePool ≠ h'.feePool ∨ h.feeMultiplier ≠ h'.feeMultiplier ∨ h.doscSpeed ≠ h'.doscSpeed ∨
      h.height ≠ h'.height ∨ h.previous ≠ h'.previous ∨ h.network ≠ h'.network) :
    encodeHeader h ≠ encodeHeader h' := by
  intro he
  have := C07_header_encoding_injective h h' hk hk' he
  subst this
  rcases hd with hd | hd | hd | hd | hd | hd <;> exact hd rfl

theorem C07_header_encoding_length (h : Header) (hk : HeaderOk h) :
    197 ≤ (encodeHeader h).length ∧ (encodeHeader h).length ≤ 253 := by
  obtain ⟨a1, a2, a3, a4, a5, a6⟩ := hk.hashes
  unfold encodeHeader
  simp only [List.length_append, putVarint_length, List.length_cons, List.length_nil, a1, a2, a3, a4, a5, a6]
  have v1 := varintLen_bounds h.height
  have v1' := varintLen_le_nine h.height hk.height
  have v2 := varintLen_bounds h.feePool
  have v3 := varintLen_bounds h.feeMultiplier
  have v4 := varintLen_bounds h.doscSpeed
  omega

theorem C07_coinid_encoding_injective (c c' : CoinID) (h : c.txhash.length = 32 ∧ c.index < 256)
    (h' : c'.txhash.length = 32 ∧ c'.index < 256) (he : encodeCoinIDKey c = encodeCoinIDKey c') : c = c' :=
  cancels_encodeCoinID.inj h h' he

/-! ### non-vacuity -/

example : HeaderOk { network := .mainnet, previous := List.replicate 32 0, height := 7, historyHash := List.replicate 32 1,
                     coinsHash := List.replicate 32 2, transactionsHash := List.replicate 32 3, feePool := 1 <<< 100,
                     feeMultiplier := 300, doscSpeed := 5, poolsHash := List.replicate 32 4, stakesHash := List.replicate 32 5 } := by
  constructor <;> decide

end Mel

#print axioms Mel.C07_header_encoding_injective
#print axioms Mel.C07_header_bytes_sensitive
#print axioms Mel.C07_header_encoding_length
#print axioms Mel.C07_coinid_encoding_injective

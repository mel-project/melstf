/-
  C15 — the constants the property's statement (and the recorded deviations) fix, stated of the values regenerated
  from /repo's source (Generated/Tables.lean): the legacy deposit window recorded as K-legacy-deposit. The model is
  parametric in these constants: a changed constant breaks these theorems instead of being followed silently.
-/
import MelModel.Generated.Tables
namespace Mel
open Mel.Gen

theorem C15_pin_LEGACY_DEPOSIT_HEIGHT : LEGACY_DEPOSIT_HEIGHT = 978392 := rfl

end Mel

#print axioms Mel.C15_pin_LEGACY_DEPOSIT_HEIGHT

/-
  C09 over reachable states — applying and sealing never crash in a state reachable from a genesis configuration,
  every sealed block of the history having respected the supply bounds — and C16's builtin pools over histories.

  `Props/Reach.lean` discharges the structural half of `ApplyPre` from reachability; this file does the same for
  the structural half of `SealTotalPre` (`counts`, `faithfulCov`, `txHashes`, `poolsSane`; `liqsU128` is not needed
  by `sealState_ok_pools` at all).  What stays a hypothesis is `SealBounds`: the amounts of the state being sealed
  are far below 2^128 (consequences of the supply premise of C09) and the height is below the point where the
  subsidy shift amount overflows.

  `poolsSane` is not a consequence of `Inv`/`Slots`: it is inductive only because every seal of the history was
  one that `sealState_ok_pools` speaks about, i.e. one whose pre-state met `SealBounds`; hence the reachability
  notion `ReachableB`, whose block step carries `SealBounds`.
-/
import MelModel.Props.Reach
import MelModel.Props.C09Seal
import MelModel.Lemmas.BackL
import MelModel.Lemmas.ReachSealL
namespace Mel
open Mel.Gen Mel.TotalSealL

/-- the part of `SealTotalPre` that bounds amounts (consequences of the supply premise of C09), not structure -/
structure SealBounds (s : State) : Prop where
  feeBound : s.feePool + s.tips + 2 ^ 21 ≤ 2 ^ 127
  reserveBound : ∀ p, s.pools.get poolMelSym = some p → p.lefts ≤ 2 ^ 125
  melInflowBound : melInflow s.txs ≤ 2 ^ 124
  height : s.height < TIP_909_HEIGHT + 128 * SUBSIDY_HALVING

/-- reachable, every sealed block having respected the bounds -/
inductive ReachableB (env : Env) : State → Prop
  | genesis (cfg : GenesisConfig) : ReachableB env (genesisState cfg)
  | batch {s s' : State} {txs : List Tx} {fb : Header} :
      ReachableB env s → BatchFresh s txs → MarkerFresh env s txs → applyBatch env s txs fb = .ok s' →
      ReachableB env s'
  | block {s s' : State} {ss : Sealed} {a : Option ProposerAction} :
      ReachableB env s → RewardFresh env s → SealBounds s → sealState env s a = .ok ss →
      nextUnsealed env ss = .ok s' → ReachableB env s'

theorem ReachableB.sep {env : Env} {s : State} (h : ReachableB env s) : ReachableSep env s := by
  induction h with
  | genesis cfg => exact .genesis cfg
  | batch _ hf hm hb ih => exact .batch ih hf hm hb
  | block _ hr _ hs hn ih => exact .block ih hr hs hn

theorem ReachableB.reachable {env : Env} {s : State} (h : ReachableB env s) : Reachable env s := h.sep.reachable

theorem ReachableB.inv {env : Env} {s : State} (h : ReachableB env s) : Inv s := (reachable_inv_slots env s h.sep).1

theorem ReachableB.slots {env : Env} {s : State} (h : ReachableB env s) : Slots s := (reachable_inv_slots env s h.sep).2

theorem slots_faithful {s : State} (h : Slots s) : Faithful s.txs s.coins := ReachSealL.faithful_of_slots h

theorem seal_ok_of_inv (env : Env) (s : State) (a : Option ProposerAction) (hi : Inv s) (hsl : Slots s)
    (hsane : ∀ k p, s.pools.get k = some p → p.liqs ≠ 0 → 0 < p.lefts ∧ 0 < p.rights) (hb : SealBounds s) :
    ∃ ss, sealState env s a = .ok ss ∧ PoolsOk s.tip902 ss.st.pools :=
  sealState_ok_pools env s a hi.counts (slots_faithful hsl)
    (ReachL.nodup_hashes_of_pairwise (sortedTxs_pairwise hi.sorted)) hsane hb.reserveBound hb.melInflowBound
    hb.feeBound hb.height

/-- the TIP-902 flag of the block sealed last: the flag at height `s.height - 1` on the same network -/
def prevTip902 (s : State) : Bool := ({ s with height := s.height - 1 } : State).tip902

/-- the pool invariant of reachable states -/
structure PoolsInv (s : State) : Prop where
  /-- C16: every pool that has issued liquidity has reserves on both sides -/
  sane : ∀ k p, s.pools.get k = some p → p.liqs ≠ 0 → 0 < p.lefts ∧ 0 < p.rights
  /-- once a block has been sealed, the builtin pools that were due in that block exist and are priced -/
  priced : 0 < s.height → PoolsOk (prevTip902 s) s.pools

theorem poolsInv_batch {env : Env} {s s' : State} {txs : List Tx} {fb : Header}
    (hb : applyBatch env s txs fb = .ok s') (ih : PoolsInv s) : PoolsInv s' := by
  have hp : s'.pools = s.pools := BackL.applyBatch_pools hb
  obtain ⟨-, e2, e3⟩ := applyBatch_hhn _ _ _ _ _ hb
  have ht : prevTip902 s' = prevTip902 s :=
    ReachSealL.tip902_congr (a := { s' with height := s'.height - 1 }) (b := { s with height := s.height - 1 })
      e3 (by show s'.height - 1 = s.height - 1; rw [e2])
  refine ⟨by rw [hp]; exact ih.sane, fun hpos => ?_⟩
  rw [hp, ht]
  exact ih.priced (e2 ▸ hpos)

theorem poolsInv_block {env : Env} {s s' : State} {ss : Sealed} {a : Option ProposerAction}
    (hs : sealState env s a = .ok ss) (hn : nextUnsealed env ss = .ok s') (hpo : PoolsOk s.tip902 ss.st.pools) :
    PoolsInv s' := by
  have hp : s'.pools = ss.st.pools := ReachSealL.nextUnsealed_pools hn
  obtain ⟨-, e2, e3⟩ := sealState_hhn _ _ _ _ hs
  obtain ⟨-, -, -, f2, f3⟩ := nextUnsealed_ok _ _ _ hn
  have ht : prevTip902 s' = s.tip902 :=
    ReachSealL.tip902_congr (a := { s' with height := s'.height - 1 }) (b := s)
      (f3.trans e3) (by show s'.height - 1 = s.height; rw [f2, e2]; rfl)
  refine ⟨by rw [hp]; exact hpo.sane, fun _ => ?_⟩
  rw [hp, ht]
  exact hpo

/-- the pool invariant holds in every `ReachableB` state: genesis has no pools, batches do not touch pools, and
    a block step is a seal that `sealState_ok_pools` speaks about followed by `next_unsealed`, which keeps
    the pools -/
theorem reachableB_poolsInv {env : Env} {s : State} (h : ReachableB env s) : PoolsInv s := by
  induction h with
  | genesis cfg =>
    exact ⟨fun k p hg => (nomatch hg), fun hpos => absurd hpos (Nat.lt_irrefl 0)⟩
  | batch _ _ _ hb ih => exact poolsInv_batch hb ih
  | @block s s' ss a hr _ hbd hs hn ih =>
    obtain ⟨ss', hs', hpo⟩ := seal_ok_of_inv env s a hr.inv hr.slots ih.sane hbd
    cases Outcome.ok.inj (hs.symm.trans hs')
    exact poolsInv_block hs hn hpo

theorem reachableB_poolsSane {env : Env} {s : State} (h : ReachableB env s) :
    ∀ k p, s.pools.get k = some p → p.liqs ≠ 0 → 0 < p.lefts ∧ 0 < p.rights :=
  (reachableB_poolsInv h).sane

/-- reachability gives the structural fields of `SealTotalPre` (`counts`, `faithfulCov`, `poolsSane`, `txHashes`);
    the remaining ones are `SealBounds` and the typing field `liqsU128`, which `sealState_ok_pools` does not use -/
theorem reachableB_sealPre {env : Env} {s : State} (h : ReachableB env s) :
    (s.tip906 = true → CountsSoundS s.coins) ∧
    (∀ tx ∈ s.txs, ∀ i o c, tx.outputs[i]? = some o → s.coins.getCoin ⟨tx.hash, i⟩ = some c →
      c.coinData.covhash = o.covhash) ∧
    (∀ k p, s.pools.get k = some p → (p.liqs ≠ 0 → 0 < p.lefts ∧ 0 < p.rights)) ∧
    (s.txs.map (·.hash)).Nodup :=
  ⟨h.inv.counts, slots_faithful h.slots, reachableB_poolsSane h,
    ReachL.nodup_hashes_of_pairwise (sortedTxs_pairwise h.inv.sorted)⟩

/-- Sealing a reachable state succeeds and prices every builtin pool that is due (C09 + C16 for the sealed
    state, at every height including 0). -/
theorem C09_seal_ok_priced_reachable {env : Env} {s : State} (h : ReachableB env s) (hb : SealBounds s)
    (a : Option ProposerAction) : ∃ ss, sealState env s a = .ok ss ∧ PoolsOk s.tip902 ss.st.pools :=
  seal_ok_of_inv env s a h.inv h.slots (reachableB_poolsSane h) hb

/-- C09, sealing half, for reachable states: sealing succeeds (nothing in it rejects) … -/
theorem C09_seal_ok_reachable {env : Env} {s : State} (h : ReachableB env s) (hb : SealBounds s) :
    ∀ a, ∃ ss, sealState env s a = .ok ss := fun a =>
  let ⟨ss, hs, _⟩ := C09_seal_ok_priced_reachable h hb a
  ⟨ss, hs⟩

/-- … in particular it never crashes -/
theorem C09_seal_total_reachable {env : Env} {s : State} (h : ReachableB env s) (hb : SealBounds s) :
    ∀ a c, sealState env s a ≠ .crash c := fun a =>
  let ⟨_, hs⟩ := C09_seal_ok_reachable h hb a
  NoCrash.of_eq_ok hs

/-- a whole block step is total: seal, header, next block — and the new state is reachable again -/
theorem C09_block_total_reachable {env : Env} {s : State} (h : ReachableB env s) (hb : SealBounds s)
    (hr : RewardFresh env s) :
    ∀ a, ∃ ss s', sealState env s a = .ok ss ∧ nextUnsealed env ss = .ok s' ∧ ReachableB env s' := by
  intro a
  obtain ⟨ss, hs⟩ := C09_seal_ok_reachable h hb a
  obtain ⟨-, s', hn⟩ := reachable_header_ok env s a ss h.reachable hr hs
  exact ⟨ss, s', hs, hn, .block h hr hb hs hn⟩

/-- the apply half for `ReachableSep`, without `s.tip906 = true` (`C09_apply_total_reachable` keeps that
    hypothesis): before TIP-906 no count entry exists and `insert_coin` / `remove_coin` are called with the flag
    off, so the count invariant is only needed once the flag is on — which is how `Inv.counts` states it -/
theorem C09_apply_total_sep (env : Env) (s : State) (txs : List Tx) (fb : Header)
    (hsep : ReachableSep env s) (hf : BatchFresh s txs)
    (bounded : (s.coins.coins.map (·.2.coinData.value)).sum + ((txs.flatMap (·.outputs)).map (·.value)).sum ≤ U128_MAX)
    (powDifficulty : ∀ a b c d, env.powOk a b c d ≠ .invalid → c ≤ 100)
    (rewardFits : ∀ hdr, s.history.get (s.height - 1) = some hdr → ∀ a b d t, env.powOk a b d t ≠ .invalid →
      microergsIter s.height * maxDoscReward d hdr.doscSpeed / MICRO_CONVERTER ≤ U128_MAX) :
    ∀ c, applyBatch env s txs fb ≠ .crash c :=
  let hi := (reachable_inv_slots env s hsep).1
  applyBatch_noCrash env s txs fb hi.counts hf.fresh hi.heights bounded hi.speeds hi.historyBelow
    powDifficulty rewardFits

/-- C09, apply half, for `ReachableB` states, whether or not TIP-906 is active -/
theorem C09_step_total_reachable (env : Env) (s : State) (txs : List Tx) (fb : Header)
    (h : ReachableB env s) (hf : BatchFresh s txs)
    (bounded : (s.coins.coins.map (·.2.coinData.value)).sum + ((txs.flatMap (·.outputs)).map (·.value)).sum ≤ U128_MAX)
    (powDifficulty : ∀ a b c d, env.powOk a b c d ≠ .invalid → c ≤ 100)
    (rewardFits : ∀ hdr, s.history.get (s.height - 1) = some hdr → ∀ a b d t, env.powOk a b d t ≠ .invalid →
      microergsIter s.height * maxDoscReward d hdr.doscSpeed / MICRO_CONVERTER ≤ U128_MAX) :
    ∀ c, applyBatch env s txs fb ≠ .crash c :=
  C09_apply_total_sep env s txs fb h.sep hf bounded powDifficulty rewardFits

/-- C09 for reachable states, both halves: neither applying a batch nor sealing crashes -/
theorem C09_total_reachable (env : Env) (s : State) (h : ReachableB env s) (hb : SealBounds s)
    (powDifficulty : ∀ a b c d, env.powOk a b c d ≠ .invalid → c ≤ 100)
    (rewardFits : ∀ hdr, s.history.get (s.height - 1) = some hdr → ∀ a b d t, env.powOk a b d t ≠ .invalid →
      microergsIter s.height * maxDoscReward d hdr.doscSpeed / MICRO_CONVERTER ≤ U128_MAX) :
    (∀ txs fb, BatchFresh s txs →
      (s.coins.coins.map (·.2.coinData.value)).sum + ((txs.flatMap (·.outputs)).map (·.value)).sum ≤ U128_MAX →
      ∀ c, applyBatch env s txs fb ≠ .crash c) ∧
    (∀ a c, sealState env s a ≠ .crash c) :=
  ⟨fun txs fb hf hbd => C09_step_total_reachable env s txs fb h hf hbd powDifficulty rewardFits,
    C09_seal_total_reachable h hb⟩


/-- C16 over histories: in every reachable state past the first block the MEL/SYM and MEL/ERG pools exist
    with reserves on both sides and liquidity -/
theorem C16_builtins_reachable {env : Env} {s : State} (h : ReachableB env s) (hpos : 0 < s.height) :
    ∀ k ∈ [poolMelSym, poolMelErg], ∃ p, s.pools.get k = some p ∧ 0 < p.lefts ∧ 0 < p.rights ∧ 0 < p.liqs := by
  intro k hk
  have hpo := (reachableB_poolsInv h).priced hpos
  simp only [List.mem_cons, List.not_mem_nil, or_false] at hk
  rcases hk with rfl | rfl
  · exact hpo.builtins _ (melSym_mem_builtinsOf _)
  · exact hpo.builtins _ (melErg_mem_builtinsOf _)

/-- … and so does the ERG/SYM pool when TIP-902 was active in the block sealed last.  (In the block in which
    TIP-902 activates the pool is only created when that block is sealed: `prevTip902`, not `tip902`.) -/
theorem C16_ergsym_reachable {env : Env} {s : State} (h : ReachableB env s) (hpos : 0 < s.height)
    (h902 : prevTip902 s = true) :
    ∃ p, s.pools.get poolErgSym = some p ∧ 0 < p.lefts ∧ 0 < p.rights ∧ 0 < p.liqs := by
  have hpo := (reachableB_poolsInv h).priced hpos
  exact hpo.builtins _ (by rw [h902]; simp [builtinsOf])

theorem C16_builtins_due_reachable {env : Env} {s : State} (h : ReachableB env s) (hpos : 0 < s.height) :
    ∀ k ∈ builtinsOf (prevTip902 s),
      ∃ p, s.pools.get k = some p ∧ 0 < p.lefts ∧ 0 < p.rights ∧ 0 < p.liqs :=
  ((reachableB_poolsInv h).priced hpos).builtins

/-- monotonicity of TIP-902 in the height: if the flag is on in some state of the same network at a smaller
    height (e.g. an earlier state of the history), it was on in the block sealed last -/
theorem prevTip902_of_earlier {s s0 : State} (hn : s.network = s0.network) (hh : s0.height < s.height)
    (h : s0.tip902 = true) : prevTip902 s = true :=
  ReachL.tipCondition_mono (s := s0) (s' := { s with height := s.height - 1 }) hn
    (by show s0.height ≤ s.height - 1; omega) _ h

theorem tip902_of_prevTip902 {s : State} (h : prevTip902 s = true) : s.tip902 = true :=
  ReachL.tipCondition_mono (s := { s with height := s.height - 1 }) (s' := s) rfl
    (by show s.height - 1 ≤ s.height; omega) _ h

theorem prevTip902_custom {s : State} (h1 : s.network ≠ .mainnet) (h2 : s.network ≠ .testnet) :
    prevTip902 s = true := by
  show State.tipCondition _ TIP_902_HEIGHT = true
  unfold State.tipCondition
  rw [if_neg (by decide), if_neg h1, if_neg h2]

theorem prevTip902_mainnet {s : State} (h : s.network = .mainnet) :
    prevTip902 s = true ↔ TIP_902_HEIGHT < s.height := by
  show State.tipCondition _ TIP_902_HEIGHT = true ↔ _
  unfold State.tipCondition
  rw [if_neg (by decide), if_pos h]
  rw [decide_eq_true_iff]
  show s.height - 1 ≥ TIP_902_HEIGHT ↔ _
  unfold TIP_902_HEIGHT
  omega

/-- the ERG/SYM pool once a state in which TIP-902 is active has been sealed: `s0` any state of the same
    network at a smaller height with the flag on -/
theorem C16_ergsym_reachable_after {env : Env} {s s0 : State} (h : ReachableB env s)
    (hn : s.network = s0.network) (hh : s0.height < s.height) (h902 : s0.tip902 = true) :
    ∃ p, s.pools.get poolErgSym = some p ∧ 0 < p.lefts ∧ 0 < p.rights ∧ 0 < p.liqs :=
  C16_ergsym_reachable h (by omega) (prevTip902_of_earlier hn hh h902)


namespace C09ReachWitness
open ReachWitness (env cfg u getOk eq_getOk)

/-- the state after the batch `[u]` (`u` a swap transaction spending the initial coin) -/
def s1 : State := getOk (applyBatch env (genesisState cfg) [u] default)
def ss1 : Sealed := getOk (sealState env s1 none)
def s2 : State := getOk (nextUnsealed env ss1)
def ss2 : Sealed := getOk (sealState env s2 none)
def s3 : State := getOk (nextUnsealed env ss2)

/-- everything that is evaluated about this history, in one run of the kernel: every step succeeds (and `s3` can be
    sealed); the block of `s1`; the reward coin is absent before each seal; the numeric bounds of `SealBounds`; the
    MEL supplies; TIP-902 and the sealed first block -/
theorem facts :
    ((applyBatch env (genesisState cfg) [u] default).isOk = true ∧ (sealState env s1 none).isOk = true ∧
      (nextUnsealed env ss1).isOk = true) ∧
    ((sealState env s2 none).isOk = true ∧ (nextUnsealed env ss2).isOk = true ∧
      (sealState env s3 none).isOk = true) ∧
    (s1.txs = [u] ∧ s1.coins.getCoin ⟨env.rewardId s1.height, 0⟩ = none ∧
      s1.feePool + s1.tips + 2 ^ 21 ≤ 2 ^ 127 ∧ melInflow s1.txs ≤ 2 ^ 124 ∧ supply s1 .mel = 5) ∧
    (s2.coins.getCoin ⟨env.rewardId s2.height, 0⟩ = none ∧
      s2.feePool + s2.tips + 2 ^ 21 ≤ 2 ^ 127 ∧ melInflow s2.txs ≤ 2 ^ 124 ∧
      (match s2.pools.get poolMelSym with
        | some p => decide (p.lefts ≤ 2 ^ 125)
        | none => true) = true ∧
      supply s2 .mel ≤ 2 ^ 124 ∧ prevTip902 s2 = true) ∧
    (ss1.st.tip906 = true ∧ ss1.st.coins.coinCount [8] = 1) := by decide +kernel

theorem batch_ok : applyBatch env (genesisState cfg) [u] default = .ok s1 := eq_getOk facts.1.1
theorem seal1_ok : sealState env s1 none = .ok ss1 := eq_getOk facts.1.2.1
theorem next1_ok : nextUnsealed env ss1 = .ok s2 := eq_getOk facts.1.2.2
theorem seal2_ok : sealState env s2 none = .ok ss2 := eq_getOk facts.2.1.1
theorem next2_ok : nextUnsealed env ss2 = .ok s3 := eq_getOk facts.2.1.2.1

theorem seal3_ok : ∃ ss, sealState env s3 none = .ok ss := ⟨_, eq_getOk facts.2.1.2.2⟩

theorem height1 : s1.height = 0 := (applyBatch_frame batch_ok).height
theorem height2 : s2.height = 1 := by rw [LifeL.block_height seal1_ok next1_ok, height1]
theorem height3 : s3.height = 2 := by rw [LifeL.block_height seal2_ok next2_ok, height2]

theorem sealed1 : ss1.st.tip906 = true ∧ ss1.st.coins.coinCount [8] = 1 := facts.2.2.2.2

theorem batchFresh : BatchFresh (genesisState cfg) [u] := batchFresh_genesis _ _ (by decide) (by decide)

theorem markerFresh : MarkerFresh env (genesisState cfg) [u] := by
  intro f hf hk
  simp only [List.mem_cons, List.not_mem_nil, or_false] at hf
  subst hf
  exact absurd hk (by decide)

/-- what `facts` says about the state with the swap in its block -/
theorem s1_facts : s1.txs = [u] ∧ RewardFresh env s1 ∧ SealBounds s1 ∧ supply s1 .mel = 5 := by
  obtain ⟨-, -, ⟨htxs, hfresh, hfee, hinflow, hsup⟩, -⟩ := facts
  refine ⟨htxs, hfresh, ⟨hfee, fun p hp => ?_, hinflow, by rw [height1]; decide⟩, hsup⟩
  rw [BackL.applyBatch_pools batch_ok] at hp
  cases hp

/-- … and about the next state, in which the builtin pools exist (the MEL/SYM pool after the swap) -/
theorem s2_facts : RewardFresh env s2 ∧ SealBounds s2 ∧ supply s2 .mel ≤ 2 ^ 124 ∧ prevTip902 s2 = true := by
  obtain ⟨-, -, -, ⟨hfresh, hfee, hinflow, hres, hsup, h902⟩, -⟩ := facts
  refine ⟨hfresh, ⟨hfee, fun p hp => ?_, hinflow, by rw [height2]; decide⟩, hsup, h902⟩
  rw [hp] at hres
  exact of_decide_eq_true hres

theorem heights : s1.height = 0 ∧ s1.txs = [u] ∧ s2.height = 1 ∧ s3.height = 2 :=
  ⟨height1, s1_facts.1, height2, height3⟩

theorem rewardFresh1 : RewardFresh env s1 := s1_facts.2.1
theorem s1_bounds : SealBounds s1 := s1_facts.2.2.1
theorem rewardFresh2 : RewardFresh env s2 := s2_facts.1
theorem s2_bounds : SealBounds s2 := s2_facts.2.1

theorem s1_reachable : ReachableB env s1 := .batch (.genesis cfg) batchFresh markerFresh batch_ok
theorem s2_reachable : ReachableB env s2 := .block s1_reachable rewardFresh1 s1_bounds seal1_ok next1_ok
theorem s3_reachable : ReachableB env s3 := .block s2_reachable rewardFresh2 s2_bounds seal2_ok next2_ok

end C09ReachWitness

/-- non-vacuity: for a literal environment and genesis configuration, a `ReachableB` state of height 1
    (genesis → a batch with a swap transaction → block) and one of height 2 (→ another block); the states that are
    sealed on the way satisfy `SealBounds` (and `RewardFresh`), so every theorem above has its hypotheses met:
    by `s1` (height 0, a swap in its block) and by `s2` (height 1, the builtin pools in place) -/
theorem reachableB_nonvacuous :
    ∃ (env : Env) (s1 s2 s3 : State), ReachableB env s1 ∧ SealBounds s1 ∧ RewardFresh env s1 ∧ s1.txs ≠ [] ∧
      ReachableB env s2 ∧ SealBounds s2 ∧ RewardFresh env s2 ∧ s2.height = 1 ∧
      ReachableB env s3 ∧ s3.height = 2 :=
  open C09ReachWitness in
  ⟨ReachWitness.env, s1, s2, s3, s1_reachable, s1_bounds, rewardFresh1, by rw [s1_facts.1]; exact List.cons_ne_nil _ _,
    s2_reachable, s2_bounds, rewardFresh2, height2, s3_reachable, height3⟩

/-- non-vacuity of the C16 statements: the height-1 state of the witness has all three builtin pools (the
    network is a custom one, TIP-902 is active from the start) -/
theorem C16_builtins_reachable_nonvacuous :
    ∃ (env : Env) (s : State), ReachableB env s ∧ 0 < s.height ∧ prevTip902 s = true ∧
      ∀ k ∈ [poolMelSym, poolMelErg, poolErgSym],
        ∃ p, s.pools.get k = some p ∧ 0 < p.lefts ∧ 0 < p.rights ∧ 0 < p.liqs := by
  open C09ReachWitness in
  have hpos : 0 < s2.height := by rw [height2]; exact Nat.one_pos
  have h902 : prevTip902 s2 = true := s2_facts.2.2.2
  refine ⟨ReachWitness.env, s2, s2_reachable, hpos, h902, ?_⟩
  intro k hk
  simp only [List.mem_cons, List.not_mem_nil, or_false] at hk
  rcases hk with rfl | rfl | rfl
  · exact C16_builtins_reachable s2_reachable hpos _ (by simp)
  · exact C16_builtins_reachable s2_reachable hpos _ (by simp)
  · exact C16_ergsym_reachable s2_reachable hpos h902

/-- non-vacuity of `C09_step_total_reachable`: its hypotheses hold for the batch `[u]` on the genesis state of
    the witness (TIP-906 is active there; `C09_step_pre906` below is a state where it is not) -/
example : ∀ c, applyBatch ReachWitness.env (genesisState ReachWitness.cfg) [ReachWitness.u] default ≠ .crash c :=
  C09_step_total_reachable _ _ _ _ (.genesis _) C09ReachWitness.batchFresh (by decide +kernel)
    (fun _ _ _ _ h => absurd rfl h) (fun _ _ _ _ _ _ h => absurd rfl h)

/-- … and before TIP-906: the genesis state of a mainnet configuration is reachable, TIP-906 is not active in it,
    and `C09_step_total_reachable` applies to it (`C09_apply_total_reachable` does not) -/
theorem C09_step_pre906 (env : Env) (cfg : GenesisConfig) (hn : cfg.network = .mainnet) :
    ReachableB env (genesisState cfg) ∧ (genesisState cfg).tip906 = false := by
  refine ⟨.genesis cfg, ?_⟩
  show State.tipCondition _ TIP_906_HEIGHT = false
  unfold State.tipCondition
  rw [if_neg (by decide)]
  show (if cfg.network = NetID.mainnet then decide ((0 : Nat) ≥ TIP_906_HEIGHT) else _) = false
  rw [if_pos hn]
  decide

end Mel

#print axioms Mel.ReachableB.sep
#print axioms Mel.reachableB_poolsInv
#print axioms Mel.reachableB_poolsSane
#print axioms Mel.reachableB_sealPre
#print axioms Mel.C09_seal_ok_priced_reachable
#print axioms Mel.C09_seal_ok_reachable
#print axioms Mel.C09_seal_total_reachable
#print axioms Mel.C09_block_total_reachable
#print axioms Mel.C09_apply_total_sep
#print axioms Mel.C09_step_total_reachable
#print axioms Mel.C09_total_reachable
#print axioms Mel.C16_builtins_reachable
#print axioms Mel.C16_ergsym_reachable
#print axioms Mel.C16_builtins_due_reachable
#print axioms Mel.C16_ergsym_reachable_after
#print axioms Mel.prevTip902_of_earlier
#print axioms Mel.tip902_of_prevTip902
#print axioms Mel.prevTip902_custom
#print axioms Mel.prevTip902_mainnet
#print axioms Mel.reachableB_nonvacuous
#print axioms Mel.C16_builtins_reachable_nonvacuous
#print axioms Mel.C09_step_pre906

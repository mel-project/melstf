/-
  C13 / C14 for sealed reachable states — `confirm` on a state sealed from a reachable one: the header exists, the
  epoch used is the epoch of the sealed state's height, the stake set used is the state's own, a key's votes are
  the stakes registered for it with `eStart ≤ epoch < ePostEnd`, and a stake registered by a transaction of the
  block being sealed does not vote yet.  (`Props/C14.lean` has the decision theorem `C14_decision_total` for an
  arbitrary sealed state with a header; `Props/C13.lean` has `C13_votes`, `C13_total_votes`, `C13_register_iff`.)
-/
import MelModel.Chain
import MelModel.Props.C13
import MelModel.Props.C14
import MelModel.Props.C13Life
import MelModel.Props.C07Hist
import MelModel.Lemmas.MiscHistL
namespace Mel
open Mel.Gen Mel.MiscHistL

/-- a key's voting power in epoch `ep` as the property states it: the sum of the stakes registered for the key
    whose window `[eStart, ePostEnd)` contains the epoch -/
def windowVotes (st : StakeSet) (ep : Nat) (key : Bytes) : Nat :=
  ((st.filter fun e => e.2.eStart ≤ ep ∧ ep < e.2.ePostEnd ∧ e.2.pubkey = key).map (·.2.symsStaked)).sum

def windowTotal (st : StakeSet) (ep : Nat) : Nat :=
  ((st.filter fun e => e.2.eStart ≤ ep ∧ ep < e.2.ePostEnd).map (·.2.symsStaked)).sum

theorem windowVotes_eq (st : StakeSet) (ep : Nat) (key : Bytes) : windowVotes st ep key = st.votes ep key :=
  (C13_votes st ep key).symm

theorem windowTotal_eq (st : StakeSet) (ep : Nat) : windowTotal st ep = st.totalVotes ep :=
  (C13_total_votes st ep).symm

/-- `confirm` on a state sealed from `s` looks at the stake set of `s` itself (sealing does not touch it) and the
    epoch of the height of `s` -/
theorem C14_sealed_stakes_epoch (env : Env) (s : State) (a : Option ProposerAction) (ss : Sealed)
    (hs : sealState env s a = .ok ss) :
    ss.st.stakes = s.stakes ∧ ss.st.height = s.height ∧ ss.st.epoch = s.height / STAKE_EPOCH := by
  have e2 := (sealState_hhn env s a ss hs).2.1
  refine ⟨C13_seal_keeps_stakes env s a ss hs, e2, ?_⟩
  unfold State.epoch; rw [e2]

/-- the tallies of `confirm` are the window sums over the state's own stake set (`C13_votes` / `C13_total_votes`):
    only stakes with `eStart ≤ epoch < ePostEnd` count -/
theorem C14_tallies_window (env : Env) (s : State) (a : Option ProposerAction) (ss : Sealed)
    (hs : sealState env s a = .ok ss) (proof : List (Bytes × Bytes)) :
    presentVotes ss proof = (proof.map fun e => windowVotes s.stakes (s.height / STAKE_EPOCH) e.1).sum ∧
    totalVotes ss = windowTotal s.stakes (s.height / STAKE_EPOCH) := by
  obtain ⟨e1, -, e3⟩ := C14_sealed_stakes_epoch env s a ss hs
  unfold presentVotes totalVotes
  rw [e1, e3]
  simp only [windowVotes_eq, windowTotal_eq, and_self]

/-- a stake outside its window does not count: the tallies are those of the stake set with every stake whose window
    does not contain the epoch removed -/
theorem C14_only_window_counts (st : StakeSet) (ep : Nat) (key : Bytes) :
    st.votes ep key = StakeSet.votes (st.filter fun e => e.2.eStart ≤ ep ∧ ep < e.2.ePostEnd) ep key ∧
    st.totalVotes ep = StakeSet.totalVotes (st.filter fun e => e.2.eStart ≤ ep ∧ ep < e.2.ePostEnd) ep := by
  have hp : ∀ e ∈ st, decide (e.2.eStart ≤ ep ∧ ep < e.2.ePostEnd) = false → StakeSet.active ep e.2 = false := by
    intro e _ h
    unfold StakeSet.active
    rw [← Bool.decide_and]
    exact h
  exact ⟨votes_filter st ep key _ hp, totalVotes_filter st ep _ hp⟩

/-- the decision on sealed reachable states: a state sealed from a reachable state has a header (at the state's
    height); `confirm` uses the epoch of that height and the state's own stake set; and, the total voting power
    fitting a u128, it answers exactly "every entry is a valid signature of the header hash, and the signers'
    voting power — stakes with `eStart ≤ epoch < ePostEnd` — exceeds two thirds of the total" -/
theorem C14_confirm_reachable (env : Env) (s : State) (a : Option ProposerAction) (ss : Sealed)
    (proof : List (Bytes × Bytes)) (hr : Reachable env s) (hs : sealState env s a = .ok ss)
    (ht : windowTotal s.stakes (s.height / STAKE_EPOCH) < U128_MAX) :
    ∃ hdr, headerOf env ss = .ok hdr ∧ hdr.height = s.height ∧ hdr.network = s.network ∧
      ss.st.stakes = s.stakes ∧ ss.st.epoch = s.height / STAKE_EPOCH ∧
      confirm env ss proof = .ok (decide ((∀ e ∈ proof, validEntry env hdr e = true) ∧
        3 * (proof.map fun e => windowVotes s.stakes (s.height / STAKE_EPOCH) e.1).sum >
          2 * windowTotal s.stakes (s.height / STAKE_EPOCH))) := by
  obtain ⟨hdr, hh, c1, c2, -⟩ := C07_header_exists_reachable env s a ss hr hs
  obtain ⟨e1, -, e3⟩ := C14_sealed_stakes_epoch env s a ss hs
  obtain ⟨t1, t2⟩ := C14_tallies_window env s a ss hs proof
  refine ⟨hdr, hh, c1, c2, e1, e3, ?_⟩
  rw [C14_decision_total env ss hdr proof hh (by rw [t2]; exact ht), t1, t2]

/-- … in the implementation's own terms (`StakeSet.votes` / `StakeSet.totalVotes` of the state's stake set) -/
theorem C14_confirm_reachable_votes (env : Env) (s : State) (a : Option ProposerAction) (ss : Sealed)
    (proof : List (Bytes × Bytes)) (hr : Reachable env s) (hs : sealState env s a = .ok ss)
    (ht : s.stakes.totalVotes (s.height / STAKE_EPOCH) < U128_MAX) :
    ∃ hdr, headerOf env ss = .ok hdr ∧ hdr.height = s.height ∧
      confirm env ss proof = .ok (decide ((∀ e ∈ proof, validEntry env hdr e = true) ∧
        3 * (proof.map fun e => s.stakes.votes (s.height / STAKE_EPOCH) e.1).sum >
          2 * s.stakes.totalVotes (s.height / STAKE_EPOCH))) := by
  rw [← windowTotal_eq] at ht
  obtain ⟨hdr, hh, c1, -, -, -, hc⟩ := C14_confirm_reachable env s a ss proof hr hs ht
  simp only [windowVotes_eq, windowTotal_eq] at hc
  exact ⟨hdr, hh, c1, hc⟩

/-- a newly registered stake has no vote yet: a stake registered by a transaction of the batch (so `eStart` is
    beyond the current epoch, `C13_register_iff`) is in the stake set of the state sealed from the result, is not
    active in that state's epoch, and contributes 0 votes — every key's tally and the total are what they are without
    it -/
theorem C14_newly_staked_has_no_vote_yet (env : Env) (s s' : State) (txs : List Tx) (fb : Header)
    (a : Option ProposerAction) (ss : Sealed) (hb : applyBatch env s txs fb = .ok s')
    (hu : (txs.map (·.hash)).Nodup) (hk : StakeKeysUnique s) (tx : Tx) (htx : tx ∈ txs) (d : StakeDoc)
    (hreg : Registers s tx d) (hs : sealState env s' a = .ok ss) :
    ss.st.stakes.getStake tx.hash = some d ∧ ss.st.epoch < d.eStart ∧ StakeSet.active ss.st.epoch d = false ∧
    (∀ key, ss.st.stakes.votes ss.st.epoch key = StakeSet.votes (AList.del ss.st.stakes tx.hash) ss.st.epoch key) ∧
    ss.st.stakes.totalVotes ss.st.epoch = StakeSet.totalVotes (AList.del ss.st.stakes tx.hash) ss.st.epoch := by
  have hg : s'.stakes.getStake tx.hash = some d :=
    (C13_register_iff env s s' txs fb hb hu tx.hash d).mpr (.inl ⟨tx, htx, rfl, hreg⟩)
  obtain ⟨e1, e2, e3⟩ := C14_sealed_stakes_epoch env s' a ss hs
  have hep : ss.st.epoch = s.epoch := e3.trans (batch_epoch hb)
  obtain ⟨-, -, -, first, -, -, hstart, -, -⟩ := hreg
  have hlt : ss.st.epoch < d.eStart := by rw [hep]; exact hstart
  have hina : StakeSet.active ss.st.epoch d = false := by
    unfold StakeSet.active
    rw [decide_eq_false (Nat.not_le_of_lt hlt)]
    rfl
  have hn : (ss.st.stakes.map (·.1)).Nodup := by rw [e1]; exact LifeL.batch_keys_nodup hb hk
  rw [← e1] at hg
  obtain ⟨v1, v2⟩ := votes_del_inactive ss.st.stakes hn tx.hash d hg ss.st.epoch hina
  exact ⟨hg, hlt, hina, v1, v2⟩

/-- the same for a block: a stake registered by a transaction of an accepted block does not vote in the sealed state
    the block produces -/
theorem C14_block_newly_staked_has_no_vote_yet (env : Env) (ss0 ss' : Sealed) (blk : Block) (basis : State)
    (h : applyBlock env ss0 blk = .ok ss') (hn : nextUnsealed env ss0 = .ok basis)
    (hu : (blk.transactions.map (·.hash)).Nodup) (hk : StakeKeysUnique ss0.st) (tx : Tx)
    (htx : tx ∈ blk.transactions) (d : StakeDoc) (hreg : Registers basis tx d) :
    ss'.st.stakes.getStake tx.hash = some d ∧ ss'.st.epoch < d.eStart ∧ StakeSet.active ss'.st.epoch d = false ∧
    (∀ key, ss'.st.stakes.votes ss'.st.epoch key =
      StakeSet.votes (AList.del ss'.st.stakes tx.hash) ss'.st.epoch key) ∧
    ss'.st.stakes.totalVotes ss'.st.epoch = StakeSet.totalVotes (AList.del ss'.st.stakes tx.hash) ss'.st.epoch := by
  obtain ⟨basis', applied, hn', -, hb, hs, -⟩ := (applyBlock_eq_ok_iff env ss0 ss' blk).mp h
  have : basis' = basis := Outcome.ok.inj (hn'.symm.trans hn)
  subst this
  exact C14_newly_staked_has_no_vote_yet env basis' applied blk.transactions default blk.action ss' hb hu
    (next_keys_nodup hn hk) tx htx d hreg hs

/-- … so a proof signed only by the key of a stake registered in the block being confirmed never confirms that
    block, whatever the amount staked (the signers' tally is that of the stake set without the new stake) -/
theorem C14_newly_staked_tally (env : Env) (s s' : State) (txs : List Tx) (fb : Header)
    (a : Option ProposerAction) (ss : Sealed) (hb : applyBatch env s txs fb = .ok s')
    (hu : (txs.map (·.hash)).Nodup) (hk : StakeKeysUnique s) (tx : Tx) (htx : tx ∈ txs) (d : StakeDoc)
    (hreg : Registers s tx d) (hs : sealState env s' a = .ok ss) (proof : List (Bytes × Bytes)) :
    presentVotes ss proof =
      (proof.map fun e => StakeSet.votes (AList.del ss.st.stakes tx.hash) ss.st.epoch e.1).sum := by
  obtain ⟨-, -, -, v1, -⟩ := C14_newly_staked_has_no_vote_yet env s s' txs fb a ss hb hu hk tx htx d hreg hs
  unfold presentVotes
  congr 1
  apply List.map_congr_left
  intro e _
  exact v1 e.1

namespace C14HistWitness
open ReachWitness (env getOk eq_getOk)

def old : StakeDoc := { pubkey := [1], eStart := 0, ePostEnd := 10, symsStaked := 100 }
def new : StakeDoc := { pubkey := [2], eStart := 1, ePostEnd := 2, symsStaked := 5 }

def cfg : GenesisConfig :=
  { network := .custom02, initCoindata := ⟨[7], 5, .mel, []⟩, stakes := [([5], old)], initFeePool := 0,
    initFeeMultiplier := 0 }

def fct : Tx := {
  kind := .faucet, inputs := [], outputs := [(⟨[7], 5, .sym, []⟩ : CoinData)], fee := 0,
  covenants := [], data := [], sigs := [], hash := [2], rawLen := 0, covHashes := [] }
def stk : Tx := {
  kind := .stake, inputs := [⟨zeroHash, 0⟩, ⟨[2], 0⟩],
  outputs := [(⟨[8], 5, .sym, []⟩ : CoinData), (⟨[8], 5, .mel, []⟩ : CoinData)], fee := 0,
  covenants := [C03Witness.cov], data := [], sigs := [], hash := [3], rawLen := 0, covHashes := [[7]],
  stakeDoc := some new }

def g : State := genesisState cfg
def s1 : State := getOk (applyBatch env g [fct, stk] default)
def ss1 : Sealed := getOk (sealState env s1 none)

def sig : Bytes := List.replicate 64 0

theorem facts :
    ((applyBatch env g [fct, stk] default).isOk = true ∧ (sealState env s1 none).isOk = true) ∧
    windowTotal s1.stakes (s1.height / STAKE_EPOCH) = 100 ∧
    3 * (([([1], sig)] : List (Bytes × Bytes)).map fun e => windowVotes s1.stakes (s1.height / STAKE_EPOCH) e.1).sum >
      2 * windowTotal s1.stakes (s1.height / STAKE_EPOCH) ∧
    ¬ 3 * ([(new.pubkey, sig)].map fun e => windowVotes s1.stakes (s1.height / STAKE_EPOCH) e.1).sum >
      2 * windowTotal s1.stakes (s1.height / STAKE_EPOCH) := by decide +kernel

theorem batch_ok : applyBatch env g [fct, stk] default = .ok s1 := eq_getOk facts.1.1
theorem seal_ok : sealState env s1 none = .ok ss1 := eq_getOk facts.1.2

theorem registers : Registers g stk new :=
  ⟨rfl, by decide +kernel, rfl, ⟨[8], 5, .sym, []⟩, rfl, rfl, by decide +kernel, by decide, rfl⟩

theorem keysUnique : StakeKeysUnique g := by unfold StakeKeysUnique; decide +kernel

theorem s1_reachable : Reachable env s1 :=
  .batch (.genesis cfg) (batchFresh_genesis _ _ (by decide) (by decide)) batch_ok

end C14HistWitness

/-- non-vacuity: a reachable state (genesis with one validator of 100 SYM, then a batch with a faucet transaction
    and a stake transaction registering 5 SYM from epoch 1) is sealed; the old validator's signature confirms it (100
    of 100 votes), the new staker's does not (0 of 100), the new stake being registered but without a vote -/
theorem C14_hist_nonvacuous :
    ∃ (env : Env) (s0 s : State) (ss : Sealed) (txs : List Tx) (tx : Tx) (d : StakeDoc) (sig : Bytes),
      applyBatch env s0 txs default = .ok s ∧ Reachable env s ∧ sealState env s none = .ok ss ∧
      (txs.map (·.hash)).Nodup ∧ StakeKeysUnique s0 ∧ tx ∈ txs ∧ Registers s0 tx d ∧
      windowTotal s.stakes (s.height / STAKE_EPOCH) = 100 ∧
      ss.st.stakes.getStake tx.hash = some d ∧
      confirm env ss [([1], sig)] = .ok true ∧ confirm env ss [(d.pubkey, sig)] = .ok false := by
  open C14HistWitness in
  obtain ⟨-, h100, hyes, hno⟩ := facts
  have hmem : stk ∈ [fct, stk] := .tail _ (.head _)
  have hlt : windowTotal s1.stakes (s1.height / STAKE_EPOCH) < U128_MAX := by rw [h100]; decide
  obtain ⟨hg, -⟩ := C14_newly_staked_has_no_vote_yet ReachWitness.env g s1 _ default none ss1 batch_ok
    (by decide) keysUnique stk hmem new registers seal_ok
  refine ⟨ReachWitness.env, g, s1, ss1, [fct, stk], stk, new, sig, batch_ok, s1_reachable, seal_ok, by decide,
    keysUnique, hmem, registers, h100, hg, ?_, ?_⟩
  · obtain ⟨hdr, -, -, -, -, -, hc⟩ :=
      C14_confirm_reachable ReachWitness.env s1 none ss1 [([1], sig)] s1_reachable seal_ok hlt
    refine hc.trans (congrArg Outcome.ok (decide_eq_true ⟨fun e he => ?_, hyes⟩))
    cases List.mem_singleton.1 he
    rfl
  · obtain ⟨hdr, -, -, -, -, -, hc⟩ :=
      C14_confirm_reachable ReachWitness.env s1 none ss1 [(new.pubkey, sig)] s1_reachable seal_ok hlt
    exact hc.trans (congrArg Outcome.ok (decide_eq_false fun h => hno h.2))

end Mel

#print axioms Mel.C14_sealed_stakes_epoch
#print axioms Mel.C14_tallies_window
#print axioms Mel.C14_only_window_counts
#print axioms Mel.C14_confirm_reachable
#print axioms Mel.C14_confirm_reachable_votes
#print axioms Mel.C14_newly_staked_has_no_vote_yet
#print axioms Mel.C14_block_newly_staked_has_no_vote_yet
#print axioms Mel.C14_newly_staked_tally
#print axioms Mel.C14_hist_nonvacuous

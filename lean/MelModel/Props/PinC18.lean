/-
  C18 — the constants the property's statement (and the recorded deviations) fix, stated of the values regenerated
  from /repo's source (Generated/Tables.lean): the TIP-910 work and speed factors, the reward divisor (2880 blocks),
  the minimum coin age on Mainnet, the DOSC inflator. The model is parametric in these constants: a changed constant
  breaks these theorems instead of being followed silently.
-/
import MelModel.Generated.Tables
namespace Mel
open Mel.Gen

theorem C18_pin_TIP910_SPEED_FACTOR : TIP910_SPEED_FACTOR = 100 := rfl
theorem C18_pin_TIP910_WORK_FACTOR : TIP910_WORK_FACTOR = 100 := rfl
theorem C18_pin_REWARD_DIVISOR : REWARD_DIVISOR = 2880 := rfl
theorem C18_pin_DOSCMINT_MIN_AGE : DOSCMINT_MIN_AGE = 100 := rfl
theorem C18_pin_INFLATOR_DIV : INFLATOR_DIV = 2000000 := rfl

end Mel

#print axioms Mel.C18_pin_TIP910_SPEED_FACTOR
#print axioms Mel.C18_pin_TIP910_WORK_FACTOR
#print axioms Mel.C18_pin_REWARD_DIVISOR
#print axioms Mel.C18_pin_DOSCMINT_MIN_AGE
#print axioms Mel.C18_pin_INFLATOR_DIV

/-
  C03 — "…does not depend on how validation is scheduled across threads".
  `apply_tx_batch_impl` validates the members of a batch with rayon: `par_iter().try_for_each(check_tx_validity)` and,
  for the mints, `par_iter().filter(DoscMint).try_fold(|| this.dosc_speed, max).try_reduce(|| this.dosc_speed, max)`.
  rayon cuts the slice into consecutive segments, as it pleases and differently on every run; each segment is folded by
  one worker starting from the identity, and the segments' results are combined pairwise in some tree shape.
  The model's `applyBatch` runs the two passes sequentially.  This file states that this loses nothing: for *every*
  way of cutting the batch up (`Sched`: any binary tree over any consecutive segments, empty segments included) the
  scheduled evaluation accepts exactly when the sequential one does and returns the same state.  (Which member's error
  is reported may differ; the property does not speak about that and the correspondence check never compares it.)
  What a theorem cannot exhibit is rayon itself (work stealing, the thread pool): the harness runs batches under
  several `RAYON_NUM_THREADS` values and compares (DESIGN §4 C03).
  The two facts behind it are in MelModel/Lemmas/SchedL.lean: the scheduled validity pass *is* the sequential one, and a
  fold whose step takes a maximum may start every segment from the same value.
-/
import MelModel.Sched
import MelModel.Lemmas.SchedL
namespace Mel

/-- validity under any schedule succeeds exactly when the sequential pass does -/
theorem C03_sched_forEach {α} (f : α → Outcome Unit) (sch : Sched α) :
    (sch.forEach f).toOption = (Outcome.forM' f sch.items).toOption :=
  congrArg Outcome.toOption (sched_forEach_eq f sch)

/-- a crash under some schedule is a crash of the sequential pass or is preceded by a rejection there, and conversely:
    the scheduled pass crashes or rejects exactly when the sequential pass crashes or rejects -/
theorem C03_sched_forEach_isOk {α} (f : α → Outcome Unit) (sch : Sched α) :
    (sch.forEach f).isOk = (Outcome.forM' f sch.items).isOk :=
  congrArg Outcome.isOk (sched_forEach_eq f sch)

/-- the maximum reduction under any schedule: same acceptance, same speed -/
theorem C03_sched_speed (env : Env) (s : State) (rel : Relevant) (sch : Sched Tx) :
    (sch.foldReduce s.doscSpeed (speedStep env s rel) max).toOption =
    (Outcome.foldlM' (speedStep env s rel) s.doscSpeed sch.items).toOption :=
  foldReduce_max (speedStep env s rel) (speedStep_max env s rel) s.doscSpeed sch

/-- the whole batch: however the two parallel passes are cut up, the batch is accepted exactly when the sequential
    model accepts it, with the same resulting state -/
theorem C03_any_schedule (env : Env) (s : State) (txs : List Tx) (gf : Header) (schedValid schedSpeed : Sched Tx)
    (hv : schedValid.items = txs) (hs : schedSpeed.items = txs) :
    (applyBatchSched env s txs gf schedValid schedSpeed).toOption = (applyBatch env s txs gf).toOption := by
  unfold applyBatchSched applyBatch
  refine Outcome.toOption_bind_congr rfl fun rel => ?_
  refine Outcome.toOption_bind_congr rfl fun newStakes => ?_
  refine Outcome.toOption_bind_congr ?_ fun _ => ?_
  · rw [C03_sched_forEach, hv]
  refine Outcome.toOption_bind_congr ?_ fun newSpeed => rfl
  rw [C03_sched_speed, hs]
  rfl

/-- two runs of the same batch under different schedules agree -/
theorem C03_schedules_agree (env : Env) (s : State) (txs : List Tx) (gf : Header) (v₁ s₁ v₂ s₂ : Sched Tx)
    (h₁ : v₁.items = txs) (h₂ : s₁.items = txs) (h₃ : v₂.items = txs) (h₄ : s₂.items = txs) :
    (applyBatchSched env s txs gf v₁ s₁).toOption = (applyBatchSched env s txs gf v₂ s₂).toOption := by
  rw [C03_any_schedule env s txs gf v₁ s₁ h₁ h₂, C03_any_schedule env s txs gf v₂ s₂ h₃ h₄]

/-- the identity matters: a reduction whose segments start from something other than the state's recorded speed can
    report a different speed — here segments starting from 7 on a state whose speed is 3, with no mint at all -/
theorem C03_sched_unit_matters :
    (Sched.foldReduce (α := Nat) 7 (fun b _ => Outcome.ok b) max (.join (.seg []) (.seg []))).toOption ≠
    (Outcome.foldlM' (fun (b : Nat) (_ : Nat) => Outcome.ok b) 3 []).toOption := by
  decide +kernel


example : (Sched.join (.seg [1]) (.join (.seg []) (.seg [2, 3]))).items = [1, 2, 3] := rfl
example : (Sched.join (.join (.seg [1, 2]) (.seg [3])) (.seg [])).items = [1, 2, 3] := rfl

end Mel

#print axioms Mel.C03_sched_forEach
#print axioms Mel.C03_sched_forEach_isOk
#print axioms Mel.C03_sched_speed
#print axioms Mel.C03_any_schedule
#print axioms Mel.C03_schedules_agree
#print axioms Mel.C03_sched_unit_matters

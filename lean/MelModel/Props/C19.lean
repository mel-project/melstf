/-
  C19 — Faucets: never on mainnet, and at most once anywhere.
-/
import MelModel.Chain
import MelModel.Lemmas.Faucet
namespace Mel

/-- the de-duplication marker of a faucet transaction (`faucet_dedup_pseudocoin`) -/
def markerOf (env : Env) (tx : Tx) : CoinID := { txhash := env.fdp tx.hash, index := 0 }

/-- on mainnet an accepted batch contains no faucet transaction other than the grandfathered one -/
theorem C19_mainnet (env : Env) (s s' : State) (txs : List Tx) (fb : Header) (hnet : s.network = .mainnet)
    (h : applyBatch env s txs fb = .ok s') (tx : Tx) (htx : tx ∈ txs) (hk : tx.kind = .faucet) :
    env.isGrandfathered tx.hash = true :=
  (applyBatch_frame h).mainnet tx htx hk hnet

/-- a faucet transaction whose marker is already in the coin set makes the batch fail -/
theorem C19_duplicate_rejected (env : Env) (s : State) (txs : List Tx) (fb : Header) (tx : Tx) (htx : tx ∈ txs)
    (hk : tx.kind = .faucet) (hm : (s.coins.getCoin (markerOf env tx)).isSome)
    (hsep : ∀ t ∈ txs, markerOf env tx ∉ t.inputs) :
    ∀ s', applyBatch env s txs fb ≠ .ok s' := by
  intro s' h
  obtain ⟨rel, ns, next, _, _, _, hc, _⟩ := applyBatch_ok h
  rw [createNextState_eq] at hc
  -- the marker is still there when the step of `tx` asks for it to be absent
  obtain ⟨l₁, l₂, rfl⟩ := List.append_of_mem htx
  obtain ⟨mid, mid', h1, h2, _⟩ := Outcome.foldlM'_split_of_ok hc
  have hp : ((({ s with coins := (outputIds (l₁ ++ tx :: l₂)).foldl (insStep rel s.tip906) s.coins } : State)).coins.getCoin
      (markerOf env tx)).isSome := insFold_present hm
  have hkeep : mid.coins.getCoin (markerOf env tx) = _ :=
    getCoin_nextFold_keep h1 (fun t ht => hsep t (by simp [ht])) hp
  have hnone : mid.coins.getCoin (markerOf env tx) = none := ((nextStep_iff.mp h2).2.1 hk).1
  rw [hkeep] at hnone
  rw [hnone] at hp
  cases hp

/-- a batch of one well-formed, input-less faucet transaction passes every phase before `createNextState` -/
theorem applyBatch_single_faucet (env : Env) (s : State) (tx : Tx) (fb : Header) (hk : tx.kind = .faucet)
    (hwf : tx.isWellFormed = true ∧ tx.melTotalFits = true) (hcw : tx.covWeightsFit = true) (hin : tx.inputs = []) :
    ∃ rel, applyBatch env s [tx] fb =
      (createNextState env s [tx] rel s.tip906).bind fun next => .ok (finishBatch next s.doscSpeed []) := by
  have h1 : ∃ rel, loadRelevantCoins s [tx] = .ok rel := by
    simp [loadRelevantCoins, hwf.1, hwf.2, hcw, hin, Outcome.foldlM', Outcome.bind]
  obtain ⟨rel, h1⟩ := h1
  have h2 : loadStakeInfo s [tx] = .ok [] := by
    simp [loadStakeInfo, Outcome.foldlM', hk]
  have h3 : ∀ ns, checkTxValidity env s (lastHeaderOf s fb) tx rel ns = .ok () := by
    intro ns
    simp [checkTxValidity, hin, Outcome.foldlM', Outcome.bind, checkBalanced, hk]
  refine ⟨rel, ?_⟩
  unfold applyBatch
  simp [h1, h2, h3, Outcome.bind, Outcome.forM', Outcome.foldlM', hk, finishBatch]

/-- … and when that is the batch's only defect (the single-transaction case) the error is `DuplicateTx` -/
theorem C19_duplicate_error (env : Env) (s : State) (tx : Tx) (fb : Header)
    (hk : tx.kind = .faucet) (hm : (s.coins.getCoin (markerOf env tx)).isSome)
    (hnet : s.network ≠ .mainnet ∨ env.isGrandfathered tx.hash = true)
    (hwf : tx.isWellFormed = true ∧ tx.melTotalFits = true) (hcw : tx.covWeightsFit = true) (hin : tx.inputs = []) :
    applyBatch env s [tx] fb = .reject .duplicateTx := by
  obtain ⟨rel, e⟩ := applyBatch_single_faucet env s tx fb hk hwf hcw hin
  have hst : createNextState env s [tx] rel s.tip906 = .reject .duplicateTx := by
    have hf : handleFaucetTx env { s with coins := (outputIds [tx]).foldl (insStep rel s.tip906) s.coins } tx
        = .reject .duplicateTx := by
      have hp : (((outputIds [tx]).foldl (insStep rel s.tip906) s.coins).getCoin
          { txhash := env.fdp tx.hash, index := 0 }).isSome := insFold_present hm
      unfold handleFaucetTx
      simp only
      rw [if_neg, if_pos hp]
      rcases hnet with hn | hg
      · simp [hn]
      · simp [hg]
    rw [createNextState_eq]
    by_cases hdup : (s.txs.any fun t => decide (t.hash = tx.hash)) = true
    · simp only [Outcome.foldlM', nextStep, if_pos hdup]
    · simp only [Outcome.foldlM', nextStep, if_neg hdup, if_pos hk, hf, Outcome.bind]
  rw [e, hst]
  rfl

/-- The same faucet transaction twice in one batch is rejected.  The `DuplicateTx` guard of `create_next_state`
    already rejects it, as it does any two transactions with one hash (`C03_no_same_hash_twice`,
    `C19_once_per_block`): `hk`, `hng`, `hsep` (the marker mechanism) are not used. -/
theorem C19_same_batch (env : Env) (s : State) (txs : List Tx) (fb : Header) (tx : Tx)
    (hk : tx.kind = .faucet) (hng : env.isGrandfathered tx.hash = false) (htwice : (txs.filter (· = tx)).length ≥ 2)
    (hsep : ∀ t ∈ txs, markerOf env tx ∉ t.inputs) :
    ∀ s', applyBatch env s txs fb ≠ .ok s' := by
  intro s' h
  obtain ⟨l₁, l₂, rfl, hm2⟩ := twice_split htwice
  have hnd := (applyBatch_frame h).hashes
  rw [List.map_append, List.map_cons, List.nodup_append] at hnd
  exact (List.nodup_cons.mp hnd.2.1).1 (List.mem_map_of_mem hm2)

/-- an accepted (non-grandfathered) faucet transaction leaves its marker in the coin set -/
theorem C19_marker_inserted (env : Env) (s s' : State) (txs : List Tx) (fb : Header)
    (h : applyBatch env s txs fb = .ok s') (tx : Tx) (htx : tx ∈ txs) (hk : tx.kind = .faucet)
    (hng : env.isGrandfathered tx.hash = false) (hsep : ∀ t ∈ txs, markerOf env tx ∉ t.inputs) :
    (s'.coins.getCoin (markerOf env tx)).isSome := by
  have : s'.coins.getCoin (markerOf env tx) = some faucetMarker := applyBatch_marker h htx hk hng hsep
  rw [this]
  rfl

/-- a marker can never be spent: spending it would need a covenant hashing to the zero address -/
theorem C19_marker_unspendable (env : Env) (s s' : State) (txs : List Tx) (fb : Header)
    (h : applyBatch env s txs fb = .ok s') (m : CoinID) (c : CoinDataHeight)
    (hm : s.coins.getCoin m = some c) (hz : c.coinData.covhash = zeroHash)
    (hnz : ∀ t ∈ txs, zeroHash ∉ t.covHashes) (hnew : ∀ t ∈ txs, m.txhash ≠ t.hash) :
    s'.coins.getCoin m = some c := by
  obtain ⟨rel, ns, next, hrel, _, hv, hc, hco⟩ := applyBatch_ok h
  rw [createNextState_eq] at hc
  have hnotin : ∀ t ∈ txs, m ∉ t.inputs := by
    intro t ht hmi
    obtain ⟨coin, hcoin, hcov⟩ := checkTxValidity_input (hv t ht) hmi
    rcases loadRelevantCoins_get hrel hcoin with ⟨t', ht', heq⟩ | hs
    · exact hnew t' ht' heq
    · rw [hm] at hs
      cases hs
      exact hcov (by rw [hz]; exact findCovenant_none (hnz t ht))
  have h0 : ((outputIds txs).foldl (insStep rel s.tip906) s.coins).getCoin m = some c := by
    rw [insFold_other hnew]; exact hm
  rw [hco, getCoin_nextFold_keep hc hnotin (by rw [show _ = some c from h0]; rfl)]
  exact h0

/-- Finding K3/F11: the grandfathered transaction gets no marker: the faucet step leaves the state untouched for it.
    So the marker mechanism does not stop a replay of it.  Within one block the replay is stopped by the
    `DuplicateTx` guard of `create_next_state` (`C19_grandfathered_once_per_block`); in a later block — whose
    transaction list starts empty — nothing but the mainnet/grandfathered test and the marker lookup stands in its
    way. -/
theorem C19_grandfathered_no_marker (env : Env) (s : State) (tx : Tx)
    (hg : env.isGrandfathered tx.hash = true) (hm : s.coins.getCoin (markerOf env tx) = none) :
    handleFaucetTx env s tx = .ok s := by
  unfold handleFaucetTx
  have hm' : s.coins.getCoin { txhash := env.fdp tx.hash, index := 0 } = none := hm
  simp [hg, hm']

/-- At most once per block, for any transaction (faucet or not, grandfathered or not): if the block's
    transaction list already holds a transaction with the hash of `tx`, every batch containing `tx` fails -/
theorem C19_once_per_block (env : Env) (s : State) (txs : List Tx) (fb : Header) (tx : Tx) (htx : tx ∈ txs)
    (hdup : ∃ t ∈ s.txs, t.hash = tx.hash) :
    ∀ s', applyBatch env s txs fb ≠ .ok s' := by
  intro s' h
  obtain ⟨t, ht, e⟩ := hdup
  have := (applyBatch_frame h).freshTx tx htx
  rw [List.any_eq_true.mpr ⟨t, ht, by simpa using e⟩] at this
  cases this

/-- … in particular for the grandfathered faucet transaction, which leaves no marker
    (`C19_grandfathered_no_marker`) -/
theorem C19_grandfathered_once_per_block (env : Env) (s : State) (txs : List Tx) (fb : Header) (tx : Tx)
    (_hg : env.isGrandfathered tx.hash = true) (htx : tx ∈ txs) (hdup : ∃ t ∈ s.txs, t.hash = tx.hash) :
    ∀ s', applyBatch env s txs fb ≠ .ok s' :=
  C19_once_per_block env s txs fb tx htx hdup

/-- … and when that is the batch's only defect (a well-formed, input-less faucet transaction on its own) the
    error is `DuplicateTx`.  Unlike `C19_duplicate_error` this needs no hypothesis about the network or about
    grandfathering: the guard comes before the faucet step. -/
theorem C19_grandfathered_once_per_block_error (env : Env) (s : State) (tx : Tx) (fb : Header)
    (hk : tx.kind = .faucet) (hdup : ∃ t ∈ s.txs, t.hash = tx.hash)
    (hwf : tx.isWellFormed = true ∧ tx.melTotalFits = true) (hcw : tx.covWeightsFit = true) (hin : tx.inputs = []) :
    applyBatch env s [tx] fb = .reject .duplicateTx := by
  have hany : (s.txs.any fun t => decide (t.hash = tx.hash)) = true := by
    obtain ⟨t, ht, e⟩ := hdup
    exact List.any_eq_true.mpr ⟨t, ht, by simpa using e⟩
  obtain ⟨rel, e⟩ := applyBatch_single_faucet env s tx fb hk hwf hcw hin
  have hst : createNextState env s [tx] rel s.tip906 = .reject .duplicateTx := by
    rw [createNextState_eq]
    simp only [Outcome.foldlM', nextStep, if_pos hany]
  rw [e, hst]
  rfl

namespace C19Witness

/-- every faucet transaction is grandfathered -/
def env : Env := {
  vm := { hash := id, sigOk := fun _ _ _ => true },
  liqHash := id, fdp := fun h => 9 :: h, rewardId := fun _ => [], hdrHash := fun _ => [],
  powOk := fun _ _ _ _ => .invalid, isGrandfathered := fun _ => true,
  historyRoot := fun _ => [], coinsRoot := fun _ => [], txsRoot := fun _ _ => [],
  poolsRoot := fun _ => [], stakesRoot := fun _ => [] }

def s : State := {
  network := .mainnet, height := 10, history := [], coins := { coins := [], counts := [] },
  txs := [], feePool := 0, feeMultiplier := 0, tips := 0, doscSpeed := 0, pools := [], stakes := [] }

def g : Tx := {
  kind := .faucet, inputs := [], outputs := [(⟨[8], 5, .mel, []⟩ : CoinData)], fee := 0,
  covenants := [], data := [], sigs := [], hash := [3], rawLen := 0, covHashes := [] }

end C19Witness

open C19Witness in
/-- non-vacuity, on mainnet: the grandfathered faucet transaction is accepted once, leaves no
    marker, lands in the block's transaction list (the hypotheses of `C19_grandfathered_once_per_block` and of
    `C19_grandfathered_once_per_block_error` hold of the resulting state), and its second application to the
    same block — alone or twice in one batch — is rejected with `DuplicateTx` -/
theorem C19_grandfathered_once_per_block_nonvacuous :
    env.isGrandfathered g.hash = true ∧ g.kind = .faucet ∧ g.inputs = [] ∧
    (g.isWellFormed = true ∧ g.melTotalFits = true) ∧ g.covWeightsFit = true ∧
    applyBatch env s [g, g] default = .reject .duplicateTx ∧
    ∃ s₁, applyBatch env s [g] default = .ok s₁ ∧ s₁.coins.getCoin (markerOf env g) = none ∧
      (∃ t ∈ s₁.txs, t.hash = g.hash) ∧ applyBatch env s₁ [g] default = .reject .duplicateTx := by
  refine ⟨rfl, rfl, rfl, ⟨by decide, by decide⟩, by decide, Outcome.eq_reject (by decide +kernel), ?_⟩
  have h : ((applyBatch env s [g] default).okAnd fun s₁ =>
      decide (s₁.coins.getCoin (markerOf env g) = none) && s₁.txs.any (fun t => t.hash = g.hash)) = true := by
    decide +kernel
  obtain ⟨s₁, hs, h⟩ := Outcome.exists_of_okAnd h
  simp only [Bool.and_eq_true, decide_eq_true_eq, List.any_eq_true] at h
  obtain ⟨h1, t, ht, e⟩ := h
  have hdup : ∃ t ∈ s₁.txs, t.hash = g.hash := ⟨t, ht, e⟩
  exact ⟨s₁, hs, h1, hdup,
    C19_grandfathered_once_per_block_error env s₁ g default rfl hdup ⟨by decide, by decide⟩ (by decide) rfl⟩

end Mel

#print axioms Mel.C19_mainnet
#print axioms Mel.C19_duplicate_rejected
#print axioms Mel.C19_duplicate_error
#print axioms Mel.C19_same_batch
#print axioms Mel.C19_marker_inserted
#print axioms Mel.C19_marker_unspendable
#print axioms Mel.C19_grandfathered_no_marker
#print axioms Mel.C19_once_per_block
#print axioms Mel.C19_grandfathered_once_per_block
#print axioms Mel.C19_grandfathered_once_per_block_error
#print axioms Mel.C19_grandfathered_once_per_block_nonvacuous

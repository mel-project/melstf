/-
  C01 — the constants the property's statement (and the recorded deviations) fix, stated of the values regenerated
  from /repo's source (Generated/Tables.lean): the issuance rules the conservation theorems allow for: the legacy
  deposit window, the peg throttlers, the TIP-909 subsidy schedule, the nobody-owned liquidity of a new builtin pool,
  and the heights at which those rules switch on. The model is parametric in these constants: a changed constant
  breaks these theorems instead of being followed silently.
-/
import MelModel.Generated.Tables
namespace Mel
open Mel.Gen

theorem C01_pin_LEGACY_DEPOSIT_HEIGHT : LEGACY_DEPOSIT_HEIGHT = 978392 := rfl
theorem C01_pin_THROTTLER_902 : THROTTLER_902 = 200 := rfl
theorem C01_pin_THROTTLER_PRE : THROTTLER_PRE = 1000 := rfl
theorem C01_pin_SUBSIDY_LOG2 : SUBSIDY_LOG2 = 20 := rfl
theorem C01_pin_SUBSIDY_HALVING : SUBSIDY_HALVING = 1000000 := rfl
theorem C01_pin_SUBSIDY_ERG_SHIFT : SUBSIDY_ERG_SHIFT = 8 := rfl
theorem C01_pin_BUILTIN_LIQ_MULT : BUILTIN_LIQ_MULT = 1000 := rfl
theorem C01_pin_TIP_902_HEIGHT : TIP_902_HEIGHT = 180000 := rfl
theorem C01_pin_TIP_909_HEIGHT : TIP_909_HEIGHT = 950000 := rfl
theorem C01_pin_TIP_909A_HEIGHT : TIP_909A_HEIGHT = 1048000 := rfl

end Mel

#print axioms Mel.C01_pin_LEGACY_DEPOSIT_HEIGHT
#print axioms Mel.C01_pin_THROTTLER_902
#print axioms Mel.C01_pin_THROTTLER_PRE
#print axioms Mel.C01_pin_SUBSIDY_LOG2
#print axioms Mel.C01_pin_SUBSIDY_HALVING
#print axioms Mel.C01_pin_SUBSIDY_ERG_SHIFT
#print axioms Mel.C01_pin_BUILTIN_LIQ_MULT
#print axioms Mel.C01_pin_TIP_902_HEIGHT
#print axioms Mel.C01_pin_TIP_909_HEIGHT
#print axioms Mel.C01_pin_TIP_909A_HEIGHT

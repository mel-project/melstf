/-
  C17 over histories — the fee multiplier changes only when a block is sealed with a proposer action, by exactly
  `moveFeeMultiplier`; along every run of the chain it stays a u128 (never wraps), every block moves it by at most
  `max (m / 128) 2` in either direction, and a run whose blocks are all sealed without an action never changes it.
  (`Props/C17.lean` has the one-step statements `C17_closed_form`, `C17_no_wrap`, `C17_no_action`, `C17_action`;
  the run relations `RunTrace` / `BatchRun` — runs with their events exposed, runs inside one block — are in
  MelModel/Lemmas/MiscHistL.lean.)
-/
import MelModel.Chain
import MelModel.Props.C17
import MelModel.Props.C13Life
import MelModel.Props.Reach
import MelModel.Lemmas.MiscHistL
namespace Mel
open Mel.Gen Mel.MiscHistL

theorem C17_batch_keeps_multiplier (env : Env) (s s' : State) (txs : List Tx) (fb : Header)
    (h : applyBatch env s txs fb = .ok s') : s'.feeMultiplier = s.feeMultiplier :=
  (applyBatch_frame h).feeMultiplier

theorem C17_next_keeps_multiplier (env : Env) (ss : Sealed) (s' : State) (h : nextUnsealed env ss = .ok s') :
    s'.feeMultiplier = ss.st.feeMultiplier :=
  next_fm h

theorem C17_batches_keep_multiplier (env : Env) (s u : State) (h : BatchRun env s u) :
    u.feeMultiplier = s.feeMultiplier :=
  (batchRun_keeps h).1

/-- one block: a block opened in state `s`, filled by any number of accepted batches, sealed with the action
    `a` and followed by the opening of the next block: the next block's multiplier is `moveFeeMultiplier` of this
    block's (with this block's TIP-901 flag) when there is an action, and this block's when there is none -/
theorem C17_block_step (env : Env) (s u s' : State) (ss : Sealed) (a : Option ProposerAction)
    (hb : BatchRun env s u) (hs : sealState env u a = .ok ss) (hn : nextUnsealed env ss = .ok s') :
    s'.feeMultiplier =
      match a with
      | none => s.feeMultiplier
      | some act => moveFeeMultiplier s.feeMultiplier act.feeMultiplierDelta s.tip901 := by
  obtain ⟨e1, e2, e3, -⟩ := batchRun_keeps hb
  rw [C17_next_keeps_multiplier env ss s' hn]
  cases a with
  | none => exact (C17_no_action env u ss hs).trans e1
  | some act => rw [C17_action env u act ss hs, e1, show u.tip901 = s.tip901 from tipCondition_congr e2 e3 _]

theorem C17_block_step_action (env : Env) (s u s' : State) (ss : Sealed) (act : ProposerAction)
    (hb : BatchRun env s u) (hs : sealState env u (some act) = .ok ss) (hn : nextUnsealed env ss = .ok s') :
    s'.feeMultiplier = moveFeeMultiplier s.feeMultiplier act.feeMultiplierDelta s.tip901 :=
  C17_block_step env s u s' ss (some act) hb hs hn

theorem C17_block_step_no_action (env : Env) (s u s' : State) (ss : Sealed)
    (hb : BatchRun env s u) (hs : sealState env u none = .ok ss) (hn : nextUnsealed env ss = .ok s') :
    s'.feeMultiplier = s.feeMultiplier :=
  C17_block_step env s u s' ss none hb hs hn

theorem C17_step_u128 (env : Env) (s s' : State) (h : ChainStep env s s') (hm : s.feeMultiplier ≤ U128_MAX) :
    s'.feeMultiplier ≤ U128_MAX := by
  cases h with
  | batch hb => rw [(applyBatch_frame hb).feeMultiplier]; exact hm
  | @block ss a h1 h2 =>
    rw [next_fm h2, sealState_feeMultiplier h1]
    cases a with
    | none => exact hm
    | some act => exact move_le_u128 _ _ _ hm

/-- the per-block bound: a block step moves the multiplier by at most `max (m / 128) 2`, up or down
    (the delta being an `i8`, `DeltaIsI8`: it is one by typing in the implementation) -/
theorem C17_block_bound (env : Env) (s s' : State) (ss : Sealed) (a : Option ProposerAction)
    (hs : sealState env s a = .ok ss) (hn : nextUnsealed env ss = .ok s') (hm : s.feeMultiplier ≤ U128_MAX)
    /- needed (`C17_block_bound_needs_i8`): the model's delta is an unbounded integer -/
    (hδ : DeltaIsI8 a) :
    s'.feeMultiplier ≤ s.feeMultiplier + max (s.feeMultiplier / 128) 2 ∧
    s.feeMultiplier ≤ s'.feeMultiplier + max (s.feeMultiplier / 128) 2 := by
  rw [next_fm hn, sealState_feeMultiplier hs]
  cases a with
  | none => exact ⟨Nat.le_add_right _ _, Nat.le_add_right _ _⟩
  | some act =>
    obtain ⟨-, h2, h3⟩ := C17_no_wrap s.feeMultiplier act.feeMultiplierDelta s.tip901 hm (hδ act rfl)
    have hmm : maxMove s.feeMultiplier s.tip901 ≤ max (s.feeMultiplier / 128) 2 := by
      unfold maxMove
      split
      · exact Nat.le_refl _
      · exact Nat.le_max_left _ _
    exact ⟨Nat.le_trans h2 (Nat.add_le_add_left hmm _), Nat.le_trans h3 (Nat.add_le_add_left hmm _)⟩

/-- with a delta outside the range of an `i8` the movement exceeds the bound -/
theorem C17_block_bound_needs_i8 :
    ¬ (moveFeeMultiplier 1000 1000 true ≤ 1000 + max (1000 / 128) 2) := by decide

theorem C17_batch_bound (env : Env) (s s' : State) (txs : List Tx) (fb : Header)
    (h : applyBatch env s txs fb = .ok s') :
    s'.feeMultiplier ≤ s.feeMultiplier + max (s.feeMultiplier / 128) 2 ∧
    s.feeMultiplier ≤ s'.feeMultiplier + max (s.feeMultiplier / 128) 2 := by
  rw [(applyBatch_frame h).feeMultiplier]
  exact ⟨Nat.le_add_right _ _, Nat.le_add_right _ _⟩

/-- never wraps, over the whole history: along any run that starts with a multiplier that is a u128, the
    multiplier is a u128 in the state reached, and every block step taken from the state reached (hence: every
    block step of every run, a prefix of a run being a run) moves it by at most `max (m / 128) 2`, up or down -/
theorem C17_run_u128 (env : Env) (s s' : State) (hrun : ChainRun env s s') (hm : s.feeMultiplier ≤ U128_MAX) :
    s'.feeMultiplier ≤ U128_MAX ∧
    ∀ (a : Option ProposerAction) (ss : Sealed) (s'' : State),
      sealState env s' a = .ok ss → nextUnsealed env ss = .ok s'' → DeltaIsI8 a →
        s''.feeMultiplier ≤ s'.feeMultiplier + max (s'.feeMultiplier / 128) 2 ∧
        s'.feeMultiplier ≤ s''.feeMultiplier + max (s'.feeMultiplier / 128) 2 := by
  have h1 : s'.feeMultiplier ≤ U128_MAX :=
    hrun.invariant (P := fun x => x.feeMultiplier ≤ U128_MAX) (fun ih hb => C17_step_u128 env _ _ (.batch hb) ih)
      (fun ih hs hn => C17_step_u128 env _ _ (.block hs hn) ih) hm
  exact ⟨h1, fun a ss s'' hs hn hδ => C17_block_bound env s' s'' ss a hs hn h1 hδ⟩

/-- … in particular in every state reachable from a genesis configuration whose initial multiplier is a u128 -/
theorem C17_reachable_u128 (env : Env) (cfg : GenesisConfig) (s : State)
    (hrun : ChainRun env (genesisState cfg) s) (hm : cfg.initFeeMultiplier ≤ U128_MAX) :
    s.feeMultiplier ≤ U128_MAX :=
  (C17_run_u128 env _ s hrun hm).1

/-- the same over a trace: every block event of the trace, whatever its position, moved the multiplier within the
    bound, and the multiplier was a u128 before and after it -/
theorem C17_trace_bound (env : Env) (s s' : State) (tr : List Event) (hrun : RunTrace env s tr s')
    (hm : s.feeMultiplier ≤ U128_MAX) (a : Option ProposerAction) (ha : Event.block a ∈ tr) (hδ : DeltaIsI8 a) :
    ∃ m m', ChainRun env s m ∧ EvStep env m (.block a) m' ∧ ChainRun env m' s' ∧
      m.feeMultiplier ≤ U128_MAX ∧ m'.feeMultiplier ≤ U128_MAX ∧
      m'.feeMultiplier ≤ m.feeMultiplier + max (m.feeMultiplier / 128) 2 ∧
      m.feeMultiplier ≤ m'.feeMultiplier + max (m.feeMultiplier / 128) 2 := by
  obtain ⟨m, m', h1, h2, h3⟩ := RunTrace.mem_split hrun ha
  obtain ⟨hmU, hb⟩ := C17_run_u128 env s m h1 hm
  refine ⟨m, m', h1, h2, h3, hmU, C17_step_u128 env m m' (EvStep.toStep h2) hmU, ?_⟩
  cases h2 with
  | block hs hn => exact hb a _ m' hs hn hδ

/-- frozen without actions: along a run whose blocks are all sealed without a proposer action the multiplier
    never changes -/
theorem C17_run_frozen_without_actions (env : Env) (s s' : State) (tr : List Event) (hrun : RunTrace env s tr s')
    (hnone : ∀ a, Event.block a ∈ tr → a = none) : s'.feeMultiplier = s.feeMultiplier := by
  induction hrun with
  | refl => rfl
  | @step m s' tr e _ hs ih =>
    have ih' := ih (fun a ha => hnone a (List.mem_append_left _ ha))
    cases hs with
    | batch hb => exact (applyBatch_frame hb).feeMultiplier.trans ih'
    | block h1 h2 =>
      have := hnone _ (List.mem_append_right _ (List.mem_singleton.mpr rfl))
      subst this
      rw [next_fm h2, C17_no_action env _ _ h1]
      exact ih'

/-- … put the other way round: if the multiplier at the end of a run differs from the one at the start, some block
    of the run was sealed with a proposer action (batches and action-free blocks contribute nothing) -/
theorem C17_run_changes_only_by_actions (env : Env) (s s' : State) (tr : List Event) (hrun : RunTrace env s tr s')
    (hne : s'.feeMultiplier ≠ s.feeMultiplier) : ∃ act, Event.block (some act) ∈ tr := by
  apply Classical.byContradiction
  intro hno
  apply hne
  apply C17_run_frozen_without_actions env s s' tr hrun
  intro a ha
  cases a with
  | none => rfl
  | some act => exact absurd ⟨act, ha⟩ hno

namespace C17HistWitness
open ReachWitness (env getOk eq_getOk)

def cfg : GenesisConfig :=
  { network := .custom02, initCoindata := ⟨[7], 5, .mel, []⟩, stakes := [], initFeePool := 0,
    initFeeMultiplier := 1000 }

def up : ProposerAction := { feeMultiplierDelta := 127, rewardDest := [6] }

def g : State := genesisState cfg
def ssA : Sealed := getOk (sealState env g (some up))
def sA : State := getOk (nextUnsealed env ssA)
def ssN : Sealed := getOk (sealState env g none)
def sN : State := getOk (nextUnsealed env ssN)

theorem oks : (sealState env g (some up)).isOk = true ∧ (nextUnsealed env ssA).isOk = true ∧
    (sealState env g none).isOk = true ∧ (nextUnsealed env ssN).isOk = true := by decide +kernel

theorem sealA_ok : sealState env g (some up) = .ok ssA := eq_getOk oks.1
theorem nextA_ok : nextUnsealed env ssA = .ok sA := eq_getOk oks.2.1
theorem sealN_ok : sealState env g none = .ok ssN := eq_getOk oks.2.2.1
theorem nextN_ok : nextUnsealed env ssN = .ok sN := eq_getOk oks.2.2.2
theorem batch_ok : applyBatch env g [] default = .ok g := rfl

theorem up_i8 : DeltaIsI8 (some up) := by
  intro act h; cases h; decide

end C17HistWitness

/-- non-vacuity of `C17_block_step` / `C17_block_bound` / `C17_run_u128`: a block (one empty batch) sealed with the
    action `+127` on a multiplier of 1000 opens the next block with 1000 + ⌊7 · 127 / 128⌋ = 1006; sealed without an
    action it opens it with 1000 -/
theorem C17_hist_nonvacuous :
    ∃ (env : Env) (s sA sN : State) (ssA ssN : Sealed) (act : ProposerAction),
      BatchRun env s s ∧ s.feeMultiplier ≤ U128_MAX ∧ DeltaIsI8 (some act) ∧
      sealState env s (some act) = .ok ssA ∧ nextUnsealed env ssA = .ok sA ∧
      sealState env s none = .ok ssN ∧ nextUnsealed env ssN = .ok sN ∧
      s.feeMultiplier = 1000 ∧ sA.feeMultiplier = 1006 ∧ sN.feeMultiplier = 1000 ∧
      RunTrace env s [.batch [] default, .block (some act)] sA ∧
      RunTrace env s [.batch [] default, .block none] sN := by
  open C17HistWitness in
  have hA := C17_block_step_action ReachWitness.env g g sA ssA up (.step (.refl _) batch_ok) sealA_ok nextA_ok
  have hN := C17_block_step_no_action ReachWitness.env g g sN ssN (.step (.refl _) batch_ok) sealN_ok nextN_ok
  refine ⟨ReachWitness.env, g, sA, sN, ssA, ssN, up, .step (.refl _) batch_ok,
    (by show 1000 ≤ U128_MAX; decide), up_i8, sealA_ok, nextA_ok, sealN_ok,
    nextN_ok, rfl, ?_, hN, ?_, ?_⟩
  · rw [hA]; decide
  · exact .step (.step (.refl _) (.batch batch_ok)) (.block sealA_ok nextA_ok)
  · exact .step (.step (.refl _) (.batch batch_ok)) (.block sealN_ok nextN_ok)

end Mel

#print axioms Mel.C17_batch_keeps_multiplier
#print axioms Mel.C17_next_keeps_multiplier
#print axioms Mel.C17_batches_keep_multiplier
#print axioms Mel.C17_block_step
#print axioms Mel.C17_block_step_action
#print axioms Mel.C17_block_step_no_action
#print axioms Mel.C17_step_u128
#print axioms Mel.C17_block_bound
#print axioms Mel.C17_block_bound_needs_i8
#print axioms Mel.C17_batch_bound
#print axioms Mel.C17_run_u128
#print axioms Mel.C17_reachable_u128
#print axioms Mel.C17_trace_bound
#print axioms Mel.C17_run_frozen_without_actions
#print axioms Mel.C17_run_changes_only_by_actions
#print axioms Mel.C17_hist_nonvacuous

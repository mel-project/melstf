/-
  C19, over histories — a (non-grandfathered) faucet transaction is never accepted a second time, however many
  batches and blocks lie in between: its de-duplication marker, once inserted, survives every accepted batch, every
  seal and every block opening, and while the marker exists the transaction is rejected.

  Domain separation enters as explicit hypotheses of the run (they are facts about keyed hashes, not about the state
  machine): no transaction of a later batch or block has a hash equal to the marker's id hash (otherwise its outputs
  or, at sealing, its rewritten pool-request outputs would land on the marker's slot), no covenant hashes to the zero
  address (so the marker cannot be spent), and the proposer-reward id of a block is not the marker's id.
-/
import MelModel.Chain
import MelModel.Props.C19
import MelModel.Lemmas.FLifeL
namespace Mel
open Mel.Gen

/-- a run of the chain that stays clear of the coin id `m`: no transaction applied on the way has `m.txhash` as its
    hash or carries a covenant hashing to the zero address, and no block's proposer-reward id is `m` -/
inductive RunClearOf (env : Env) (m : CoinID) : State → State → Prop
  | refl (s : State) : RunClearOf env m s s
  | batch {s x s' : State} {txs : List Tx} {fb : Header} : RunClearOf env m s x →
      (∀ t ∈ txs, t.hash ≠ m.txhash ∧ zeroHash ∉ t.covHashes) →
      applyBatch env x txs fb = .ok s' → RunClearOf env m s s'
  | block {s x s' : State} {ss : Sealed} {a : Option ProposerAction} : RunClearOf env m s x →
      (∀ t ∈ x.txs, t.hash ≠ m.txhash) → env.rewardId x.height ≠ m.txhash →
      sealState env x a = .ok ss → nextUnsealed env ss = .ok s' → RunClearOf env m s s'

/-- the marker coin written by `handle_faucet_tx` -/
def faucetMarkerCoin : CoinDataHeight :=
  { coinData := { denom := .mel, value := 0, additionalData := [], covhash := zeroHash }, height := 0 }

theorem C19_seal_keeps_coin (env : Env) (s : State) (a : Option ProposerAction) (ss : Sealed)
    (h : sealState env s a = .ok ss) (m : CoinID) (c : CoinDataHeight) (hm : s.coins.getCoin m = some c)
    (hclear : ∀ t ∈ s.txs, t.hash ≠ m.txhash) (hrew : env.rewardId s.height ≠ m.txhash) :
    ss.st.coins.getCoin m = some c := by
  rw [FLifeL.sealState_getCoin h hclear hrew]
  exact hm

theorem C19_next_keeps_coin (env : Env) (ss : Sealed) (s' : State) (h : nextUnsealed env ss = .ok s')
    (m : CoinID) : s'.coins.getCoin m = ss.st.coins.getCoin m :=
  nextUnsealed_getCoin h m

theorem C19_marker_forever (env : Env) (m : CoinID) (s s' : State) (hrun : RunClearOf env m s s')
    (hm : s.coins.getCoin m = some faucetMarkerCoin) : s'.coins.getCoin m = some faucetMarkerCoin := by
  induction hrun with
  | refl => exact hm
  | batch _ hclear hb ih =>
    exact C19_marker_unspendable env _ _ _ _ hb m faucetMarkerCoin ih rfl (fun t ht => (hclear t ht).2)
      (fun t ht e => (hclear t ht).1 e.symm)
  | block _ hclear hrew hs hn ih =>
    rw [C19_next_keeps_coin env _ _ hn m]
    exact C19_seal_keeps_coin env _ _ _ hs m faucetMarkerCoin ih hclear hrew

/-- no second acceptance, ever: after a batch containing the (non-grandfathered) faucet transaction `tx` has
    been accepted, no batch containing `tx` is accepted in any later state of the chain -/
theorem C19_never_again (env : Env) (s₀ s s' : State) (txs₀ : List Tx) (fb₀ : Header) (tx : Tx)
    (h₀ : applyBatch env s₀ txs₀ fb₀ = .ok s) (htx : tx ∈ txs₀) (hk : tx.kind = .faucet)
    (hng : env.isGrandfathered tx.hash = false) (hsep₀ : ∀ t ∈ txs₀, markerOf env tx ∉ t.inputs)
    (hrun : RunClearOf env (markerOf env tx) s s')
    (txs : List Tx) (fb : Header) (htx' : tx ∈ txs) (hsep : ∀ t ∈ txs, markerOf env tx ∉ t.inputs) :
    ∀ s'', applyBatch env s' txs fb ≠ .ok s'' := by
  have hm : s.coins.getCoin (markerOf env tx) = some faucetMarkerCoin :=
    FLifeL.applyBatch_marker h₀ htx hk hng hsep₀
  have hm' := C19_marker_forever env (markerOf env tx) s s' hrun hm
  exact C19_duplicate_rejected env s' txs fb tx htx' hk (by rw [hm']; rfl) hsep

/-- … in particular the transaction by itself is rejected with `DuplicateTx` -/
theorem C19_never_again_error (env : Env) (s₀ s s' : State) (txs₀ : List Tx) (fb₀ fb : Header) (tx : Tx)
    (h₀ : applyBatch env s₀ txs₀ fb₀ = .ok s) (htx : tx ∈ txs₀) (hk : tx.kind = .faucet)
    (hng : env.isGrandfathered tx.hash = false) (hsep₀ : ∀ t ∈ txs₀, markerOf env tx ∉ t.inputs)
    (hrun : RunClearOf env (markerOf env tx) s s')
    (hnet : s'.network ≠ .mainnet) (hwf : tx.isWellFormed = true ∧ tx.melTotalFits = true) (hin : tx.inputs = []) :
    applyBatch env s' [tx] fb = .reject .duplicateTx := by
  have hm : s.coins.getCoin (markerOf env tx) = some faucetMarkerCoin :=
    FLifeL.applyBatch_marker h₀ htx hk hng hsep₀
  have hm' := C19_marker_forever env (markerOf env tx) s s' hrun hm
  -- the covenant weights fit: the transaction has been accepted once (`h₀`), so it passed `loadRelevantCoins`
  have hcw : tx.covWeightsFit = true := FLifeL.applyBatch_covWeightsFit h₀ htx
  exact C19_duplicate_error env s' tx fb hk (by rw [hm']; rfl) (.inl hnet) hwf hcw hin

/-- non-vacuity: a run with a batch and a block after the faucet's batch exists and meets the hypotheses -/
theorem C19_never_again_nonvacuous :
    ∃ (env : Env) (s₀ s s' : State) (tx : Tx) (fb : Header),
      applyBatch env s₀ [tx] fb = .ok s ∧ tx.kind = .faucet ∧ env.isGrandfathered tx.hash = false ∧
      RunClearOf env (markerOf env tx) s s' ∧ s.height < s'.height := by
  open FLifeL.Witness in
  refine ⟨env, s0, s1, s2, t, default, batch_ok, rfl, rfl, ?_, heights⟩
  refine .block (.batch (.refl s1) ?_ batch2_ok) s1b_txs (by decide) seal_ok next_ok
  intro x hx
  cases List.mem_singleton.1 hx
  decide

end Mel

#print axioms Mel.C19_seal_keeps_coin
#print axioms Mel.C19_next_keeps_coin
#print axioms Mel.C19_marker_forever
#print axioms Mel.C19_never_again
#print axioms Mel.C19_never_again_error
#print axioms Mel.C19_never_again_nonvacuous

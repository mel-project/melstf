/-
  C09 — totality under the property's own premise: a per-denomination supply bound.

  Props/C09.lean, C09Seal.lean, C09Reach.lean prove that applying and sealing never crash under amount hypotheses that
  are not stated in terms of supply (`ApplyPre.bounded`: all coins of all denominations plus all outputs of the batch;
  `SealBounds.melInflowBound`: the first MEL output of every transaction of the block, whether its coin still exists or
  not; `SealBounds.reserveBound`, `feeBound`).  Here the premise is `supply s d ≤ S` (`supply`: SupplyDefs.lean —
  unspent coins + pool reserves, plus for MEL the fee pool and the tips).

  Sealing (fully supply-based).  The requests a seal settles are backed by coins of the state being sealed
  (`C09_swap_requests_backed`, `C09_deposit_requests_backed`, `C09_withdraw_requests_backed`), the requests are
  distinct transactions, so the MEL paid into the MEL/SYM pool by the swaps and the deposits of one block is at most
  the MEL held in coins (`C09_mel_inflow_backed`).  Fee pool, tips and the MEL/SYM reserve are summands of the MEL
  supply.  Hence `C09_seal_ok_supply`: sealing a `ReachableSup env S` state with `supply s .mel ≤ S` succeeds for every
  `S ≤ sealSupplyCap = u128::MAX − 2^125 − u128::MAX/200` (about 0.87·2^128; in particular for 2^127, the bound of the
  property, and for 2^124).  The two deductions are what a seal may add to the MEL/SYM reserve out of nothing before
  the TIP-909 subsidy moves part of it into the fee pool with an unchecked `+=`: a builtin pool made afresh (at most
  2^125; really 10^9) and the peg adjustment (at most u128::MAX/200).
  * `supply s .mel ≤ S` stands for `melInflow ≤ 2^124`, `reserve ≤ 2^125` and `feePool + tips + 2^21 ≤ 2^127` of
    `SealBounds` (the `2^21` there is not needed: the subsidy is paid out of the reserve).
  * a MEL supply above the cap can crash the seal: `C09_seal_supply_needed` (fee pool + tips ≈ 2^128: the proposer
    reward `base_fees + tips` overflows), `C09_seal_supply_needed_subsidy` (fee pool = u128::MAX: `fee_pool += mel`),
    `C01_seal_unbounded_counterexample` (Props/C01Hist.lean: amounts beyond a u128 make the settlement create value),
    `C09_swap_needs_u128` (Props/C09Seal.lean).

  Applying (per-denomination, but not purely supply-based — and it cannot be).  The one amount-dependent crash site of
  `apply_tx_batch` is the sum of the spent coins of one transaction in one denomination (`in_coins`, unchecked `+`).
  The spent coins are distinct and are coins of the state or coins created by the batch, so the sum is at most
  `coinsTotal s.coins d + batchOutputs txs d` (`C09_inputs_bound`).  The first summand is bounded by the supply; the
  second is not: a batch may create coins and spend them again, and faucet transactions create coins out of nothing.
  `C09_apply_supply_insufficient` is a counterexample to "supply bound on the state + well-formedness of every
  transaction (≤ 255 outputs of ≤ 2^120 each) ⇒ no crash": a genesis state with MEL supply exactly 2^127, a faucet
  transaction with 128 outputs of 2^120 MEL, and a transaction spending the initial coin and those 128 coins:
  `in_coins` overflows.  The crash comes before the rejection of faucet transactions on mainnet:
  `C09_apply_supply_insufficient_mainnet`.  Hence the hypothesis `hbatch : ∀ d, S + batchOutputs txs d ≤ U128_MAX`
  (only for batches all of whose transactions are well-formed) of `C09_apply_total_supply`; it is per denomination
  and implied by `ApplyPre.bounded` (`C09_bounded_imp`).  For a single transaction it follows from well-formedness
  when `S < 2^120` (`C09_apply_one_total_supply`).
-/
import MelModel.Props.C09Reach
import MelModel.Props.C01Hist
import MelModel.Lemmas.SupplyBoundL
namespace Mel
open Mel.Gen


/-- the largest MEL supply for which sealing is proved total: below `u128::MAX` there must be room for a builtin pool
    made afresh (`2^125` bounds its reserve) and for the peg adjustment (at most `u128::MAX / 200`) -/
def sealSupplyCap : Nat := U128_MAX - 2 ^ 125 - U128_MAX / 200

theorem sealSupplyCap_facts :
    2 ^ 127 ≤ sealSupplyCap ∧ sealSupplyCap + 2 ^ 125 + U128_MAX / 200 = U128_MAX ∧ sealSupplyCap < 2 ^ 128 := by
  decide

/-- what is assumed of a state being sealed: the MEL supply is at most `S`, and the height is below the point where
    the subsidy shift amount overflows (in the place of `SealBounds` of Props/C09Reach.lean) -/
structure SupplyBounds (S : Nat) (s : State) : Prop where
  melSupply : supply s .mel ≤ S
  height : s.height < TIP_909_HEIGHT + 128 * SUBSIDY_HALVING

/-- reachable, every sealed block having respected the supply bound `S` (`ReachableB` of Props/C09Reach.lean with
    `SupplyBounds` for `SealBounds`) -/
inductive ReachableSup (env : Env) (S : Nat) : State → Prop
  | genesis (cfg : GenesisConfig) : ReachableSup env S (genesisState cfg)
  | batch {s s' : State} {txs : List Tx} {fb : Header} :
      ReachableSup env S s → BatchFresh s txs → MarkerFresh env s txs → applyBatch env s txs fb = .ok s' →
      ReachableSup env S s'
  | block {s s' : State} {ss : Sealed} {a : Option ProposerAction} :
      ReachableSup env S s → RewardFresh env s → SupplyBounds S s → sealState env s a = .ok ss →
      nextUnsealed env ss = .ok s' → ReachableSup env S s'

/-- the instance for the bound of the property: no sealed state's MEL supply exceeded 2^127 -/
abbrev ReachableB' (env : Env) : State → Prop := ReachableSup env (2 ^ 127)

theorem SupplyBounds.mono {S S' : Nat} {s : State} (h : S ≤ S') (hb : SupplyBounds S s) : SupplyBounds S' s :=
  ⟨Nat.le_trans hb.melSupply h, hb.height⟩

theorem ReachableSup.mono {env : Env} {S S' : Nat} {s : State} (hS : S ≤ S') (h : ReachableSup env S s) :
    ReachableSup env S' s := by
  induction h with
  | genesis cfg => exact .genesis cfg
  | batch _ hf hm hb ih => exact .batch ih hf hm hb
  | block _ hr hbd hs hn ih => exact .block ih hr (hbd.mono hS) hs hn

theorem ReachableSup.sep {env : Env} {S : Nat} {s : State} (h : ReachableSup env S s) : ReachableSep env s := by
  induction h with
  | genesis cfg => exact .genesis cfg
  | batch _ hf hm hb ih => exact .batch ih hf hm hb
  | block _ hr _ hs hn ih => exact .block ih hr hs hn

theorem ReachableSup.reachable {env : Env} {S : Nat} {s : State} (h : ReachableSup env S s) : Reachable env s :=
  h.sep.reachable

theorem ReachableSup.inv {env : Env} {S : Nat} {s : State} (h : ReachableSup env S s) : Inv s :=
  (reachable_inv_slots env s h.sep).1

theorem ReachableSup.faithful {env : Env} {S : Nat} {s : State} (h : ReachableSup env S s) : Faithful s :=
  C01_reachable_faithful env s h.sep


/-- Swap requests are backed: a swap request selected when `s` is sealed (the selector runs on
    `create_builtins(s)`, same coins) has its coin in `s.coins`, with the value and the denomination of the
    transaction's first output -/
theorem C09_swap_requests_backed (env : Env) (s : State) (h : ReachableSep env s) (tx : Tx) (htx : tx ∈ s.txs)
    (hreq : isSwapRequest (createBuiltins s) tx = true) :
    tx.kind = .swap ∧ ∃ k o rest c, canonicalPoolKey tx.data = some k ∧ tx.outputs = o :: rest ∧
      s.coins.getCoin ⟨tx.hash, 0⟩ = some c ∧ c.coinData.value = o.value ∧ c.coinData.denom = o.denom :=
  let ⟨hk, k, o, rest, c, hck, ho, hc, hv, hd, _⟩ :=
    BackL.swapRequest_backed (st := createBuiltins s) (C01_reachable_faithful env s h tx htx) rfl hreq
  ⟨hk, k, o, rest, c, hck, ho, hc, hv, hd⟩

/-- Deposit requests are backed: a deposit request selected after the swap phase has both its coins in `s.coins`
    (the swap phase rewrites coins of swap transactions only), with the values of the transaction's first two outputs
    and the two sides of the pool as denominations -/
theorem C09_deposit_requests_backed (env : Env) (s s1 : State) (h : ReachableSep env s)
    (h1 : processSwaps (createBuiltins s) = .ok s1) (tx : Tx) (htx : tx ∈ s.txs)
    (hreq : isDepositRequest s1 tx = true) :
    tx.kind = .liqDeposit ∧ ∃ k o0 o1 rest c0 c1, canonicalPoolKey tx.data = some k ∧
      tx.outputs = o0 :: o1 :: rest ∧
      s.coins.getCoin ⟨tx.hash, 0⟩ = some c0 ∧ c0.coinData.value = o0.value ∧ c0.coinData.denom = k.left ∧
      s.coins.getCoin ⟨tx.hash, 1⟩ = some c1 ∧ c1.coinData.value = o1.value ∧ c1.coinData.denom = k.right := by
  have hn := ReachL.nodup_hashes_of_pairwise (sortedTxs_pairwise (reachable_inv_slots env s h).1.sorted)
  have hkd : tx.kind = .liqDeposit := (isDepositRequest_iff.mp hreq).1
  exact BackL.depositRequest_backed (C01_reachable_faithful env s h tx htx)
    (processSwaps_keeps_others h1 hn tx htx (by rw [hkd]; decide)) hreq

/-- Withdrawal requests are backed: a withdrawal request selected after the swap and the deposit phases has its
    coin in `s.coins`, with the value of the transaction's only output, in the pool's liquidity token -/
theorem C09_withdraw_requests_backed (env : Env) (s s1 s2 : State) (h : ReachableSep env s)
    (h1 : processSwaps (createBuiltins s) = .ok s1) (h2 : processDeposits env s1 = .ok s2)
    (tx : Tx) (htx : tx ∈ s.txs) (hreq : isWithdrawRequest env s2 tx = true) :
    tx.kind = .liqWithdraw ∧ ∃ k o0 c0, canonicalPoolKey tx.data = some k ∧ tx.outputs = [o0] ∧
      s.coins.getCoin ⟨tx.hash, 0⟩ = some c0 ∧ c0.coinData.value = o0.value ∧
      c0.coinData.denom = liqTokenDenom env k := by
  have hn := ReachL.nodup_hashes_of_pairwise (sortedTxs_pairwise (reachable_inv_slots env s h).1.sorted)
  have hkw : tx.kind = .liqWithdraw := (isWithdrawRequest_iff.mp hreq).1
  have htxs1 : s1.txs = s.txs := (processSwaps_frame h1).txs
  exact BackL.withdrawRequest_backed (C01_reachable_faithful env s h tx htx)
    ((processDeposits_keeps_others h2 (htxs1 ▸ hn) tx (htxs1 ▸ htx) (by rw [hkw]; decide) 0).trans
      (processSwaps_keeps_others h1 hn tx htx (by rw [hkw]; decide) 0)) hreq

/-- The MEL paid into the MEL/SYM pool by the requests of one block is held in coins: what the selected swap
    requests pay in (`swapMelIn`) plus what the selected deposit requests pay in (`depMelIn`) — distinct transactions,
    each backed by its own MEL coin — is at most the MEL held in unspent coins.  (`melInflow s.txs`, which
    `SealBounds` bounds instead, also counts transactions whose first output has been spent again.) -/
theorem C09_mel_inflow_backed (env : Env) (s s1 : State) (h : ReachableSep env s)
    (h1 : processSwaps (createBuiltins s) = .ok s1) :
    SupplyBoundL.swapMelIn (createBuiltins s) + SupplyBoundL.depMelIn s1 ≤ coinsTotal s.coins .mel :=
  let hi := (reachable_inv_slots env s h).1
  SupplyBoundL.inflow_le hi.coinKeys (ReachL.nodup_hashes_of_pairwise (sortedTxs_pairwise hi.sorted))
    (C01_reachable_faithful env s h) h1

/-- how `feeBound` and `reserveBound` of `SealBounds` follow from the supply premise -/
theorem C09_supply_mel_parts (s : State) (p : PoolState) (hp : s.pools.get poolMelSym = some p) :
    coinsTotal s.coins .mel + p.lefts + s.feePool + s.tips ≤ supply s .mel := by
  have := SupplyBoundL.melSym_reserve_le_poolsTotal hp
  rw [SupplyBoundL.supply_mel_split]
  omega


theorem seal_ok_of_supply (env : Env) (s : State) (a : Option ProposerAction) (S : Nat) (hsep : ReachableSep env s)
    (hsane : ∀ k p, s.pools.get k = some p → p.liqs ≠ 0 → 0 < p.lefts ∧ 0 < p.rights)
    (hcap : S ≤ sealSupplyCap) (hb : SupplyBounds S s) :
    ∃ ss, sealState env s a = .ok ss ∧ PoolsOk s.tip902 ss.st.pools := by
  obtain ⟨hi, hsl⟩ := reachable_inv_slots env s hsep
  have hc : S + 2 ^ 125 + U128_MAX / 200 ≤ U128_MAX := by
    have := sealSupplyCap_facts.2.1
    omega
  exact SupplyBoundL.sealState_ok_supply env s a S hi.counts (slots_faithful hsl)
    (ReachL.nodup_hashes_of_pairwise (sortedTxs_pairwise hi.sorted)) hsane hi.coinKeys
    (C01_reachable_faithful env s hsep) hb.melSupply hc hb.height

theorem reachableSup_poolsInv {env : Env} {S : Nat} {s : State} (hcap : S ≤ sealSupplyCap)
    (h : ReachableSup env S s) : PoolsInv s := by
  induction h with
  | genesis cfg =>
    exact ⟨fun k p hg => (nomatch hg), fun hpos => absurd hpos (Nat.lt_irrefl 0)⟩
  | batch _ _ _ hb ih => exact poolsInv_batch hb ih
  | @block s s' ss a hr _ hbd hs hn ih =>
    obtain ⟨ss', hs', hpo⟩ := seal_ok_of_supply env s a S hr.sep ih.sane hcap hbd
    cases Outcome.ok.inj (hs.symm.trans hs')
    exact poolsInv_block hs hn hpo

/-- Sealing a reachable state succeeds and prices every builtin pool that is due, under the supply premise, for
    every bound `S` up to `sealSupplyCap` (≥ 2^127). -/
theorem C09_seal_ok_supply {env : Env} {S : Nat} {s : State} (h : ReachableSup env S s) (hcap : S ≤ sealSupplyCap)
    (hb : SupplyBounds S s) (a : Option ProposerAction) :
    ∃ ss, sealState env s a = .ok ss ∧ PoolsOk s.tip902 ss.st.pools :=
  seal_ok_of_supply env s a S h.sep (reachableSup_poolsInv hcap h).sane hcap hb

/-- C09, sealing half, with the premise of the property: in a state reachable through blocks whose MEL supply
    never exceeded 2^127, sealing — with any proposer action or none — never crashes, as soon as the MEL supply of the
    state is at most 2^124 (a fortiori; `C09_seal_total_supply_127` has the sharp premise) -/
theorem C09_seal_total_supply {env : Env} {s : State} (h : ReachableB' env s) (hsup : supply s .mel ≤ 2 ^ 124)
    (hh : s.height < TIP_909_HEIGHT + 128 * SUBSIDY_HALVING) :
    ∀ a c, sealState env s a ≠ .crash c := fun a =>
  let ⟨_, hs, _⟩ := C09_seal_ok_supply h sealSupplyCap_facts.1
    ⟨Nat.le_trans hsup (Nat.pow_le_pow_right (by decide) (by decide)), hh⟩ a
  NoCrash.of_eq_ok hs

/-- … and with the bound of the property itself: MEL supply at most 2^127 -/
theorem C09_seal_total_supply_127 {env : Env} {s : State} (h : ReachableB' env s) (hsup : supply s .mel ≤ 2 ^ 127)
    (hh : s.height < TIP_909_HEIGHT + 128 * SUBSIDY_HALVING) :
    ∀ a c, sealState env s a ≠ .crash c := fun a =>
  let ⟨_, hs, _⟩ := C09_seal_ok_supply h sealSupplyCap_facts.1 ⟨hsup, hh⟩ a
  NoCrash.of_eq_ok hs

/-- a whole block step is total: seal, header, next block — and the new state is reachable again -/
theorem C09_block_total_supply {env : Env} {S : Nat} {s : State} (h : ReachableSup env S s)
    (hcap : S ≤ sealSupplyCap) (hb : SupplyBounds S s) (hr : RewardFresh env s) :
    ∀ a, ∃ ss s', sealState env s a = .ok ss ∧ nextUnsealed env ss = .ok s' ∧ ReachableSup env S s' := by
  intro a
  obtain ⟨ss, hs, _⟩ := C09_seal_ok_supply h hcap hb a
  obtain ⟨-, s', hn⟩ := reachable_header_ok env s a ss h.reachable hr hs
  exact ⟨ss, s', hs, hn, .block h hr hb hs hn⟩


/-- The spent coins of one transaction, per denomination: in a batch that `load_relevant_coins` accepts, what the
    inputs of one transaction are worth in denomination `d` is at most the coins of `d` in the state plus everything
    the outputs of the batch create in `d` -/
theorem C09_inputs_bound (s : State) (txs : List Tx) (rel : Relevant) (hload : loadRelevantCoins s txs = .ok rel)
    (tx : Tx) (htx : tx ∈ txs) (d : Denom) :
    (tx.inputs.map (SupplyBoundL.relValD rel d)).sum ≤ coinsTotal s.coins d + batchOutputs txs d :=
  SupplyBoundL.inputs_value_bound_d hload htx d

/-- `ApplyPre.bounded` (all denominations together) implies the per-denomination hypothesis -/
theorem C09_bounded_imp (s : State) (txs : List Tx)
    (hb : (s.coins.coins.map (·.2.coinData.value)).sum + ((txs.flatMap (·.outputs)).map (·.value)).sum ≤ U128_MAX)
    (d : Denom) : coinsTotal s.coins d + batchOutputs txs d ≤ U128_MAX :=
  SupplyBoundL.bounded_imp_d s txs hb d

theorem coinsTotal_le_supply (s : State) (d : Denom) : coinsTotal s.coins d ≤ supply s d := by
  unfold supply
  omega

/-- C09, apply half, per denomination: for a state reachable from a genesis configuration and any batch (with
    fresh hashes), `apply_tx_batch` returns the new state or a rejection, never a crash, when for every denomination
    the supply of the state is at most `S` and `S` plus what the batch's outputs create in that denomination fits a
    u128.  The statement is false without `hbatch` (`C09_apply_supply_insufficient`): the supply premise alone does
    not bound the coins a batch creates and spends again.  It is needed only for batches whose transactions are all
    well-formed (any other batch is rejected before any arithmetic). -/
theorem C09_apply_total_supply (env : Env) (s : State) (txs : List Tx) (fb : Header) (S : Nat)
    (hsep : ReachableSep env s) (hf : BatchFresh s txs)
    (hsupply : ∀ d, supply s d ≤ S)
    (hbatch : (∀ t ∈ txs, t.isWellFormed = true) → ∀ d, S + batchOutputs txs d ≤ U128_MAX)
    (powDifficulty : ∀ a b c d, env.powOk a b c d ≠ .invalid → c ≤ 100)
    (rewardFits : ∀ hdr, s.history.get (s.height - 1) = some hdr → ∀ a b d t, env.powOk a b d t ≠ .invalid →
      microergsIter s.height * maxDoscReward d hdr.doscSpeed / MICRO_CONVERTER ≤ U128_MAX) :
    ∀ c, applyBatch env s txs fb ≠ .crash c :=
  let hi := (reachable_inv_slots env s hsep).1
  SupplyBoundL.applyBatch_noCrash_d env s txs fb hi.counts hf.fresh hi.heights
    (fun hwf d => Nat.le_trans
      (Nat.add_le_add_right (Nat.le_trans (coinsTotal_le_supply s d) (hsupply d)) _) (hbatch hwf d))
    hi.speeds hi.historyBelow powDifficulty rewardFits

/-- the same with the coin totals instead of the supplies (weaker premise) -/
theorem C09_apply_total_coins (env : Env) (s : State) (txs : List Tx) (fb : Header)
    (hsep : ReachableSep env s) (hf : BatchFresh s txs)
    (hbounded : (∀ t ∈ txs, t.isWellFormed = true) → ∀ d, coinsTotal s.coins d + batchOutputs txs d ≤ U128_MAX)
    (powDifficulty : ∀ a b c d, env.powOk a b c d ≠ .invalid → c ≤ 100)
    (rewardFits : ∀ hdr, s.history.get (s.height - 1) = some hdr → ∀ a b d t, env.powOk a b d t ≠ .invalid →
      microergsIter s.height * maxDoscReward d hdr.doscSpeed / MICRO_CONVERTER ≤ U128_MAX) :
    ∀ c, applyBatch env s txs fb ≠ .crash c :=
  let hi := (reachable_inv_slots env s hsep).1
  SupplyBoundL.applyBatch_noCrash_d env s txs fb hi.counts hf.fresh hi.heights hbounded
    hi.speeds hi.historyBelow powDifficulty rewardFits

/-- what `is_well_formed` gives: the outputs of one transaction created in one denomination are worth at most
    255 · 2^120 < 2^128 (derived, not assumed) -/
theorem C09_wellFormed_outputs (tx : Tx) (h : tx.isWellFormed = true) (d : Denom) :
    outAll tx d ≤ 255 * MAX_COINVAL ∧ 255 * MAX_COINVAL < 2 ^ 128 :=
  ⟨SupplyBoundL.outAll_le_of_wellFormed h d, by decide⟩

/-- A single transaction (`apply_tx`): when no denomination's supply reaches 2^120 the amount premise is a
    consequence of well-formedness — nothing is assumed of the transaction -/
theorem C09_apply_one_total_supply (env : Env) (s : State) (tx : Tx) (fb : Header)
    (hsep : ReachableSep env s) (hf : BatchFresh s [tx])
    (hsupply : ∀ d, supply s d ≤ 2 ^ 120 - 1)
    (powDifficulty : ∀ a b c d, env.powOk a b c d ≠ .invalid → c ≤ 100)
    (rewardFits : ∀ hdr, s.history.get (s.height - 1) = some hdr → ∀ a b d t, env.powOk a b d t ≠ .invalid →
      microergsIter s.height * maxDoscReward d hdr.doscSpeed / MICRO_CONVERTER ≤ U128_MAX) :
    ∀ c, applyBatch env s [tx] fb ≠ .crash c := by
  refine C09_apply_total_supply env s [tx] fb (2 ^ 120 - 1) hsep hf hsupply ?_ powDifficulty rewardFits
  intro hwf d
  have h1 := SupplyBoundL.outAll_le_of_wellFormed (hwf tx List.mem_cons_self) d
  have h2 : batchOutputs [tx] d = outAll tx d := by simp [batchOutputs]
  rw [h2]
  have h3 : 2 ^ 120 - 1 + 255 * MAX_COINVAL ≤ U128_MAX := by decide
  omega


/-- C09 under the supply premise, both halves: in a state reachable through blocks that respected the bound `S`
    (`S ≤ sealSupplyCap`, e.g. `2^127` or `2^124`) and in which no denomination's supply exceeds `S`:
    any batch (with fresh hashes, and whose outputs leave room below a u128 — `hbatch`, see
    `C09_apply_total_supply`) is applied or rejected, never a crash; sealing with any proposer action or none
    succeeds, the next block opens, and its state is reachable in the same sense again.
    `powDifficulty` and `rewardFits` are the two premises about the MelPoW oracle of `ApplyPre`. -/
theorem C09_total_supply (env : Env) (S : Nat) (s : State) (h : ReachableSup env S s) (hcap : S ≤ sealSupplyCap)
    (hsupply : ∀ d, supply s d ≤ S)
    (hh : s.height < TIP_909_HEIGHT + 128 * SUBSIDY_HALVING)
    (hr : RewardFresh env s)
    (powDifficulty : ∀ a b c d, env.powOk a b c d ≠ .invalid → c ≤ 100)
    (rewardFits : ∀ hdr, s.history.get (s.height - 1) = some hdr → ∀ a b d t, env.powOk a b d t ≠ .invalid →
      microergsIter s.height * maxDoscReward d hdr.doscSpeed / MICRO_CONVERTER ≤ U128_MAX) :
    (∀ txs fb, BatchFresh s txs →
      ((∀ t ∈ txs, t.isWellFormed = true) → ∀ d, S + batchOutputs txs d ≤ U128_MAX) →
      ∀ c, applyBatch env s txs fb ≠ .crash c) ∧
    (∀ a c, sealState env s a ≠ .crash c) ∧
    (∀ a, ∃ ss s', sealState env s a = .ok ss ∧ nextUnsealed env ss = .ok s' ∧ ReachableSup env S s') :=
  have hb : SupplyBounds S s := ⟨hsupply .mel, hh⟩
  ⟨fun txs fb hf hbatch => C09_apply_total_supply env s txs fb S h.sep hf hsupply hbatch powDifficulty rewardFits,
    fun a => let ⟨_, hs, _⟩ := C09_seal_ok_supply h hcap hb a; NoCrash.of_eq_ok hs,
    C09_block_total_supply h hcap hb hr⟩

/-- the instance for the bound of the property -/
theorem C09_total_supply_127 (env : Env) (s : State) (h : ReachableB' env s)
    (hsupply : ∀ d, supply s d ≤ 2 ^ 127)
    (hh : s.height < TIP_909_HEIGHT + 128 * SUBSIDY_HALVING)
    (hr : RewardFresh env s)
    (powDifficulty : ∀ a b c d, env.powOk a b c d ≠ .invalid → c ≤ 100)
    (rewardFits : ∀ hdr, s.history.get (s.height - 1) = some hdr → ∀ a b d t, env.powOk a b d t ≠ .invalid →
      microergsIter s.height * maxDoscReward d hdr.doscSpeed / MICRO_CONVERTER ≤ U128_MAX) :
    (∀ txs fb, BatchFresh s txs →
      ((∀ t ∈ txs, t.isWellFormed = true) → ∀ d, 2 ^ 127 + batchOutputs txs d ≤ U128_MAX) →
      ∀ c, applyBatch env s txs fb ≠ .crash c) ∧
    (∀ a c, sealState env s a ≠ .crash c) ∧
    (∀ a, ∃ ss s', sealState env s a = .ok ss ∧ nextUnsealed env ss = .ok s' ∧ ReachableB' env s') :=
  C09_total_supply env (2 ^ 127) s h sealSupplyCap_facts.1 hsupply hh hr powDifficulty rewardFits


/-- the converse of the hypothesis of `C09_action_total`: when the proposer's reward does not fit a u128 the action
    panics (`base_fees + tips`, an unchecked `+`) -/
theorem C09_action_crash_of (env : Env) (s : State) (a : ProposerAction)
    (h : s.feePool / 65536 + s.tips > U128_MAX) :
    applyProposerAction env s a = .crash "state.rs: base_fees + tips overflow" := by
  unfold applyProposerAction collectProposerFee
  simp only
  have e : 2 ^ REWARD_SHIFT = 65536 := by decide
  rw [e, if_pos h]

theorem sealState_some_of_none (env : Env) (s : State) (a : ProposerAction) (ss : Sealed)
    (h : sealState env s none = .ok ss) :
    sealState env s (some a) = (applyProposerAction env ss.st a).bind fun s3 => .ok { st := s3, action := some a } := by
  unfold sealState at h ⊢
  cases hp : presealMelmint env s with
  | reject e => rw [hp] at h; cases h
  | crash c => rw [hp] at h; cases h
  | ok s1 =>
    rw [hp] at h
    simp only [Outcome.bind] at h ⊢
    split at h
    · cases h
    · rename_i hlen
      rw [if_neg hlen]
      cases h2 : (if s1.tip909 = true then applyTip909 s1 else Outcome.ok s1) with
      | reject e => rw [h2] at h; cases h
      | crash c => rw [h2] at h; cases h
      | ok s2 =>
        rw [h2] at h
        cases h
        rfl

namespace C09SupplyWitness
open ReachWitness (env cfg getOk eq_getOk)

/-- a state whose MEL supply sits in the fee pool and the tips and exceeds 2^127 (it is about 2^128) -/
def feeHeavy : State := { genesisState cfg with feePool := 65536, tips := 2 ^ 128 - 1 }

def poolFull : State := { genesisState cfg with feePool := 2 ^ 128 - 1 }

theorem poolFull_crash : (sealState env poolFull none).isCrash = true := by decide +kernel

def feeHeavySealed : Sealed := getOk (sealState env feeHeavy none)

theorem feeHeavy_facts :
    supply feeHeavy .mel = 65536 + (2 ^ 128 - 1) + 5 ∧ (sealState env feeHeavy none).isOk = true ∧
    feeHeavySealed.st.feePool / 65536 + feeHeavySealed.st.tips > U128_MAX := by decide +kernel

theorem feeHeavy_seal_none : sealState env feeHeavy none = .ok feeHeavySealed := eq_getOk feeHeavy_facts.2.1

/-- a genesis configuration whose one coin holds 2^127 MEL: the supply premise of the property holds with equality -/
def cfgBig : GenesisConfig :=
  { network := .custom02, initCoindata := ⟨[8], 2 ^ 127, .mel, []⟩, stakes := [], initFeePool := 0,
    initFeeMultiplier := 0 }

def big : CoinData := ⟨[8], 2 ^ 120, .mel, []⟩

/-- a faucet transaction with 128 outputs of 2^120 MEL (well-formed: at most 255 outputs of at most 2^120) -/
def f : Tx := {
  kind := .faucet, inputs := [], outputs := List.replicate 128 big, fee := 0,
  covenants := [], data := [], sigs := [], hash := [1], rawLen := 0, covHashes := [] }

/-- a transaction spending the initial coin and the 128 coins of `f`: 129 inputs worth 2^128 MEL -/
def t : Tx := {
  kind := .normal, inputs := ⟨zeroHash, 0⟩ :: (List.range 128).map (fun i => ⟨[1], i⟩), outputs := [], fee := 0,
  covenants := [C03Witness.cov], data := [], sigs := [], hash := [3], rawLen := 0, covHashes := [[8]] }

def cfgBigMainnet : GenesisConfig := { cfgBig with network := .mainnet }

end C09SupplyWitness

/-- what `applyBatch` does before it writes anything: load the coins and the stake documents, check every transaction -/
def batchChecks (env : Env) (s : State) (txs : List Tx) (fb : Header) : Outcome (Relevant × AList Hash StakeDoc) :=
  (loadRelevantCoins s txs).bind fun rel =>
  (loadStakeInfo s txs).bind fun ns =>
  (Outcome.forM' (fun tx => checkTxValidity env s (lastHeaderOf s fb) tx rel ns) txs).bind fun _ => .ok (rel, ns)

theorem applyBatch_crash_of_checks {env : Env} {s : State} {txs : List Tx} {fb : Header}
    (h : (batchChecks env s txs fb).isCrash = true) : (applyBatch env s txs fb).isCrash = true := by
  have e : applyBatch env s txs fb = (batchChecks env s txs fb).bind fun p =>
      (Outcome.foldlM' (fun (speed : Nat) (tx : Tx) =>
        if tx.kind = .doscMint then (validateDoscmint env s p.1 tx).bind fun sp => .ok (max speed sp)
        else .ok speed) s.doscSpeed txs).bind fun newSpeed =>
      (createNextState env s txs p.1 s.tip906).bind fun next =>
      .ok { next with doscSpeed := newSpeed,
                      stakes := p.2.reverse.foldl (fun st e => StakeSet.addStake st e.1 e.2) next.stakes } := by
    unfold applyBatch batchChecks
    cases loadRelevantCoins s txs <;> try rfl
    cases loadStakeInfo s txs <;> try rfl
    simp only [Outcome.bind]
    cases Outcome.forM' _ txs <;> rfl
  rw [e]
  exact Outcome.isCrash_bind _ h

theorem loadStakeInfo_no_stake (s : State) (txs : List Tx) (h : ∀ tx ∈ txs, tx.kind ≠ .stake) :
    loadStakeInfo s txs = .ok [] := by
  unfold loadStakeInfo
  generalize ([] : AList Hash StakeDoc) = acc
  induction txs generalizing acc with
  | nil => rfl
  | cons tx txs ih =>
    simp only [Outcome.foldlM', if_pos (h tx (List.mem_cons_self ..))]
    exact ih (fun x hx => h x (List.mem_cons_of_mem _ hx)) acc

/-- with no stakes around, the checks read of the state only its height, its coins and the last header as the
    covenants of the batch see it: not the network (`legacyStakeLock` sits behind the test for a staked coin) -/
theorem batchChecks_congr {env : Env} {s s' : State} {txs : List Tx} {fb : Header}
    (hh : s'.height = s.height) (hc : ∀ id, s'.coins.getCoin id = s.coins.getCoin id)
    (hst : s.stakes = []) (hst' : s'.stakes = []) (hk : ∀ tx ∈ txs, tx.kind ≠ .stake)
    (hscr : ∀ tx ∈ txs, ∀ i id coin,
      validateTxScripts env i id tx coin (lastHeaderOf s' fb) = validateTxScripts env i id tx coin (lastHeaderOf s fb)) :
    batchChecks env s' txs fb = batchChecks env s txs fb := by
  have hl : loadRelevantCoins s' txs = loadRelevantCoins s txs := by
    unfold loadRelevantCoins
    rw [hh, funext hc]
  unfold batchChecks
  rw [hl, loadStakeInfo_no_stake s _ hk, loadStakeInfo_no_stake s' _ hk]
  congr 1
  funext rel
  show (Outcome.forM' _ txs).bind _ = (Outcome.forM' _ txs).bind _
  rw [Outcome.forM'_congr]
  intro tx htx
  unfold checkTxValidity
  rw [hst, hst']
  show (Outcome.foldlM' _ _ _).bind _ = (Outcome.foldlM' _ _ _).bind _
  congr 2
  funext acc e
  show (match rel.get e.1 with | none => _ | some coin => _) = (match rel.get e.1 with | none => _ | some coin => _)
  cases rel.get e.1 with
  | none => rfl
  | some coin => show (validateTxScripts ..).bind _ = (validateTxScripts ..).bind _; rw [hscr tx htx]

theorem diskFold_created {created : Relevant} {coins : CoinMap} (acc : Relevant) {l : List CoinID}
    (h : ∀ inp ∈ l, created.contains inp = true) : Outcome.foldlM' (diskStep created coins) acc l = .ok acc := by
  induction l with
  | nil => rfl
  | cons a l ih =>
    rw [Outcome.foldlM'_cons, diskStep, if_pos (h a (List.mem_cons_self ..))]
    exact ih fun x hx => h x (List.mem_cons_of_mem _ hx)

namespace C09SupplyWitness
open ReachWitness (env)

/-- `C03Witness.cov` pushes 1 and stops: it accepts whatever coin it guards and whatever header it is shown -/
theorem t_scripts (i : Nat) (id : CoinID) (coin : CoinDataHeight) (hdr hdr' : Header) :
    validateTxScripts env i id t coin hdr' = validateTxScripts env i id t coin hdr := by
  unfold validateTxScripts
  by_cases h8 : [8] = coin.coinData.covhash
  · rw [← h8]
    rfl
  · have hf : t.findCovenant coin.coinData.covhash = none := by
      show Option.map _ (List.find? _ [(([8] : Hash), C03Witness.cov)]) = none
      rw [List.find?_cons_of_neg (by simpa using h8)]
      rfl
    rw [hf]

theorem inputs_nodup : ([f, t].flatMap (·.inputs)).Nodup := by
  show ((⟨zeroHash, 0⟩ : CoinID) :: ((List.range 128).map fun i => (⟨[1], i⟩ : CoinID)) ++ []).Nodup
  rw [List.append_nil, List.nodup_cons]
  refine ⟨fun h => ?_, List.Pairwise.map _ (fun a b hab e => hab (CoinID.mk.inj e).2) List.nodup_range⟩
  obtain ⟨i, -, e⟩ := List.mem_map.mp h
  exact absurd (CoinID.mk.inj e).1 (by decide)

def created : Relevant :=
  ((List.range 128).map fun i => ((⟨[1], i⟩ : CoinID), (⟨big, 0⟩ : CoinDataHeight))).reverse

/-- `created` is what `createdOf` computes: the entries are put in one by one, each time after a search for their
    key; the keys being distinct, nothing is ever found -/
theorem created_eq : createdOf (genesisState cfgBig).height [f, t] = created := by
  have hf : outputCoinsFromTx f 0 =
      (List.range 128).map fun i => ((⟨[1], i⟩ : CoinID), (⟨big, 0⟩ : CoinDataHeight)) := by decide +kernel
  have hn : (((List.range 128).map fun i => ((⟨[1], i⟩ : CoinID), (⟨big, 0⟩ : CoinDataHeight))).map (·.1)).Nodup := by
    rw [List.map_map]
    exact List.Pairwise.map _ (fun a b hab e => hab (CoinID.mk.inj e).2) List.nodup_range
  have he := AList.extend_of_fresh ([] : Relevant) _ hn (fun _ _ _ hx => absurd hx List.not_mem_nil)
  rw [List.append_nil] at he
  rw [createdOf, List.foldl_cons, List.foldl_cons, List.foldl_nil, show (genesisState cfgBig).height = 0 from rfl,
    hf, show outputCoinsFromTx t 0 = [] from rfl, show ∀ m : Relevant, AList.extend m [] = m from fun _ => rfl]
  exact he

theorem created_keys : AList.keys created = ((List.range 128).map fun i => (⟨[1], i⟩ : CoinID)).reverse := by
  unfold created AList.keys
  rw [List.map_reverse, List.map_map]
  rfl

def c0 : CoinID × CoinDataHeight := (⟨zeroHash, 0⟩, ⟨cfgBig.initCoindata, 0⟩)

theorem zero_not_created : (⟨zeroHash, 0⟩ : CoinID) ∉ AList.keys created := by
  rw [created_keys, List.mem_reverse]
  intro h
  obtain ⟨i, -, e⟩ := List.mem_map.mp h
  exact absurd (CoinID.mk.inj e).1 (by decide)

/-- the search for the inputs finds the initial coin in the state, the others among the coins created -/
theorem disk_eq : Outcome.foldlM' (diskStep created (genesisState cfgBig).coins) [] ([f, t].flatMap (·.inputs)) =
    .ok [c0] := by
  have hl : [f, t].flatMap (·.inputs) =
      (⟨zeroHash, 0⟩ : CoinID) :: ((List.range 128).map fun i => (⟨[1], i⟩ : CoinID)) ++ [] := rfl
  have h0 : diskStep created (genesisState cfgBig).coins [] ⟨zeroHash, 0⟩ = .ok [c0] := by
    have hc : created.contains ⟨zeroHash, 0⟩ = false := by
      unfold AList.contains
      rw [(AList.get_eq_none_iff_not_mem_keys _ _).mpr zero_not_created]
      rfl
    rw [diskStep, hc]
    rfl
  rw [hl, List.append_nil, Outcome.foldlM'_cons, h0, Outcome.bind_ok]
  refine diskFold_created _ fun inp hinp => ?_
  unfold AList.contains
  cases hg : AList.get created inp with
  | some _ => rfl
  | none =>
    refine absurd ?_ ((AList.get_eq_none_iff_not_mem_keys _ _).mp hg)
    rw [created_keys, List.mem_reverse]
    exact hinp

/-- the `in_coins` sum of `t` overflows in the checks, before anything looks at the network.  The kernel runs the
    check of every transaction against the coins found (`hE`); what `loadRelevantCoins` does before — three quadratic
    searches, two of which find nothing — has its reasons instead: `created_eq`, `disk_eq`, `inputs_nodup` -/
theorem checks_crash : (batchChecks env (genesisState cfgBig) [f, t] default).isCrash = true := by
  have hwf : ([f, t].all fun tx => tx.isWellFormed && tx.melTotalFits && tx.covWeightsFit) = true := by
    decide +kernel
  have hE : (Outcome.forM' (fun tx => checkTxValidity env (genesisState cfgBig)
      (lastHeaderOf (genesisState cfgBig) default) tx (created.extend [c0].reverse) []) [f, t]).isCrash = true := by
    decide +kernel
  -- the list found stays a variable while the goal is rewritten: on a closed goal every step would have the
  -- kernel compare, that is evaluate, the two runs
  obtain ⟨disk, hd, hdisk⟩ : ∃ disk, Outcome.foldlM' (diskStep created (genesisState cfgBig).coins) []
      ([f, t].flatMap (·.inputs)) = .ok disk ∧ disk = [c0] := ⟨_, disk_eq, rfl⟩
  unfold batchChecks
  rw [loadRelevantCoins_eq, created_eq, hwf, loadStakeInfo_no_stake _ _ (by decide), hd, if_neg (by decide)]
  simp only [if_pos inputs_nodup, Outcome.bind_ok]
  rw [hdisk]
  exact Outcome.isCrash_bind _ hE

theorem crash : (applyBatch env (genesisState cfgBig) [f, t] default).isCrash = true :=
  applyBatch_crash_of_checks checks_crash

theorem crashMainnet : (applyBatch env (genesisState cfgBigMainnet) [f, t] default).isCrash = true := by
  refine applyBatch_crash_of_checks ?_
  rw [batchChecks_congr (s := genesisState cfgBig) (s' := genesisState cfgBigMainnet) rfl (fun _ => rfl) rfl rfl
    (by decide)]
  · exact checks_crash
  · intro x hx i id coin
    simp only [List.mem_cons, List.not_mem_nil, or_false] at hx
    rcases hx with rfl | rfl
    · rfl
    · exact t_scripts ..

theorem batchFresh : BatchFresh (genesisState cfgBig) [f, t] := batchFresh_genesis _ _ (by decide) (by decide)

end C09SupplyWitness

open C09SupplyWitness in
/-- The MEL supply premise cannot be dropped from the sealing half: a literal state whose MEL supply
    (fee pool + tips + one 5-µMEL coin) is above 2^127 — sealing it without an action succeeds, sealing it with any
    proposer action panics in `base_fees + tips` -/
theorem C09_seal_supply_needed :
    supply feeHeavy .mel = 65536 + (2 ^ 128 - 1) + 5 ∧ 2 ^ 127 < supply feeHeavy .mel ∧
    (∃ ss, sealState ReachWitness.env feeHeavy none = .ok ss) ∧
    ∀ a, sealState ReachWitness.env feeHeavy (some a) = .crash "state.rs: base_fees + tips overflow" := by
  have h1 := feeHeavy_facts.1
  refine ⟨h1, by rw [h1]; decide, ⟨_, feeHeavy_seal_none⟩, ?_⟩
  intro a
  rw [sealState_some_of_none _ _ a _ feeHeavy_seal_none,
    C09_action_crash_of _ _ a feeHeavy_facts.2.2]
  rfl

open C09SupplyWitness in
/-- … and without any proposer action: with a fee pool of `u128::MAX` (MEL supply above `sealSupplyCap`) the TIP-909
    subsidy, which moves MEL from the MEL/SYM reserve into the fee pool with an unchecked `+=`, panics -/
theorem C09_seal_supply_needed_subsidy :
    sealSupplyCap < supply poolFull .mel ∧ ∃ c, sealState ReachWitness.env poolFull none = .crash c := by
  exact ⟨by decide +kernel, Outcome.exists_crash_of_isCrash poolFull_crash⟩

open C09SupplyWitness in
/-- A supply bound on the state and well-formedness of the transactions do not make applying total
    (counterexample to the statement one would like: "`∀ d, supply s d ≤ 2^127` and every transaction well-formed —
    hence at most 255 · 2^120 per transaction and denomination — ⇒ `apply_tx_batch` does not crash"):
    the genesis state of a configuration whose one coin holds 2^127 MEL is reachable, its supply is at most 2^127
    in every denomination, the batch `[f, t]` has fresh hashes and well-formed transactions, the oracle premises
    hold — and `apply_tx_batch` crashes (the `in_coins` sum of `t` reaches 2^128).  What fails is `hbatch` of
    `C09_apply_total_supply`: the coins `f` creates out of nothing. -/
theorem C09_apply_supply_insufficient :
    ∃ (env : Env) (s : State) (txs : List Tx) (fb : Header),
      ReachableB' env s ∧ (∀ d, supply s d ≤ 2 ^ 127) ∧ BatchFresh s txs ∧
      (∀ t ∈ txs, t.isWellFormed = true ∧ ∀ d, outAll t d ≤ 255 * MAX_COINVAL) ∧
      (∀ a b c d, env.powOk a b c d ≠ .invalid → c ≤ 100) ∧
      (∀ hdr, s.history.get (s.height - 1) = some hdr → ∀ a b d t, env.powOk a b d t ≠ .invalid →
        microergsIter s.height * maxDoscReward d hdr.doscSpeed / MICRO_CONVERTER ≤ U128_MAX) ∧
      (2 ^ 127 + batchOutputs txs .mel = 2 ^ 128) ∧
      ∃ c, applyBatch env s txs fb = .crash c := by
  refine ⟨ReachWitness.env, genesisState cfgBig, [f, t], default, .genesis cfgBig, ?_, batchFresh, ?_,
    fun _ _ _ _ h => absurd rfl h, fun _ _ _ _ _ _ h => absurd rfl h, by decide +kernel, ?_⟩
  · intro d
    rw [C01_genesis_supply]
    show (if Denom.mel = d then 2 ^ 127 else 0) + (if d = .mel then 0 else 0) ≤ 2 ^ 127
    split <;> simp
  · intro x hx
    simp only [List.mem_cons, List.not_mem_nil, or_false] at hx
    have hw : x.isWellFormed = true := by rcases hx with rfl | rfl <;> decide +kernel
    exact ⟨hw, SupplyBoundL.outAll_le_of_wellFormed hw⟩
  · exact Outcome.exists_crash_of_isCrash crash

open C09SupplyWitness in
/-- … and this is so even on mainnet, where a faucet transaction is never accepted: `handle_faucet_tx` rejects it only
    in `create_next_state`, after `check_tx_validity` has summed the spent coins of every transaction of the batch —
    the batch `[f, t]` crashes instead of being rejected with `MalformedTx` -/
theorem C09_apply_supply_insufficient_mainnet :
    (genesisState cfgBigMainnet).network = .mainnet ∧ (∀ d, supply (genesisState cfgBigMainnet) d ≤ 2 ^ 127) ∧
    ∃ c, applyBatch ReachWitness.env (genesisState cfgBigMainnet) [f, t] default = .crash c := by
  refine ⟨rfl, ?_, ?_⟩
  · intro d
    rw [C01_genesis_supply]
    show (if Denom.mel = d then 2 ^ 127 else 0) + (if d = .mel then 0 else 0) ≤ 2 ^ 127
    split <;> simp
  · exact Outcome.exists_crash_of_isCrash crashMainnet


namespace C09SupplyWitness
open ReachWitness (env cfg)
open C09ReachWitness (s1 ss1 s2 ss2 s3)

theorem s1_bounds : SupplyBounds (2 ^ 124) s1 :=
  ⟨by rw [C09ReachWitness.s1_facts.2.2.2]; decide, C09ReachWitness.s1_bounds.height⟩
theorem s2_bounds : SupplyBounds (2 ^ 124) s2 := ⟨C09ReachWitness.s2_facts.2.2.1, C09ReachWitness.s2_bounds.height⟩

theorem s1_reachable : ReachableSup env (2 ^ 124) s1 :=
  .batch (.genesis cfg) C09ReachWitness.batchFresh C09ReachWitness.markerFresh C09ReachWitness.batch_ok

theorem s2_reachable : ReachableSup env (2 ^ 124) s2 :=
  .block s1_reachable C09ReachWitness.rewardFresh1 s1_bounds C09ReachWitness.seal1_ok C09ReachWitness.next1_ok

theorem s3_reachable : ReachableSup env (2 ^ 124) s3 :=
  .block s2_reachable C09ReachWitness.rewardFresh2 s2_bounds C09ReachWitness.seal2_ok C09ReachWitness.next2_ok

end C09SupplyWitness

/-- non-vacuity: the literal history genesis → batch with a swap → block → block of `reachableB_nonvacuous`
    is a `ReachableSup` history for the bound 2^124 (hence for 2^127: `ReachableB'`); the two states sealed on the
    way satisfy the supply premise (their MEL supplies are 5 and about 2·10^9 — the builtin pools) and
    `RewardFresh`, so the hypotheses of `C09_seal_ok_supply`, `C09_block_total_supply` and of the seal part of
    `C09_total_supply` are met by `s1` (a swap request in its block) and by `s2` (builtin pools in place) -/
theorem reachableSup_nonvacuous :
    ∃ (env : Env) (s1 s2 s3 : State), ReachableSup env (2 ^ 124) s1 ∧ SupplyBounds (2 ^ 124) s1 ∧
      RewardFresh env s1 ∧ s1.txs ≠ [] ∧ supply s1 .mel = 5 ∧
      ReachableSup env (2 ^ 124) s2 ∧ SupplyBounds (2 ^ 124) s2 ∧ RewardFresh env s2 ∧ s2.height = 1 ∧
      ReachableB' env s3 ∧ s3.height = 2 :=
  open C09SupplyWitness C09ReachWitness in
  ⟨ReachWitness.env, s1, s2, s3, C09SupplyWitness.s1_reachable, C09SupplyWitness.s1_bounds, rewardFresh1,
    by rw [s1_facts.1]; exact List.cons_ne_nil _ _, s1_facts.2.2.2,
    C09SupplyWitness.s2_reachable, C09SupplyWitness.s2_bounds, rewardFresh2, height2,
    C09SupplyWitness.s3_reachable.mono (Nat.pow_le_pow_right (by decide) (by decide)), height3⟩

/-- non-vacuity of `C09_apply_total_supply` (and of the apply part of `C09_total_supply`): the genesis state of the
    witness has supply at most 5 in every denomination, and the batch `[u]` (a swap transaction with one output of
    5 µMEL) leaves room below a u128 -/
example : ∀ c, applyBatch ReachWitness.env (genesisState ReachWitness.cfg) [ReachWitness.u] default ≠ .crash c := by
  refine C09_apply_total_supply _ _ _ _ 5 (.genesis _) C09ReachWitness.batchFresh ?_ ?_
    (fun _ _ _ _ h => absurd rfl h) (fun _ _ _ _ _ _ h => absurd rfl h)
  · intro d
    rw [C01_genesis_supply]
    show (if Denom.mel = d then 5 else 0) + (if d = .mel then 0 else 0) ≤ 5
    split <;> simp
  · intro _ d
    have h1 : batchOutputs [ReachWitness.u] d = outAll ReachWitness.u d := by simp [batchOutputs]
    have h2 := SupplyBoundL.outAll_le_of_wellFormed (tx := ReachWitness.u) (by decide +kernel) d
    have h3 : 5 + 255 * MAX_COINVAL ≤ U128_MAX := by decide
    rw [h1]
    omega

/-- non-vacuity of `C09_total_supply` as a whole: its hypotheses hold of the genesis state of the witness -/
example :
    (∀ a c, sealState ReachWitness.env (genesisState ReachWitness.cfg) a ≠ .crash c) ∧
    (∀ a, ∃ ss s', sealState ReachWitness.env (genesisState ReachWitness.cfg) a = .ok ss ∧
      nextUnsealed ReachWitness.env ss = .ok s' ∧ ReachableB' ReachWitness.env s') := by
  have h := C09_total_supply_127 ReachWitness.env (genesisState ReachWitness.cfg) (.genesis _)
    (by
      intro d
      rw [C01_genesis_supply]
      show (if Denom.mel = d then 5 else 0) + (if d = .mel then 0 else 0) ≤ 2 ^ 127
      split <;> simp)
    (by decide +kernel) (by unfold RewardFresh; decide +kernel)
    (fun _ _ _ _ h => absurd rfl h) (fun _ _ _ _ _ _ h => absurd rfl h)
  exact ⟨h.2.1, h.2.2⟩

end Mel

#print axioms Mel.ReachableSup.mono
#print axioms Mel.ReachableSup.sep
#print axioms Mel.C09_swap_requests_backed
#print axioms Mel.C09_deposit_requests_backed
#print axioms Mel.C09_withdraw_requests_backed
#print axioms Mel.C09_mel_inflow_backed
#print axioms Mel.C09_supply_mel_parts
#print axioms Mel.seal_ok_of_supply
#print axioms Mel.reachableSup_poolsInv
#print axioms Mel.C09_seal_ok_supply
#print axioms Mel.C09_seal_total_supply
#print axioms Mel.C09_seal_total_supply_127
#print axioms Mel.C09_block_total_supply
#print axioms Mel.C09_inputs_bound
#print axioms Mel.C09_bounded_imp
#print axioms Mel.C09_apply_total_supply
#print axioms Mel.C09_apply_total_coins
#print axioms Mel.C09_wellFormed_outputs
#print axioms Mel.C09_apply_one_total_supply
#print axioms Mel.C09_total_supply
#print axioms Mel.C09_total_supply_127
#print axioms Mel.C09_action_crash_of
#print axioms Mel.sealState_some_of_none
#print axioms Mel.C09_seal_supply_needed
#print axioms Mel.C09_seal_supply_needed_subsidy
#print axioms Mel.C09_apply_supply_insufficient
#print axioms Mel.C09_apply_supply_insufficient_mainnet
#print axioms Mel.reachableSup_nonvacuous

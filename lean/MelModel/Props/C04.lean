/-
  C04 — A coin is spent only when its covenant approves that very spend.
-/
import MelModel.ApplyTx
import MelModel.VM.Std
import MelModel.Lemmas.Cov
import MelModel.Lemmas.SeqL
namespace Mel
open Mel.Gen Mel.VM

def spendEnv (s : State) (fb : Header) (_tx : Tx) (i : Nat) (id : CoinID) (coin : CoinDataHeight) : CovEnv :=
  { parentCoinID := id, parentCdh := coin, spenderIndex := i % 256, lastHeader := lastHeaderOf s fb }

/-- "the covenant of `coin` approves this spend": the transaction carries bytes hashing to the coin's
    covenant hash, they decode, and the program evaluates to a true value in this input's own environment -/
def Approves (env : Env) (s : State) (fb : Header) (tx : Tx) (i : Nat) (id : CoinID) (coin : CoinDataHeight) : Prop :=
  ∃ bytes ops v, tx.findCovenant coin.coinData.covhash = some bytes ∧ decodeAll bytes = some ops ∧
    execute env.vm ops tx (some (spendEnv s fb tx i id coin)) = some v ∧ v.intoBool = true

/-- The gate: in an accepted batch every input of every transaction is approved by its coin's covenant,
    evaluated against that transaction and that coin's own environment -/
theorem C04_gate (env : Env) (s s' : State) (txs : List Tx) (fb : Header)
    (h : applyBatch env s txs fb = .ok s') (tx : Tx) (htx : tx ∈ txs) (i : Nat) (hi : i < tx.inputs.length) :
    ∃ rel coin, loadRelevantCoins s txs = .ok rel ∧ rel.get tx.inputs[i] = some coin ∧
      Approves env s fb tx i tx.inputs[i] coin := by
  obtain ⟨rel, ns, _, hrel, _, hv, _⟩ := applyBatch_ok h
  obtain ⟨-, coin, hget, hval⟩ := checkTxValidity_ok_input (hv tx htx) i hi
  exact ⟨rel, coin, hrel, hget, (validateTxScripts_ok_iff env i tx.inputs[i] tx coin (lastHeaderOf s fb)).mp hval⟩

/-- one-input view of `validate_tx_scripts`: it succeeds exactly when the covenant approves -/
theorem C04_validate_iff (env : Env) (s : State) (fb : Header) (tx : Tx) (i : Nat) (id : CoinID) (coin : CoinDataHeight) :
    validateTxScripts env i id tx coin (lastHeaderOf s fb) = .ok () ↔ Approves env s fb tx i id coin := by
  exact validateTxScripts_ok_iff env i id tx coin (lastHeaderOf s fb)

theorem C04_missing (env : Env) (spendIdx : Nat) (id : CoinID) (tx : Tx) (coin : CoinDataHeight) (lh : Header)
    (h : tx.findCovenant coin.coinData.covhash = none) :
    validateTxScripts env spendIdx id tx coin lh = .reject .nonexistentScript := by
  unfold validateTxScripts
  rw [h]

theorem C04_undecodable (env : Env) (spendIdx : Nat) (id : CoinID) (tx : Tx) (coin : CoinDataHeight) (lh : Header)
    (bytes : Bytes) (h : tx.findCovenant coin.coinData.covhash = some bytes) (hd : decodeAll bytes = none) :
    validateTxScripts env spendIdx id tx coin lh = .reject .malformedTx := by
  unfold validateTxScripts
  rw [h]
  simp only [hd]

/-- a covenant that fails or evaluates to zero is rejected -/
theorem C04_false (env : Env) (spendIdx : Nat) (id : CoinID) (tx : Tx) (coin : CoinDataHeight) (lh : Header)
    (bytes : Bytes) (ops : List Op) (h : tx.findCovenant coin.coinData.covhash = some bytes)
    (hd : decodeAll bytes = some ops)
    (hv : ∀ v, execute env.vm ops tx (some { parentCoinID := id, parentCdh := coin, spenderIndex := spendIdx % 256, lastHeader := lh }) = some v → v.intoBool = false) :
    validateTxScripts env spendIdx id tx coin lh = .reject .violatesScript := by
  unfold validateTxScripts
  rw [h]
  simp only [hd]
  cases he : execute env.vm ops tx
      (some { parentCoinID := id, parentCdh := coin, spenderIndex := spendIdx % 256, lastHeader := lh }) with
  | none => rfl
  | some v => simp [hv v he]

/-- the environment: the eleven documented items sit at heap addresses 0–10 -/
theorem C04_env (tx : Tx) (e : CovEnv) :
    let h := heapOfEnv tx (some e)
    h.get 0 = some (valOfTx tx) ∧ h.get 1 = some (.bytes tx.hash) ∧
    h.get 2 = some (.bytes e.parentCoinID.txhash) ∧ h.get 3 = some (.ofNat e.parentCoinID.index) ∧
    h.get 4 = some (.bytes e.parentCdh.coinData.covhash) ∧ h.get 5 = some (.ofNat e.parentCdh.coinData.value) ∧
    h.get 6 = some (.bytes e.parentCdh.coinData.denom.toBytes) ∧
    h.get 7 = some (.bytes e.parentCdh.coinData.additionalData) ∧ h.get 8 = some (.ofNat e.parentCdh.height) ∧
    h.get 9 = some (.ofNat e.spenderIndex) ∧ h.get 10 = some (valOfHeader e.lastHeader) := by
  simp [heapOfEnv, Heap.get, HADDR_SPENDER_TX, HADDR_SPENDER_INDEX, HADDR_SPENDER_TXHASH,
    HADDR_PARENT_TXHASH, HADDR_PARENT_INDEX, HADDR_SELF_HASH, HADDR_PARENT_VALUE, HADDR_PARENT_DENOM,
    HADDR_PARENT_ADDITIONAL_DATA, HADDR_PARENT_HEIGHT, HADDR_LAST_HEADER]

/-- The environment in the first block (F25): in a state without previous header the header covenants
    see is the stand-in `genesisStandIn s` — network, height, fee multiplier and DOSC speed of the state, every root
    and the fee pool zero — whatever fallback header is passed.  (Before the fix it was the header of the current
    block sealed as it stood, which changes with every transaction applied.) -/
theorem C04_first_block_env (s : State) (fb : Header) (tx : Tx) (i : Nat) (id : CoinID) (coin : CoinDataHeight)
    (hn : s.history.get (s.height - 1) = none) :
    (spendEnv s fb tx i id coin).lastHeader = genesisStandIn s := by
  simp only [spendEnv, lastHeaderOf, hn, Option.getD_none]

/-- in a later block it is the previous header -/
theorem C04_later_block_env (s : State) (fb : Header) (tx : Tx) (i : Nat) (id : CoinID) (coin : CoinDataHeight)
    (hdr : Header) (hp : s.history.get (s.height - 1) = some hdr) :
    (spendEnv s fb tx i id coin).lastHeader = hdr := by
  simp only [spendEnv, lastHeaderOf, hp, Option.getD_some]

/-- the stand-in is unchanged by an accepted batch that leaves the DOSC speed alone (`applyBatch` keeps network,
    height and fee multiplier) -/
theorem C04_standIn_stable (env : Env) (s s' : State) (txs : List Tx) (fb : Header)
    (h : applyBatch env s txs fb = .ok s') (hd : s'.doscSpeed = s.doscSpeed) :
    genesisStandIn s' = genesisStandIn s :=
  SeqL.batch_standIn h hd

/-- … which is the case of every accepted batch without DoscMint transaction -/
theorem C04_standIn_stable_noMint (env : Env) (s s' : State) (txs : List Tx) (fb : Header)
    (h : applyBatch env s txs fb = .ok s') (hk : ∀ tx ∈ txs, tx.kind ≠ .doscMint) :
    genesisStandIn s' = genesisStandIn s :=
  SeqL.batch_standIn h (SeqL.batch_speed_noMint h hk)

/-- … and of every accepted batch in the first block: a DoscMint transaction is accepted only where the previous
    header exists (`validateDoscmint` reads its speed), so where the stand-in is used nothing can change it.  The
    state after still has no previous header, so its covenants see the same stand-in. -/
theorem C04_first_block_standIn_stable (env : Env) (s s' : State) (txs : List Tx) (fb : Header)
    (hn : s.history.get (s.height - 1) = none) (h : applyBatch env s txs fb = .ok s') :
    genesisStandIn s' = genesisStandIn s ∧ s'.history.get (s'.height - 1) = none := by
  have F := applyBatch_frame h
  exact ⟨SeqL.batch_standIn h (SeqL.batch_speed_first h hn), by rw [F.history, F.height]; exact hn⟩

/-- The environment is fixed for the block: after any accepted batch the spending environment of a given input
    is what it was before, in every state (first block included) and whatever fallbacks are passed -/
theorem C04_env_stable (env : Env) (s s' : State) (txs : List Tx) (fb fb₁ fb₂ : Header)
    (h : applyBatch env s txs fb = .ok s') (tx : Tx) (i : Nat) (id : CoinID) (coin : CoinDataHeight) :
    spendEnv s' fb₁ tx i id coin = spendEnv s fb₂ tx i id coin := by
  simp only [spendEnv, SeqL.batch_lastHeader h fb₁ fb₂]

/-- standard covenant (new style): approves iff the signature in the slot numbered by the input position is a
    valid Ed25519 signature of the signature-free transaction hash by the named key -/
theorem C04_std_new (o : Oracles) (pk : Bytes) (hpk : pk.length = 32) (tx : Tx) (e : CovEnv)
    (hh : tx.hash.length ≤ 32) (hidx : e.spenderIndex < 256) :
    (∃ v, execute o (stdEd25519New pk) tx (some e) = some v ∧ v.intoBool = true) ↔
    (∃ sig, tx.sigs[e.spenderIndex]? = some sig ∧ sig.length = 64 ∧ o.sigOk pk tx.hash sig = true) := by
  rw [execute_stdNew o pk hpk tx e hh hidx]
  exact stdResult_iff o pk tx e.spenderIndex

/-- standard covenant (legacy): the same with signature slot 0 whatever the input position -/
theorem C04_std_legacy (o : Oracles) (pk : Bytes) (hpk : pk.length = 32) (tx : Tx) (e : Option CovEnv)
    (hh : tx.hash.length ≤ 32) :
    (∃ v, execute o (stdEd25519Legacy pk) tx e = some v ∧ v.intoBool = true) ↔
    (∃ sig, tx.sigs[0]? = some sig ∧ sig.length = 64 ∧ o.sigOk pk tx.hash sig = true) := by
  rw [execute_stdLegacy o pk hpk tx e hh]
  exact stdResult_iff o pk tx 0

/-- The position among the inputs is a byte.  The environment a covenant sees carries the input's
    position reduced mod 256 (`validate_tx_scripts` casts the index to `u8`; `validateTxScripts` builds the
    environment with `spenderIndex := spendIdx % 256`) … -/
theorem C04_spender_index_wraps (s : State) (fb : Header) (tx : Tx) (i : Nat) (id : CoinID)
    (coin : CoinDataHeight) : (spendEnv s fb tx i id coin).spenderIndex = i % 256 := rfl

/-- … so input number 256 is told it is input number 0 (and a covenant of the same coin could not tell
    the two positions apart) -/
theorem C04_spender_index_wraps_256 (s : State) (fb : Header) (tx : Tx) (id : CoinID)
    (coin : CoinDataHeight) :
    (spendEnv s fb tx 256 id coin).spenderIndex = 0 ∧
    spendEnv s fb tx 256 id coin = spendEnv s fb tx 0 id coin := ⟨rfl, rfl⟩

end Mel

#print axioms Mel.C04_gate
#print axioms Mel.C04_validate_iff
#print axioms Mel.C04_missing
#print axioms Mel.C04_undecodable
#print axioms Mel.C04_false
#print axioms Mel.C04_env
#print axioms Mel.C04_first_block_env
#print axioms Mel.C04_later_block_env
#print axioms Mel.C04_standIn_stable
#print axioms Mel.C04_standIn_stable_noMint
#print axioms Mel.C04_first_block_standIn_stable
#print axioms Mel.C04_env_stable
#print axioms Mel.C04_std_new
#print axioms Mel.C04_std_legacy
#print axioms Mel.C04_spender_index_wraps
#print axioms Mel.C04_spender_index_wraps_256

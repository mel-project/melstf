/-
  C15 — Melswap settles only genuine requests, at one fair price, pro rata.
-/
import MelModel.Seal
import MelModel.Lemmas.Swap
import MelModel.Lemmas.Phase
namespace Mel
open Mel.Gen

/-! ### only genuine requests are settled -/

/-- request selectors demand the matching kind: each request is settled in exactly one phase -/
theorem C15_kinds (env : Env) (s : State) (tx : Tx) :
    (isSwapRequest s tx = true → tx.kind = .swap) ∧
    (isDepositRequest s tx = true → tx.kind = .liqDeposit) ∧
    (isWithdrawRequest env s tx = true → tx.kind = .liqWithdraw) := by
  exact ⟨fun h => (isSwapRequest_spec h).1, fun h => (isDepositRequest_spec h).1,
    fun h => (isWithdrawRequest_spec h).1⟩

/-- … and a data field that names the pool in its one canonical spelling -/
theorem C15_requests_name_pool (env : Env) (s : State) (tx : Tx)
    (h : isSwapRequest s tx = true ∨ isDepositRequest s tx = true ∨ isWithdrawRequest env s tx = true) :
    ∃ k, canonicalPoolKey tx.data = some k := by
  rcases h with h | h | h
  · obtain ⟨_, k, _, hk, _⟩ := isSwapRequest_spec h
    exact ⟨k, hk⟩
  · exact (isDepositRequest_spec h).2
  · exact (isWithdrawRequest_spec h).2

/-- a transaction of another kind, or whose data does not name a pool, is no request -/
def NotARequest (tx : Tx) : Prop :=
  (tx.kind ≠ .swap ∧ tx.kind ≠ .liqDeposit ∧ tx.kind ≠ .liqWithdraw) ∨ canonicalPoolKey tx.data = none

/-- kind filter (F4): sealing leaves every coin whose id is not an output of a request transaction (and is not
    the proposer-reward id) exactly as it was — in particular all outputs of every other transaction. -/
theorem C15_kind_filter (env : Env) (s : State) (a : Option ProposerAction) (ss : Sealed)
    (h : sealState env s a = .ok ss) (id : CoinID)
    (hnr : ∀ tx ∈ s.txs, tx.hash = id.txhash → NotARequest tx)
    (hrw : id.txhash ≠ env.rewardId s.height) :
    ss.st.coins.getCoin id = s.coins.getCoin id := by
  exact sealState_coins id env s a ss h hnr hrw

/-! ### a pool name has one spelling, and a side is only ever its own denomination -/

/-- what `canonical_pool_key` accepts: canonical order, no `NewCustom` placeholder, the exact bytes -/
theorem C15_canonical (data : Bytes) (k : PoolKey) (h : canonicalPoolKey data = some k) :
    bytesLt k.left.toBytes k.right.toBytes = true ∧ k.left ≠ .newCustom ∧ k.right ≠ .newCustom ∧ k.toBytes = data := by
  exact canonicalPoolKey_some h

/-- hence two accepted spellings of one pool are the same bytes: no alias can reach a pool's slot -/
theorem C15_one_spelling (d₁ d₂ : Bytes) (k : PoolKey) (h₁ : canonicalPoolKey d₁ = some k)
    (h₂ : canonicalPoolKey d₂ = some k) : d₁ = d₂ := by
  rw [← (canonicalPoolKey_some h₁).2.2.2, ← (canonicalPoolKey_some h₂).2.2.2]

/-- the reversed spelling of an accepted name is never accepted (F5) -/
theorem C15_reversed_rejected (data : Bytes) (k : PoolKey) (h : canonicalPoolKey data = some k) :
    ∀ data', canonicalPoolKey data' ≠ some { left := k.right, right := k.left } := by
  intro data' h'
  have h1 := (canonicalPoolKey_some h).1
  have h2 := (canonicalPoolKey_some h').1
  simp only at h2
  rw [bytesLt_asymm _ _ h1] at h2
  cases h2

/-- a swap request's first output is in one of the two denominations of the pool it names -/
theorem C15_swap_own_denom (s : State) (tx : Tx) (h : isSwapRequest s tx = true) :
    ∃ k o, canonicalPoolKey tx.data = some k ∧ tx.outputs.head? = some o ∧ (o.denom = k.left ∨ o.denom = k.right) := by
  obtain ⟨_, k, o, hk, ho, hd⟩ := isSwapRequest_spec h
  exact ⟨k, o, hk, ho, hd⟩

open PoolState

/-- `swap_many` on a pool with reserves: reserves move by exactly what is paid in minus what is withdrawn;
    the withdrawn amounts are the constant-product amounts less 0.5%, rounded down -/
theorem C15_swap_exact (p p' : PoolState) (l r lw rw : Nat)
    (hfit : p.lefts + l ≤ U128_MAX ∧ p.rights + r ≤ U128_MAX)
    (h : p.swapMany l r = .ok (p', lw, rw)) :
    p'.lefts + lw = p.lefts + l ∧ p'.rights + rw = p.rights + r ∧ p'.liqs = p.liqs ∧
    rw = l * (p.rights + r) * 995 / ((p.lefts + l) * 1000) ∧
    lw = r * (p.lefts + l) * 995 / ((p.rights + r) * 1000) := by
  obtain ⟨_, _, hlw, hrw, _, e⟩ := swapMany_eq_ok_iff.mp h
  obtain ⟨eL, eR, elw, erw⟩ := swapLW_of_fit hfit
  cases e
  exact ⟨(Nat.sub_add_cancel hlw).trans eL, (Nat.sub_add_cancel hrw).trans eR, swapped_liqs p l r, erw, elw⟩

/-- swapping never decreases the reserve product -/
theorem C15_product (p p' : PoolState) (l r lw rw : Nat)
    (hfit : p.lefts + l ≤ U128_MAX ∧ p.rights + r ≤ U128_MAX)
    (h : p.swapMany l r = .ok (p', lw, rw)) :
    p.lefts * p.rights ≤ p'.lefts * p'.rights := by
  obtain ⟨hR, hL, _, _, _, e⟩ := swapMany_eq_ok_iff.mp h
  obtain ⟨eL, eR, elw, erw⟩ := swapLW_of_fit hfit
  cases e
  show _ ≤ (p.swapL l - p.swapLW l r) * (p.swapR r - p.swapRW l r)
  rw [elw, erw, eL, eR]
  rw [eL] at hL
  rw [eR] at hR
  exact swap_product (Nat.pos_of_ne_zero hL) (Nat.pos_of_ne_zero hR)

theorem C15_swap_keeps_reserves (p p' : PoolState) (l r lw rw : Nat)
    (hfit : p.lefts + l ≤ U128_MAX ∧ p.rights + r ≤ U128_MAX)
    (h : p.swapMany l r = .ok (p', lw, rw)) : 0 < p'.lefts ∧ 0 < p'.rights :=
  swapMany_keeps_reserves (Nat.le_trans (Nat.le_add_left _ _) hfit.2) h

/-- pro-rata shares rounded down never add up to more than what is split -/
theorem C15_pro_rata (total : Nat) (vs : List Nat) (hpos : 0 < vs.sum) :
    (vs.map fun v => total * v / vs.sum).sum ≤ total :=
  pro_rata_le total vs

/-- `multiply_frac` is the rounded-down share, saturating at u128 -/
theorem C15_multiply_frac (x n d : Nat) (hd : 0 < d) : multiplyFrac x n d = .ok (min (x * n / d) U128_MAX) := by
  unfold multiplyFrac satU128
  rw [if_neg (by omega)]

/-! ### deposits mint and withdrawals burn in proportion to the reserves -/

theorem C15_deposit (p p' : PoolState) (l r minted : Nat) (h : p.deposit l r = .ok (p', minted))
    (hfit : p.lefts + l ≤ U128_MAX ∧ p.rights + r ≤ U128_MAX) :
    (p.liqs = 0 → minted = l ∧ p'.lefts = l ∧ p'.rights = r ∧ p'.liqs = l) ∧
    (p.liqs ≠ 0 → minted = min (Nat.sqrt (p.liqs ^ 2 * (l * r) / (p.lefts * p.rights))) U128_MAX ∧
                   p'.lefts = p.lefts + l ∧ p'.rights = p.rights + r ∧ p'.liqs = min (p.liqs + minted) U128_MAX) := by
  rcases deposit_eq_ok_iff.mp h with ⟨hz, e⟩ | ⟨hz, _, e⟩
  · cases e
    exact ⟨fun _ => ⟨rfl, rfl, rfl, rfl⟩, fun hn => absurd hz hn⟩
  · cases e
    refine ⟨fun h0 => absurd h0 hz, fun _ => ?_⟩
    have e1 : p.depMels l = l := by
      unfold depMels satAdd128; rw [Nat.add_comm, Nat.min_eq_left hfit.1]; exact Nat.add_sub_cancel_left ..
    have e2 : p.depTokens r = r := by
      unfold depTokens satAdd128; rw [Nat.add_comm, Nat.min_eq_left hfit.2]; exact Nat.add_sub_cancel_left ..
    unfold depLiqs
    rw [e1, e2]
    exact ⟨rfl, rfl, rfl, rfl⟩

/-- `withdraw` burns `q ≤ liqs` tokens and pays the rounded-down share `q / liqs` of each reserve;
    withdrawing all tokens pays out both reserves whole -/
theorem C15_withdraw (p p' : PoolState) (q pl pr : Nat) (h : p.withdraw q = .ok (p', pl, pr)) :
    q ≤ p.liqs ∧ p'.liqs + q = p.liqs ∧ p'.lefts + pl = p.lefts ∧ p'.rights + pr = p.rights ∧
    (q < p.liqs → pl = p.lefts * q / p.liqs ∧ pr = p.rights * q / p.liqs) ∧
    (q = p.liqs → pl = p.lefts ∧ pr = p.rights) := by
  obtain ⟨hq, _, ⟨hq', e⟩ | ⟨hq', e⟩⟩ := withdraw_eq_ok_iff.mp h
  · cases e
    exact ⟨hq, (Nat.zero_add _).trans hq', Nat.zero_add _, Nat.zero_add _, fun hlt => absurd hq' (Nat.ne_of_lt hlt),
      fun _ => ⟨rfl, rfl⟩⟩
  · cases e
    exact ⟨hq, Nat.sub_add_cancel hq, Nat.sub_add_cancel (mul_div_le_of_le hq), Nat.sub_add_cancel (mul_div_le_of_le hq),
      fun _ => ⟨rfl, rfl⟩, fun he => absurd he (Nat.ne_of_lt hq')⟩

end Mel

#print axioms Mel.C15_kinds
#print axioms Mel.C15_requests_name_pool
#print axioms Mel.C15_kind_filter
#print axioms Mel.C15_canonical
#print axioms Mel.C15_one_spelling
#print axioms Mel.C15_reversed_rejected
#print axioms Mel.C15_swap_own_denom
#print axioms Mel.C15_swap_exact
#print axioms Mel.C15_product
#print axioms Mel.C15_swap_keeps_reserves
#print axioms Mel.C15_pro_rata
#print axioms Mel.C15_multiply_frac
#print axioms Mel.C15_deposit
#print axioms Mel.C15_withdraw

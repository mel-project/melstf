/-
  C17 — The fee multiplier moves only by the bounded, specified step per block.
-/
import MelModel.Seal
import MelModel.Lemmas.FeeMult
import MelModel.Lemmas.Phase
namespace Mel
open Mel.Gen

/-- closed form on the whole domain: the multiplier moves by exactly the specified step, clamped to
    the range of a u128 (the clamp only acts for `m < 2` going down and within 2^121 of the top). -/
theorem C17_closed_form (m : Nat) (δ : Int) (tip901 : Bool) (hm : m ≤ U128_MAX)
    (hδ : -128 ≤ δ ∧ δ ≤ 127) :
    ((moveFeeMultiplier m δ tip901 : Nat) : Int) = max 0 (min ((m : Int) + specStep m δ tip901) (U128_MAX : Int)) := by
  obtain ⟨k, _, hspec, hmove⟩ := moveFeeMultiplier_k m δ tip901 hδ
  rw [hspec, hmove]
  exact move_clamped _ hm

theorem C17_exact (m : Nat) (δ : Int) (tip901 : Bool) (hm : m ≤ U128_MAX) (hδ : -128 ≤ δ ∧ δ ≤ 127)
    (hlo : 0 ≤ (m : Int) + specStep m δ tip901) (hhi : (m : Int) + specStep m δ tip901 ≤ (U128_MAX : Int)) :
    ((moveFeeMultiplier m δ tip901 : Nat) : Int) = (m : Int) + specStep m δ tip901 := by
  rw [C17_closed_form m δ tip901 hm hδ]
  omega

/-- for every multiplier from 2 up to 2^127 the move is exact (no clamping at all) -/
theorem C17_exact_range (m : Nat) (δ : Int) (tip901 : Bool) (h2 : 2 ≤ m) (hm : m ≤ 2 ^ 127)
    (hδ : -128 ≤ δ ∧ δ ≤ 127) :
    ((moveFeeMultiplier m δ tip901 : Nat) : Int) = (m : Int) + specStep m δ tip901 := by
  obtain ⟨k, hk, hspec, hmove⟩ := moveFeeMultiplier_k m δ tip901 hδ
  obtain ⟨hkm, hfit⟩ := move_fits h2 hm hk
  rw [hspec, hmove]
  exact move_exact _ hkm hfit

/-- never wraps: the result is a u128, and it differs from `m` by at most `maxMove` -/
theorem C17_no_wrap (m : Nat) (δ : Int) (tip901 : Bool) (hm : m ≤ U128_MAX) (hδ : -128 ≤ δ ∧ δ ≤ 127) :
    moveFeeMultiplier m δ tip901 ≤ U128_MAX ∧
    moveFeeMultiplier m δ tip901 ≤ m + maxMove m tip901 ∧
    m ≤ moveFeeMultiplier m δ tip901 + maxMove m tip901 := by
  obtain ⟨k, hk, _, hmove⟩ := moveFeeMultiplier_k m δ tip901 hδ
  rw [hmove]
  exact move_near _ hm hk

theorem C17_no_action (env : Env) (s : State) (ss : Sealed) (h : sealState env s none = .ok ss) :
    ss.st.feeMultiplier = s.feeMultiplier :=
  sealState_feeMultiplier h

theorem C17_action (env : Env) (s : State) (a : ProposerAction) (ss : Sealed)
    (h : sealState env s (some a) = .ok ss) :
    ss.st.feeMultiplier = moveFeeMultiplier s.feeMultiplier a.feeMultiplierDelta s.tip901 :=
  sealState_feeMultiplier h

/-- F7 before the fix: the old code panics at both ends … -/
theorem C17_old_underflow : moveFeeMultiplierOld 1 (-128) true = none := by
  decide
theorem C17_old_i64_overflow : moveFeeMultiplierOld (2 ^ 64) 127 true = none :=
  moveFeeMultiplierOld_2p64_true
/-- … and from 2^70 on the `as i64` cast truncates: the move is silently wrong (2 instead of 2^63). -/
theorem C17_old_truncates : moveFeeMultiplierOld (2 ^ 70) 127 true = some (2 ^ 70 + 1) :=
  moveFeeMultiplierOld_2p70_true
/-- … and the repaired code agrees with it wherever it did not panic or truncate. -/
theorem C17_old_agrees (m : Nat) (δ : Int) (tip901 : Bool) (h2 : 2 ≤ m) (hm : m < 2 ^ 63)
    (hδ : -128 ≤ δ ∧ δ ≤ 127) :
    moveFeeMultiplierOld m δ tip901 = some (moveFeeMultiplier m δ tip901) := by
  exact moveFeeMultiplierOld_agrees m δ tip901 h2 hm hδ

example : moveFeeMultiplier 1000000 (-128) true = 992188 ∧ moveFeeMultiplier 1 (-128) true = 0
    ∧ moveFeeMultiplier 100 127 true = 101 := by
  decide

#print axioms C17_closed_form
#print axioms C17_exact
#print axioms C17_exact_range
#print axioms C17_no_wrap
#print axioms C17_no_action
#print axioms C17_action
#print axioms C17_old_underflow
#print axioms C17_old_i64_overflow
#print axioms C17_old_truncates
#print axioms C17_old_agrees

end Mel

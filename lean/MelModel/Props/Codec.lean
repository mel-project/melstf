/-
  The serialisation glue of the state transition function (MelModel/Stdcode.lean): the decoder of stake documents
  (C13: "registers a stake only if … the declared staked amount …" — the declaration is what this decoder reads out of
  `tx.data`), the decoder of the proof-of-work payload (C18: "… at the stated difficulty" — stated in `tx.data`), and the
  serialised size of a transaction (C05: "weight is its serialized size plus …").  C09 relies on all three being total.
  What is proved about the primitives (little-endian strings, the varint reader, the normal forms of the decoders) is in
  MelModel/Lemmas/CodecL.lean.
-/
import MelModel.Stdcode
import MelModel.Lemmas.CodecL
namespace Mel
open Mel.Stdcode

theorem Codec_putVarint_length (n : Nat) : (putVarint n).length = varintLen n := putVarint_length n

theorem Codec_varint64_roundtrip (n : Nat) (h : n < 2 ^ 64) (rest : Bytes) :
    getVarint64 (putVarint n ++ rest) = some (n, rest) := by
  rw [getVarint64_eq]; exact getVarintW_putVarint false n h rest

theorem Codec_varint128_roundtrip (n : Nat) (h : n < 2 ^ 128) (rest : Bytes) :
    getVarint128 (putVarint n ++ rest) = some (n, rest) := by
  rw [getVarint128_eq]; exact getVarintW_putVarint true n h rest

theorem Codec_varint64_range (bs rest : Bytes) (n : Nat) (h : getVarint64 bs = some (n, rest)) :
    n < 2 ^ 64 ∧ ∃ used, bs = used ++ rest ∧ 1 ≤ used.length ∧ used.length ≤ 9 := by
  rw [getVarint64_eq] at h; exact getVarintW_range h

theorem Codec_varint128_range (bs rest : Bytes) (n : Nat) (h : getVarint128 bs = some (n, rest)) :
    n < 2 ^ 128 ∧ ∃ used, bs = used ++ rest ∧ 1 ≤ used.length ∧ used.length ≤ 17 := by
  rw [getVarint128_eq] at h; exact getVarintW_range h

/-- bincode's decoder does not insist on the shortest form: 5 can be spelled in one byte or in three -/
theorem Codec_varint_not_canonical_actual :
    getVarint64 [5] = some (5, []) ∧ getVarint64 [251, 5, 0] = some (5, []) := by
  decide +kernel

theorem C13_stakedoc_roundtrip (d : StakeDoc) (h : StakeDoc.Fits d) : decodeStakeDoc (encodeStakeDoc d) = some d := by
  obtain ⟨hpk, he, he', hs⟩ := h
  unfold encodeStakeDoc
  rw [List.append_assoc, List.append_assoc]
  have h3 := Codec_varint128_roundtrip d.symsStaked hs []
  rw [List.append_nil] at h3
  rw [decodeStakeDoc_of (takeN_append hpk _) (Codec_varint64_roundtrip _ he _) (Codec_varint64_roundtrip _ he' _) h3]
  exact if_pos rfl

/-- a decoded document has fields of the Rust type's widths (so nothing downstream can overflow on them) -/
theorem C13_stakedoc_decoded_fits (bs : Bytes) (d : StakeDoc) (h : decodeStakeDoc bs = some d) : StakeDoc.Fits d := by
  obtain ⟨r₁, r₂, r₃, h0, h1, h2, h3⟩ := decodeStakeDoc_inv h
  exact ⟨(takeN_spec h0).2, (Codec_varint64_range _ _ _ h1).1, (Codec_varint64_range _ _ _ h2).1,
    (Codec_varint128_range _ _ _ h3).1⟩

/-- the whole input is consumed: a decodable string followed by anything is not decodable -/
theorem C13_stakedoc_no_trailing (bs t : Bytes) (d : StakeDoc) (h : decodeStakeDoc bs = some d) (ht : t ≠ []) :
    decodeStakeDoc (bs ++ t) = none := by
  obtain ⟨r₁, r₂, r₃, h0, h1, h2, h3⟩ := decodeStakeDoc_inv h
  rw [decodeStakeDoc_of (takeN_ext t h0) (getVarint64_append t h1) (getVarint64_append t h2) (getVarint128_append t h3)]
  exact if_neg (by rwa [List.nil_append])

/-- … and no proper prefix of a decodable string is decodable -/
theorem C13_stakedoc_no_prefix (bs t : Bytes) (d : StakeDoc) (h : decodeStakeDoc (bs ++ t) = some d) (ht : t ≠ []) :
    decodeStakeDoc bs = none := by
  cases h' : decodeStakeDoc bs with
  | none => rfl
  | some d' =>
    rw [C13_stakedoc_no_trailing bs t d' h' ht] at h
    cases h

theorem C13_stakedoc_length (bs : Bytes) (d : StakeDoc) (h : decodeStakeDoc bs = some d) :
    35 ≤ bs.length ∧ bs.length ≤ 67 := by
  obtain ⟨r₁, r₂, r₃, h0, h1, h2, h3⟩ := decodeStakeDoc_inv h
  obtain ⟨e0, l0⟩ := takeN_spec h0
  obtain ⟨_, u1, e1, l1, l1'⟩ := Codec_varint64_range _ _ _ h1
  obtain ⟨_, u2, e2, l2, l2'⟩ := Codec_varint64_range _ _ _ h2
  obtain ⟨_, u3, e3, l3, l3'⟩ := Codec_varint128_range _ _ _ h3
  subst e0; subst e1; subst e2; subst e3
  simp only [List.length_append, List.length_nil]
  omega

theorem C13_stakedoc_encode_injective (d d' : StakeDoc) (h : StakeDoc.Fits d) (h' : StakeDoc.Fits d')
    (he : encodeStakeDoc d = encodeStakeDoc d') : d = d' := by
  have := C13_stakedoc_roundtrip d h
  rw [he, C13_stakedoc_roundtrip d' h'] at this
  exact (Option.some.inj this).symm

/-- the converse fails (bincode reads non-minimal integers): two byte strings, one stake document -/
theorem C13_stakedoc_not_canonical_actual :
    decodeStakeDoc (List.replicate 32 7 ++ [1, 2, 3]) =
      some { pubkey := List.replicate 32 7, eStart := 1, ePostEnd := 2, symsStaked := 3 } ∧
    decodeStakeDoc (List.replicate 32 7 ++ [251, 1, 0, 2, 3]) =
      some { pubkey := List.replicate 32 7, eStart := 1, ePostEnd := 2, symsStaked := 3 } := by
  decide +kernel

/-- a u128 literal where a u64 epoch is expected is refused (so is the reserved marker 255) -/
theorem C13_stakedoc_wide_epoch_refused (pk : Bytes) (hpk : pk.length = 32) (rest : Bytes) :
    decodeStakeDoc (pk ++ 254 :: rest) = none ∧ decodeStakeDoc (pk ++ 255 :: rest) = none := by
  constructor <;> (unfold decodeStakeDoc; rw [takeN_append hpk]; rfl)

theorem C18_pow_roundtrip (difficulty : Nat) (proof : Bytes) (hd : difficulty < 2 ^ 32) (hp : proof.length < 2 ^ 64) :
    decodePow (encodePow difficulty proof) = some (difficulty, proof) := by
  unfold encodePow putBytes
  have : takeN proof.length proof = some (proof, []) := by simp [takeN]
  rw [decodePow_of_some (Codec_varint64_roundtrip _ (by omega) _) hd (Codec_varint64_roundtrip _ hp _) this]
  exact if_pos rfl

/-- the stated difficulty fits a u32, and the proof is part of the data (no allocation beyond the input) -/
theorem C18_pow_decoded_bounds (bs proof : Bytes) (d : Nat) (h : decodePow bs = some (d, proof)) :
    d < 2 ^ 32 ∧ proof.length + 2 ≤ bs.length := by
  obtain ⟨hd, r₁, len, r₂, h0, h1, h2⟩ := decodePow_inv h
  refine ⟨hd, ?_⟩
  obtain ⟨_, u0, e0, l0, _⟩ := Codec_varint64_range _ _ _ h0
  obtain ⟨_, u1, e1, l1, _⟩ := Codec_varint64_range _ _ _ h1
  obtain ⟨e2, _⟩ := takeN_spec h2
  subst e0; subst e1; subst e2
  simp only [List.length_append, List.length_nil]
  omega

theorem C18_pow_no_trailing (bs t proof : Bytes) (d : Nat) (h : decodePow bs = some (d, proof)) (ht : t ≠ []) :
    decodePow (bs ++ t) = none := by
  obtain ⟨hd, r₁, len, r₂, h0, h1, h2⟩ := decodePow_inv h
  rw [decodePow_of_some (getVarint64_append t h0) hd (getVarint64_append t h1) (takeN_ext t h2)]
  exact if_neg (by rwa [List.nil_append])

/-- a difficulty that does not fit a u32 is refused although the integer itself decodes -/
theorem C18_pow_wide_difficulty_refused :
    decodePow ([253, 0, 0, 0, 0, 1, 0, 0, 0] ++ [0]) = none ∧ decodePow ([252, 255, 255, 255, 255] ++ [0]) = some (2 ^ 32 - 1, []) := by
  decide +kernel

/-- a length prefix that promises more than the data holds is refused -/
theorem C18_pow_short_proof_refused (d : Nat) (hd : d < 2 ^ 32) (proof : Bytes) (n : Nat) (hn : proof.length < n)
    (hn64 : n < 2 ^ 64) : decodePow (putVarint d ++ putVarint n ++ proof) = none := by
  rw [List.append_assoc]
  exact decodePow_of_none (Codec_varint64_roundtrip _ (by omega) _) hd (Codec_varint64_roundtrip _ hn64 _)
    (if_neg (by omega))

/-- at least seven bytes, and at least as long as everything it carries -/
theorem C05_size_lower (tx : Tx) :
    7 ≤ txLen tx ∧ tx.data.length < txLen tx ∧ 33 * tx.inputs.length < txLen tx ∧ 35 * tx.outputs.length < txLen tx ∧
    (tx.covenants.map List.length).sum < txLen tx ∧ (tx.sigs.map List.length).sum < txLen tx := by
  have := size_lower_sum tx
  omega

/-- the size does not depend on the supplied facts (hash, covenant hashes, decoded payloads) -/
theorem C05_size_of_content (tx tx' : Tx) (hk : tx.inputs.length = tx'.inputs.length) (ho : tx.outputs = tx'.outputs)
    (hf : tx.fee = tx'.fee) (hc : tx.covenants = tx'.covenants) (hd : tx.data = tx'.data) (hs : tx.sigs = tx'.sigs) :
    txLen tx = txLen tx' := by
  unfold txLen
  rw [hk, ho, hf, hc, hd, hs]

/-- one more output costs at least 35 bytes and at most 99 bytes plus its denomination's and additional data's bytes
    (32 of covenant hash, three integers of at most 17, at most 8 more when the output count crosses a width) -/
theorem C05_size_output (tx : Tx) (c : CoinData) :
    txLen tx + 35 ≤ txLen { tx with outputs := tx.outputs ++ [c] } ∧
    txLen { tx with outputs := tx.outputs ++ [c] } ≤ txLen tx + 99 + c.denom.toBytes.length + c.additionalData.length := by
  unfold txLen
  simp only [List.length_append, List.length_cons, List.length_nil, List.map_append, List.sum_append, List.map_cons,
    List.map_nil, List.sum_cons, List.sum_nil, Nat.zero_add, Nat.add_zero]
  have h1 := varintLen_succ tx.outputs.length
  have h2 := coinDataLen_bounds c
  omega

/-- signatures are paid for: appending a signature of `n` bytes grows the size by more than `n` -/
theorem C05_size_sig (tx : Tx) (sig : Bytes) :
    txLen tx + sig.length < txLen { tx with sigs := tx.sigs ++ [sig] } := by
  unfold txLen
  simp only [List.length_append, List.length_cons, List.length_nil, List.map_append, List.sum_append, List.map_cons,
    List.map_nil, List.sum_cons, List.sum_nil, Nat.zero_add, Nat.add_zero]
  have h1 := varintLen_succ tx.sigs.length
  have h2 := bytesLen_gt sig
  omega

/-! ### non-vacuity -/

example : StakeDoc.Fits { pubkey := List.replicate 32 7, eStart := 1, ePostEnd := 2, symsStaked := 3 } := by
  refine ⟨by simp, by simp, by simp, by simp⟩

example : decodePow (encodePow 8 [1, 2, 3]) = some (8, [1, 2, 3]) := by decide +kernel

example : txLen { kind := .normal, inputs := [], outputs := [], fee := 0, covenants := [], data := [], sigs := [],
                  hash := [], rawLen := 0, covHashes := [] } = 7 := by decide +kernel

end Mel

#print axioms Mel.Codec_putVarint_length
#print axioms Mel.Codec_varint64_roundtrip
#print axioms Mel.Codec_varint128_roundtrip
#print axioms Mel.Codec_varint64_range
#print axioms Mel.Codec_varint128_range
#print axioms Mel.Codec_varint_not_canonical_actual
#print axioms Mel.C13_stakedoc_roundtrip
#print axioms Mel.C13_stakedoc_decoded_fits
#print axioms Mel.C13_stakedoc_no_trailing
#print axioms Mel.C13_stakedoc_no_prefix
#print axioms Mel.C13_stakedoc_length
#print axioms Mel.C13_stakedoc_encode_injective
#print axioms Mel.C13_stakedoc_not_canonical_actual
#print axioms Mel.C13_stakedoc_wide_epoch_refused
#print axioms Mel.C18_pow_roundtrip
#print axioms Mel.C18_pow_decoded_bounds
#print axioms Mel.C18_pow_no_trailing
#print axioms Mel.C18_pow_wide_difficulty_refused
#print axioms Mel.C18_pow_short_proof_refused
#print axioms Mel.C05_size_lower
#print axioms Mel.C05_size_of_content
#print axioms Mel.C05_size_output
#print axioms Mel.C05_size_sig

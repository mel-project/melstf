/-
  C06 over histories — on top of every sealed reachable state every honest block is accepted (the
  `assert!(pools.count() >= 2)` of `apply_block` can never fire); and, with collision-free roots, the sharp form of
  "changing a transaction or the action makes the block rejected": two accepted blocks with the same header on the
  same parent have the same transactions and actions of the same effect; and an honest block is accepted whatever
  the order its transactions are offered in.
-/
import MelModel.Props.C06
import MelModel.Props.C07Chain
import MelModel.Props.C07Hist
import MelModel.Props.C09Reach
import MelModel.Lemmas.BlockHistL
import MelModel.Lemmas.SeqL
import MelModel.Lemmas.SealCongL
namespace Mel
open Mel.Gen Mel.TotalSealL

theorem C06_reachableB_two_pools {env : Env} {s : State} (h : ReachableB env s) (hpos : 0 < s.height) :
    2 ≤ s.pools.length := by
  obtain ⟨p1, h1, -⟩ := C16_builtins_reachable h hpos poolMelSym (by simp)
  obtain ⟨p2, h2, -⟩ := C16_builtins_reachable h hpos poolMelErg (by simp)
  have := two_le_length_of_get poolMelSym_ne_poolMelErg (by rw [h1]; rfl) (by rw [h2]; rfl)
  omega

/-- The assertion of `apply_block` never fires on a sealed reachable state: whatever the block, the outcome is
    not the crash `assert!(pools.count() >= 2)` — the only crash `applyBlock` adds to those of its parts.  The parent
    `ss` is any seal of a `ReachableB` state `s` (with the step assumptions `SealBounds`, `RewardFresh` of that seal),
    so the state `basis` opened on it is `ReachableB` at a height > 0 and holds the two builtin pools
    (`PoolsInv.priced`, `C16_builtins_reachable`) -/
theorem C06_assert_never_fires (env : Env) (s : State) (a0 : Option ProposerAction) (ss : Sealed) (basis : State)
    (hr : ReachableB env s) (hb : SealBounds s) (hrf : RewardFresh env s)
    (h0 : sealState env s a0 = .ok ss) (h1 : nextUnsealed env ss = .ok basis) : 2 ≤ basis.pools.length := by
  obtain ⟨-, -, -, f2, -⟩ := nextUnsealed_ok _ _ _ h1
  exact C06_reachableB_two_pools (.block hr hrf hb h0 h1) (f2 ▸ Nat.succ_pos _)

/-- Every honest block on top of a sealed reachable state is accepted — `C06_honest` without the hypothesis
    `2 ≤ basis.pools.length` -/
theorem C06_honest_reachable (env : Env) (s : State) (a0 a : Option ProposerAction) (ss sealed : Sealed)
    (basis u : State) (txs : List Tx) (hdr fb : Header)
    (hr : ReachableB env s) (hb : SealBounds s) (hrf : RewardFresh env s)
    (h0 : sealState env s a0 = .ok ss) (h1 : nextUnsealed env ss = .ok basis)
    (h2 : applyBatch env basis txs fb = .ok u) (h3 : sealState env u a = .ok sealed)
    (h4 : headerOf env sealed = .ok hdr) :
    applyBlock env ss { header := hdr, transactions := txs, action := a } = .ok sealed :=
  C06_honest env ss sealed basis u txs a hdr fb h1 (C06_assert_never_fires env s a0 ss basis hr hb hrf h0 h1) h2 h3 h4

/-- … and the block that `to_block` makes of the honest successor is accepted: the full producer path (seal the
    parent, open the next block, apply a batch, seal, `to_block`) followed by `apply_block` on the parent -/
theorem C06_produced_block_accepted (env : Env) (s : State) (a0 a : Option ProposerAction) (ss sealed : Sealed)
    (basis u : State) (txs : List Tx) (fb : Header)
    (hr : ReachableB env s) (hb : SealBounds s) (hrf : RewardFresh env s)
    (h0 : sealState env s a0 = .ok ss) (h1 : nextUnsealed env ss = .ok basis)
    (h2 : applyBatch env basis txs fb = .ok u) (h3 : sealState env u a = .ok sealed) :
    ∃ hdr, headerOf env sealed = .ok hdr ∧
      applyBlock env ss { header := hdr, transactions := txs, action := a } = .ok sealed := by
  have hrb : ReachableB env basis := .block hr hrf hb h0 h1
  have hc : BlockHistL.HistChain env u := BlockHistL.histChain_batch h2 (reachable_histChain hrb.reachable)
  obtain ⟨e1, e2, -⟩ := sealState_hhn _ _ _ _ h3
  obtain ⟨hdr, hh⟩ := headerOf_total env sealed (by rw [e1, e2]; exact fun h0 => hc.full _ (Nat.sub_one_lt h0))
  exact ⟨hdr, hh, C06_honest_reachable env s a0 a ss sealed basis u txs hdr fb hr hb hrf h0 h1 h2 h3 hh⟩

/-- An honest block is accepted whatever the order its transactions are offered in (`HashSet<Transaction>`
    has no order): if the block built from the batch `txs` has header `hdr`, then the block with the same header
    and action and any permutation `txs'` of `txs` is accepted, and the state it yields has header `hdr` and is
    observationally equivalent (`BatchEquiv`) to the honest one.

    Route: `C03_perm` gives an equivalent state after the batch (its side conditions: the hashes are distinct —
    implied by acceptance, `C03_accepted_fresh`; the count invariant, the sorted (here: empty) transaction list —
    discharged by reachability; what remains are the hash assumptions `fresh`, `markers`, `gfMarkers` and the
    typing bounds on fee pool and tips); `BatchEquiv` is weaker than equality (the coin and stake association lists
    may be ordered differently), so `sealState` is shown to respect it (`SealCongL.sealState_cong`, a congruence
    proof through Melmint, the subsidy and the proposer action) and `headerOf` respects it once the roots are
    functions of the maps' content.

    The statement is false without `hx : RootsExtensional env` (`C06_any_order_needs_extensional`): the model keeps coins
    and stakes in association lists and `Env.coinsRoot` is an arbitrary function of the list; the sparse Merkle tree
    of the implementation is a function of the content. -/
theorem C06_honest_any_order (env : Env) (hx : RootsExtensional env) (s : State) (a0 a : Option ProposerAction)
    (ss sealed : Sealed) (basis u : State) (txs txs' : List Tx) (hdr fb : Header)
    (hr : ReachableB env s) (hb : SealBounds s) (hrf : RewardFresh env s)
    (h0 : sealState env s a0 = .ok ss) (h1 : nextUnsealed env ss = .ok basis)
    (h906 : basis.tip906 = true) (hp : txs.Perm txs')
    (fresh : ∀ t ∈ txs, ∀ i, basis.coins.getCoin ⟨t.hash, i⟩ = none)
    (markers : ∀ t ∈ txs, t.kind = .faucet → env.isGrandfathered t.hash = false →
              (∀ v ∈ txs, (⟨env.fdp t.hash, 0⟩ : CoinID) ∉ v.inputs ∧ env.fdp t.hash ≠ v.hash) ∧
              (∀ v ∈ txs, v.kind = .faucet → env.fdp v.hash = env.fdp t.hash → v = t))
    (gfMarkers : ∀ t ∈ txs, t.kind = .faucet → env.isGrandfathered t.hash = true →
              ∀ v ∈ txs, (⟨env.fdp t.hash, 0⟩ : CoinID) ∉ v.inputs)
    (hfee : basis.feePool ≤ U128_MAX) (htips : basis.tips ≤ U128_MAX)
    (h2 : applyBatch env basis txs fb = .ok u) (h3 : sealState env u a = .ok sealed)
    (h4 : headerOf env sealed = .ok hdr) :
    ∃ sealed', applyBlock env ss { header := hdr, transactions := txs', action := a } = .ok sealed' ∧
      headerOf env sealed' = .ok hdr ∧ sealed'.action = a ∧ BatchEquiv sealed.st sealed'.st := by
  have hrb : ReachableB env basis := .block hr hrf hb h0 h1
  have hpools : 2 ≤ basis.pools.length := C06_assert_never_fires env s a0 ss basis hr hb hrf h0 h1
  have hbt : basis.txs = [] := nextUnsealed_txs h1
  obtain ⟨u', g2, eu⟩ := C03_perm env basis u txs txs' fb hp
    { hashes := (C03_accepted_fresh env basis u txs fb h2).1, markers := markers, gfMarkers := gfMarkers,
      fresh := fresh, counts := (countsFine_iff _).mpr (hrb.inv.counts h906),
      sorted := by rw [hbt]; trivial, feePool := hfee, tips := htips } h2
  obtain ⟨sealed', g3, ga, es⟩ := SealCongL.sealState_cong env u u' a sealed eu h3
  have g4 : headerOf env sealed' = .ok hdr := by rw [C07_header_respects_equiv env hx sealed sealed' es]; exact h4
  exact ⟨sealed', C06_honest env ss sealed' basis u' txs' a hdr fb h1 hpools g2 g3 g4, g4,
    ga.trans (sealState_action env u a sealed h3), es⟩

def blockActionMultiplier (m : Nat) (tip901 : Bool) : Option ProposerAction → Nat
  | none => m
  | some a => moveFeeMultiplier m a.feeMultiplierDelta tip901

theorem C06_applyBlock_parts {env : Env} {ss s' : Sealed} {blk : Block} (h : applyBlock env ss blk = .ok s') :
    ∃ basis applied, nextUnsealed env ss = .ok basis ∧
      applyBatch env basis blk.transactions default = .ok applied ∧
      sealState env applied blk.action = .ok s' ∧ headerOf env s' = .ok blk.header ∧
      s'.st.height = basis.height ∧ s'.st.network = basis.network ∧
      applied.height = basis.height ∧ applied.network = basis.network ∧
      applied.feeMultiplier = basis.feeMultiplier ∧
      (blk.transactions.map (·.hash)).Nodup ∧ ∀ t, t ∈ s'.st.txs ↔ t ∈ blk.transactions := by
  obtain ⟨basis, applied, h1, -, h2, h3, h4⟩ := (C06_iff env ss s' blk).1 h
  have f := applyBatch_frame h2
  obtain ⟨-, b2, b3⟩ := sealState_hhn _ _ _ _ h3
  obtain ⟨hnd, hmem⟩ := BlockHistL.mem_txs_of_block h1 h2
  refine ⟨basis, applied, h1, h2, h3, h4, b2.trans f.height, b3.trans f.network, f.height, f.network, f.feeMultiplier,
    hnd, fun t => ?_⟩
  rw [(sealState_keeps h3).txs]
  exact hmem t

/-- two accepted blocks on the same parent with the same header: both sealed states have that header, and `tip908`,
    which `C07_sensitive` takes as a hypothesis, agrees because height and network do -/
theorem same_header_parts {env : Env} {ss s₁ s₂ : Sealed} {b₁ b₂ : Block} (hh : b₁.header = b₂.header)
    (h₁ : applyBlock env ss b₁ = .ok s₁) (h₂ : applyBlock env ss b₂ = .ok s₂) :
    headerOf env s₁ = .ok b₁.header ∧ headerOf env s₂ = .ok b₁.header ∧ s₁.st.tip908 = s₂.st.tip908 := by
  obtain ⟨basis₁, -, n1, -, -, x1, hh1, hn1, -⟩ := C06_applyBlock_parts h₁
  obtain ⟨basis₂, -, n2, -, -, x2, hh2, hn2, -⟩ := C06_applyBlock_parts h₂
  cases n1.symm.trans n2
  exact ⟨x1, hh ▸ x2, tip908_congr (hh1.trans hh2.symm) (hn1.trans hn2.symm)⟩

/-- Same parent, same header ⇒ same sealed state (collision-free roots): two accepted blocks on the same
    parent that carry the same header yield sealed states that agree on the coins, the per-covenant counts, the pools,
    the stakes, the transaction list, the history, the fee pool, the fee multiplier, the DOSC speed, the height and
    the network — on every field of the state except the pending tips, which no header commits to (C08). -/
theorem C06_same_header_same_content (env : Env) (hi : RootsInjective env) (ss s₁ s₂ : Sealed) (b₁ b₂ : Block)
    (hh : b₁.header = b₂.header)
    (h₁ : applyBlock env ss b₁ = .ok s₁) (h₂ : applyBlock env ss b₂ = .ok s₂) :
    s₁.st.coins.coins = s₂.st.coins.coins ∧ s₁.st.coins.counts = s₂.st.coins.counts ∧
    s₁.st.pools = s₂.st.pools ∧ s₁.st.stakes = s₂.st.stakes ∧ s₁.st.txs = s₂.st.txs ∧
    s₁.st.history = s₂.st.history ∧ s₁.st.feePool = s₂.st.feePool ∧
    s₁.st.feeMultiplier = s₂.st.feeMultiplier ∧ s₁.st.doscSpeed = s₂.st.doscSpeed ∧
    s₁.st.height = s₂.st.height ∧ s₁.st.network = s₂.st.network := by
  obtain ⟨x1, x2, ht⟩ := same_header_parts hh h₁ h₂
  exact C07_sensitive env hi s₁ s₂ b₁.header x1 x2 ht

/-- … in one equation: the two states are equal up to the pending tips -/
theorem C06_same_header_same_state (env : Env) (hi : RootsInjective env) (ss s₁ s₂ : Sealed) (b₁ b₂ : Block)
    (hh : b₁.header = b₂.header)
    (h₁ : applyBlock env ss b₁ = .ok s₁) (h₂ : applyBlock env ss b₂ = .ok s₂) :
    s₁.st = { s₂.st with tips := s₁.st.tips } := by
  obtain ⟨coins, counts, pools, stakes, txs, history, feePool, feeMultiplier, doscSpeed, height, network⟩ :=
    C06_same_header_same_content env hi ss s₁ s₂ b₁ b₂ hh h₁ h₂
  exact BlockHistL.state_ext network height history coins counts txs feePool feeMultiplier rfl doscSpeed pools stakes

/-- the same under collision-freeness on content (`RootsCollisionFree`, which is what the trees of the
    implementation offer — `RootsInjective` implies it): the two sealed states hold the same coins, counts, pools,
    stakes and history as maps, and agree on the transaction list and on every scalar except the pending tips -/
theorem C06_same_header_same_content_ext (env : Env) (hi : RootsCollisionFree env) (ss s₁ s₂ : Sealed)
    (b₁ b₂ : Block) (hh : b₁.header = b₂.header)
    (h₁ : applyBlock env ss b₁ = .ok s₁) (h₂ : applyBlock env ss b₂ = .ok s₂) :
    (∀ id, s₁.st.coins.getCoin id = s₂.st.coins.getCoin id) ∧
    (∀ x, s₁.st.coins.coinCount x = s₂.st.coins.coinCount x) ∧
    (∀ k, s₁.st.pools.get k = s₂.st.pools.get k) ∧
    (∀ k, s₁.st.stakes.getStake k = s₂.st.stakes.getStake k) ∧ s₁.st.txs = s₂.st.txs ∧
    (∀ n, s₁.st.history.get n = s₂.st.history.get n) ∧ s₁.st.feePool = s₂.st.feePool ∧
    s₁.st.feeMultiplier = s₂.st.feeMultiplier ∧ s₁.st.doscSpeed = s₂.st.doscSpeed ∧
    s₁.st.height = s₂.st.height ∧ s₁.st.network = s₂.st.network := by
  obtain ⟨x1, x2, ht⟩ := same_header_parts hh h₁ h₂
  exact C07_sensitive_ext env hi s₁ s₂ b₁.header x1 x2 ht

/-- … hence the same transactions: the state keeps whole transactions (sorted by hash), so the two blocks
    hold the same set of transactions — as lists, one is a permutation of the other -/
theorem C06_same_header_same_txs (env : Env) (hi : RootsCollisionFree env) (ss s₁ s₂ : Sealed) (b₁ b₂ : Block)
    (hh : b₁.header = b₂.header)
    (h₁ : applyBlock env ss b₁ = .ok s₁) (h₂ : applyBlock env ss b₂ = .ok s₂) :
    (∀ t, t ∈ b₁.transactions ↔ t ∈ b₂.transactions) ∧ b₁.transactions.Perm b₂.transactions := by
  obtain ⟨-, -, -, -, htx, -⟩ := C06_same_header_same_content_ext env hi ss s₁ s₂ b₁ b₂ hh h₁ h₂
  obtain ⟨-, -, -, -, -, -, -, -, -, -, -, nd1, m1⟩ := C06_applyBlock_parts h₁
  obtain ⟨-, -, -, -, -, -, -, -, -, -, -, nd2, m2⟩ := C06_applyBlock_parts h₂
  have hmem : ∀ t, t ∈ b₁.transactions ↔ t ∈ b₂.transactions := fun t => by
    rw [← m1 t, ← m2 t, htx]
  exact ⟨hmem, (List.perm_ext_iff_of_nodup (nodup_of_nodup_map _ nd1)
    (nodup_of_nodup_map _ nd2)).mpr hmem⟩

theorem C06_same_header_same_hashes (env : Env) (hi : RootsCollisionFree env) (ss s₁ s₂ : Sealed) (b₁ b₂ : Block)
    (hh : b₁.header = b₂.header)
    (h₁ : applyBlock env ss b₁ = .ok s₁) (h₂ : applyBlock env ss b₂ = .ok s₂) :
    ∀ x, x ∈ b₁.transactions.map (·.hash) ↔ x ∈ b₂.transactions.map (·.hash) := by
  intro x
  have hm := (C06_same_header_same_txs env hi ss s₁ s₂ b₁ b₂ hh h₁ h₂).1
  simp only [List.mem_map]
  exact ⟨fun ⟨t, ht, e⟩ => ⟨t, (hm t).1 ht, e⟩, fun ⟨t, ht, e⟩ => ⟨t, (hm t).2 ht, e⟩⟩

/-- … and actions of the same effect.  What the equality of the headers implies about the two actions,
    exactly:
    * the multiplier movement is the same (`blockActionMultiplier`: no action = no movement);
    * an action of either block has its reward coin — id `proposer_reward(height)`, locked by the action's destination,
      denominated in MEL, created at the block's height — in both sealed states; so if both blocks carry an action,
      the two destinations are equal;
    * whether there is an action at all is not implied (`C06_action_presence_not_implied`): a block without action
      can carry the header of a block with one when the reward pseudo-coin id is not kept apart from the other coin
      ids (a transaction output sitting at that id with value 0, the fee pool below 2^16 and no tips).  It is
      implied once the sealed state of a block without action holds no coin at the reward id — which is what
      domain separation of `CoinID::proposer_reward` (`RewardFresh`) is about. -/
theorem C06_same_header_same_action_effect (env : Env) (hi : RootsCollisionFree env) (ss s₁ s₂ : Sealed)
    (b₁ b₂ : Block) (basis : State) (hn : nextUnsealed env ss = .ok basis) (hh : b₁.header = b₂.header)
    (h₁ : applyBlock env ss b₁ = .ok s₁) (h₂ : applyBlock env ss b₂ = .ok s₂) :
    blockActionMultiplier basis.feeMultiplier basis.tip901 b₁.action =
      blockActionMultiplier basis.feeMultiplier basis.tip901 b₂.action ∧
    (∀ a, b₁.action = some a ∨ b₂.action = some a → ∃ v,
      s₁.st.coins.getCoin { txhash := env.rewardId basis.height, index := 0 } =
        some { coinData := { covhash := a.rewardDest, value := v, denom := .mel, additionalData := [] },
               height := basis.height } ∧
      s₂.st.coins.getCoin { txhash := env.rewardId basis.height, index := 0 } =
        some { coinData := { covhash := a.rewardDest, value := v, denom := .mel, additionalData := [] },
               height := basis.height }) ∧
    (∀ a₁ a₂, b₁.action = some a₁ → b₂.action = some a₂ → a₁.rewardDest = a₂.rewardDest) ∧
    ((b₁.action = none → s₁.st.coins.getCoin { txhash := env.rewardId basis.height, index := 0 } = none) →
     (b₂.action = none → s₂.st.coins.getCoin { txhash := env.rewardId basis.height, index := 0 } = none) →
      (b₁.action = none ↔ b₂.action = none)) := by
  obtain ⟨hget, -, -, -, -, -, -, c8, -⟩ := C06_same_header_same_content_ext env hi ss s₁ s₂ b₁ b₂ hh h₁ h₂
  let rid : CoinID := { txhash := env.rewardId basis.height, index := 0 }
  let reward (a : ProposerAction) (v : Nat) : CoinDataHeight :=
    { coinData := { covhash := a.rewardDest, value := v, denom := .mel, additionalData := [] }, height := basis.height }
  -- what the seal of an accepted block does, in terms of `basis`
  have key : ∀ (blk : Block) (s' : Sealed), applyBlock env ss blk = .ok s' →
      s'.st.feeMultiplier = blockActionMultiplier basis.feeMultiplier basis.tip901 blk.action ∧
      ∀ a, blk.action = some a → ∃ v, s'.st.coins.getCoin rid = some (reward a v) := by
    intro blk s' h
    obtain ⟨basis', u, n, -, hs, -, -, -, eh, en, ef, -⟩ := C06_applyBlock_parts h
    cases hn.symm.trans n
    generalize blk.action = act at hs ⊢
    cases act with
    | none => exact ⟨(BlockHistL.sealState_none_feeMultiplier hs).trans ef, nofun⟩
    | some a =>
      obtain ⟨e1, v, e2⟩ := BlockHistL.sealState_some_effect hs
      rw [ef, show u.tip901 = basis.tip901 from tipCondition_congr eh en _] at e1
      rw [eh] at e2
      exact ⟨e1, fun a' ha' => by cases ha'; exact ⟨v, e2⟩⟩
  obtain ⟨m1, r1⟩ := key b₁ s₁ h₁
  obtain ⟨m2, r2⟩ := key b₂ s₂ h₂
  have hboth : ∀ a, b₁.action = some a ∨ b₂.action = some a → ∃ v,
      s₁.st.coins.getCoin rid = some (reward a v) ∧ s₂.st.coins.getCoin rid = some (reward a v) := by
    rintro a (ha | ha)
    · obtain ⟨v, hv⟩ := r1 a ha
      exact ⟨v, hv, (hget rid).symm.trans hv⟩
    · obtain ⟨v, hv⟩ := r2 a ha
      exact ⟨v, (hget rid).trans hv, hv⟩
  refine ⟨by rw [← m1, ← m2, c8], hboth, ?_, fun f1 f2 => ⟨fun e1 => ?_, fun e2 => ?_⟩⟩
  · intro a₁ a₂ ha₁ ha₂
    obtain ⟨v₁, p1, -⟩ := hboth a₁ (Or.inl ha₁)
    obtain ⟨v₂, q1, -⟩ := hboth a₂ (Or.inr ha₂)
    rw [p1] at q1
    injection q1 with q1
    injection q1 with q1
    injection q1 with q1
  · refine Option.eq_none_iff_forall_ne_some.2 fun a e2 => ?_
    obtain ⟨v, p1, -⟩ := hboth a (Or.inr e2)
    rw [f1 e1] at p1
    cases p1
  · refine Option.eq_none_iff_forall_ne_some.2 fun a e1 => ?_
    obtain ⟨v, -, p2⟩ := hboth a (Or.inl e1)
    rw [f2 e2] at p2
    cases p2

/-- … and the hypothesis of the last clause follows from the step assumptions the reachability notions make anyway:
    the reward pseudo-coin id of the block's height is not the hash of a transaction of the block, and does not
    exist in the state the block's batch leaves (`RewardFresh` of the state being sealed — what `Reachable.block`
    assumes of every seal).  Under them, two accepted blocks with the same header either both carry an action or
    neither does. -/
theorem C06_same_header_action_presence (env : Env) (hi : RootsCollisionFree env) (ss s₁ s₂ : Sealed)
    (b₁ b₂ : Block) (basis : State) (hn : nextUnsealed env ss = .ok basis) (hh : b₁.header = b₂.header)
    (h₁ : applyBlock env ss b₁ = .ok s₁) (h₂ : applyBlock env ss b₂ = .ok s₂)
    (hsep : ∀ t ∈ b₁.transactions, t.hash ≠ env.rewardId basis.height)
    (hf₁ : ∀ u, applyBatch env basis b₁.transactions default = .ok u → RewardFresh env u)
    (hf₂ : ∀ u, applyBatch env basis b₂.transactions default = .ok u → RewardFresh env u) :
    b₁.action = none ↔ b₂.action = none := by
  have hmem := (C06_same_header_same_txs env hi ss s₁ s₂ b₁ b₂ hh h₁ h₂).1
  have key : ∀ (blk : Block) (s' : Sealed), applyBlock env ss blk = .ok s' →
      (∀ t ∈ blk.transactions, t.hash ≠ env.rewardId basis.height) →
      (∀ u, applyBatch env basis blk.transactions default = .ok u → RewardFresh env u) →
      blk.action = none → s'.st.coins.getCoin { txhash := env.rewardId basis.height, index := 0 } = none := by
    intro blk s' hacc hs hf hnone
    obtain ⟨basis', u, n1, x1, x2, -, -, -, uh, -, -, -, -⟩ := C06_applyBlock_parts hacc
    rw [hn] at n1
    cases n1
    rw [hnone] at x2
    obtain ⟨-, hm⟩ := BlockHistL.mem_txs_of_block hn x1
    rw [BlockHistL.sealState_none_getCoin x2 (fun t ht => hs t ((hm t).1 ht)), ← uh]
    exact hf u x1
  exact (C06_same_header_same_action_effect env hi ss s₁ s₂ b₁ b₂ basis hn hh h₁ h₂).2.2.2
    (key b₁ s₁ h₁ hsep hf₁) (key b₂ s₂ h₂ (fun t ht => hsep t ((hmem t).2 ht)) hf₂)

/-- Changing the transactions makes the block rejected: if `b₁` is accepted, the same block with a transaction
    list that is not the same set of transactions is not accepted (whatever state one hopes for) -/
theorem C06_tx_change_rejected (env : Env) (hi : RootsCollisionFree env) (ss s₁ : Sealed) (b₁ : Block) (txs' : List Tx)
    (h₁ : applyBlock env ss b₁ = .ok s₁) (hd : ¬ ∀ t, t ∈ b₁.transactions ↔ t ∈ txs') :
    ∀ s', applyBlock env ss { b₁ with transactions := txs' } ≠ .ok s' := by
  intro s' h₂
  exact hd (C06_same_header_same_txs env hi ss s₁ s' b₁ { b₁ with transactions := txs' } rfl h₁ h₂).1

/-- … in particular if the sets of transaction hashes differ -/
theorem C06_tx_hash_change_rejected (env : Env) (hi : RootsCollisionFree env) (ss s₁ : Sealed) (b₁ : Block)
    (txs' : List Tx) (h₁ : applyBlock env ss b₁ = .ok s₁)
    (hd : ¬ ∀ x, x ∈ b₁.transactions.map (·.hash) ↔ x ∈ txs'.map (·.hash)) :
    ∀ s', applyBlock env ss { b₁ with transactions := txs' } ≠ .ok s' := by
  intro s' h₂
  exact hd (C06_same_header_same_hashes env hi ss s₁ s' b₁ { b₁ with transactions := txs' } rfl h₁ h₂)

/-- Changing the action makes the block rejected, unless the new action has the same effect: the same block with
    an action that moves the fee multiplier differently is not accepted … -/
theorem C06_action_multiplier_change_rejected (env : Env) (hi : RootsCollisionFree env) (ss s₁ : Sealed) (b₁ : Block)
    (basis : State) (a' : Option ProposerAction) (hn : nextUnsealed env ss = .ok basis)
    (h₁ : applyBlock env ss b₁ = .ok s₁)
    (hd : blockActionMultiplier basis.feeMultiplier basis.tip901 b₁.action ≠
      blockActionMultiplier basis.feeMultiplier basis.tip901 a') :
    ∀ s', applyBlock env ss { b₁ with action := a' } ≠ .ok s' := by
  intro s' h₂
  exact hd (C06_same_header_same_action_effect env hi ss s₁ s' b₁ { b₁ with action := a' } basis hn rfl h₁ h₂).1

/-- … and neither is the same block with the reward sent elsewhere -/
theorem C06_action_dest_change_rejected (env : Env) (hi : RootsCollisionFree env) (ss s₁ : Sealed) (b₁ : Block)
    (a₁ a' : ProposerAction) (ha : b₁.action = some a₁) (h₁ : applyBlock env ss b₁ = .ok s₁)
    (hd : a₁.rewardDest ≠ a'.rewardDest) :
    ∀ s', applyBlock env ss { b₁ with action := some a' } ≠ .ok s' := by
  intro s' h₂
  obtain ⟨basis, -, hn, -⟩ := C06_applyBlock_parts h₁
  exact hd ((C06_same_header_same_action_effect env hi ss s₁ s' b₁ { b₁ with action := some a' } basis hn rfl
    h₁ h₂).2.2.1 a₁ a' ha rfl)

namespace C06HistWitness
open ReachWitness (cfg u getOk eq_getOk)

/-- a coins "root" that depends on the order of the association list: the transaction hash of its first key -/
def firstKey (m : CoinMap) : Hash :=
  match m.coins with
  | [] => []
  | e :: _ => e.1.txhash

/-- `ReachWitness.env` with constant roots (`true`: trivially functions of the content) or with the
    order-dependent coins root (`false`) -/
def envB (b : Bool) : Env := { ReachWitness.env with coinsRoot := if b then (fun _ => []) else firstKey }

def x : Tx := {
  kind := .faucet, inputs := [], outputs := [(⟨[6], 2, .mel, []⟩ : CoinData)], fee := 0,
  covenants := [], data := [], sigs := [], hash := [4], rawLen := 0, covHashes := [] }
def f : Tx := {
  kind := .faucet, inputs := [], outputs := [(⟨[5], 1, .mel, []⟩ : CoinData)], fee := 0,
  covenants := [], data := [], sigs := [], hash := [3], rawLen := 0, covHashes := [] }

/-- genesis → batch `[u]` (a swap) → seal → next block (height 1) → batch `[x, f]` → seal → header -/
def s1 (b : Bool) : State := getOk (applyBatch (envB b) (genesisState cfg) [u] default)
def ss1 (b : Bool) : Sealed := getOk (sealState (envB b) (s1 b) none)
def s2 (b : Bool) : State := getOk (nextUnsealed (envB b) (ss1 b))
def u2 (b : Bool) : State := getOk (applyBatch (envB b) (s2 b) [x, f] default)
def sealed2 (b : Bool) : Sealed := getOk (sealState (envB b) (u2 b) none)
def hdr2 (b : Bool) : Header := getOk (headerOf (envB b) (sealed2 b))

/-- what is evaluated about the history, once for each of the two environments: every step succeeds; `s1` meets
    `RewardFresh` and the numeric part of `SealBounds`; the hypotheses of `C06_honest_any_order` about `s2`; heights;
    and, with the order-dependent coins root, the reordered block is rejected -/
theorem facts (b : Bool) :
    ((applyBatch (envB b) (genesisState cfg) [u] default).isOk = true ∧ (sealState (envB b) (s1 b) none).isOk = true ∧
      (nextUnsealed (envB b) (ss1 b)).isOk = true ∧ (applyBatch (envB b) (s2 b) [x, f] default).isOk = true ∧
      (sealState (envB b) (u2 b) none).isOk = true ∧ (headerOf (envB b) (sealed2 b)).isOk = true) ∧
    ((s1 b).coins.getCoin ⟨(envB b).rewardId (s1 b).height, 0⟩ = none ∧ (s1 b).feePool + (s1 b).tips + 2 ^ 21 ≤ 2 ^ 127 ∧
      melInflow (s1 b).txs ≤ 2 ^ 124 ∧ (s1 b).height < TIP_909_HEIGHT + 128 * SUBSIDY_HALVING) ∧
    ((s2 b).tip906 = true ∧ (s2 b).feePool ≤ U128_MAX ∧ (s2 b).tips ≤ U128_MAX ∧
      AList.keys (s2 b).coins.coins = [⟨[9, 2], 0⟩]) ∧
    ((ss1 b).st.height = 0 ∧ (sealed2 b).st.height = 1 ∧ (hdr2 b).height = 1) ∧
    (b = false → (applyBlock (envB b) (ss1 b)
      { header := hdr2 b, transactions := [f, x], action := none }).rejectedWith .wrongHeader = true) := by
  cases b <;> decide +kernel

theorem steps (b : Bool) :
    applyBatch (envB b) (genesisState cfg) [u] default = .ok (s1 b) ∧ sealState (envB b) (s1 b) none = .ok (ss1 b) ∧
    nextUnsealed (envB b) (ss1 b) = .ok (s2 b) ∧ applyBatch (envB b) (s2 b) [x, f] default = .ok (u2 b) ∧
    sealState (envB b) (u2 b) none = .ok (sealed2 b) ∧ headerOf (envB b) (sealed2 b) = .ok (hdr2 b) := by
  obtain ⟨⟨h1, h2, h3, h4, h5, h6⟩, -⟩ := facts b
  exact ⟨eq_getOk h1, eq_getOk h2, eq_getOk h3, eq_getOk h4, eq_getOk h5, eq_getOk h6⟩

theorem s1_reachable (b : Bool) : ReachableB (envB b) (s1 b) := by
  refine .batch (.genesis cfg) C09ReachWitness.batchFresh (fun t ht hk => ?_) (steps b).1
  cases List.mem_singleton.1 ht
  exact absurd hk (by decide)

theorem s1_sealable (b : Bool) : SealBounds (s1 b) ∧ RewardFresh (envB b) (s1 b) := by
  obtain ⟨-, ⟨hfresh, hfee, hin, hht⟩, -⟩ := facts b
  refine ⟨⟨hfee, fun p hp => ?_, hin, hht⟩, hfresh⟩
  rw [(applyBatch_frame (steps b).1).pools] at hp
  cases hp

theorem s2_facts (b : Bool) : (s2 b).tip906 = true ∧ (s2 b).feePool ≤ U128_MAX ∧ (s2 b).tips ≤ U128_MAX ∧
    AList.keys (s2 b).coins.coins = [⟨[9, 2], 0⟩] := (facts b).2.2.1

theorem fresh2 (b : Bool) : ∀ t ∈ [x, f], ∀ i, (s2 b).coins.getCoin ⟨t.hash, i⟩ = none := by
  intro t ht i
  unfold CoinMap.getCoin
  rw [AList.get_eq_none_iff_not_mem_keys, (s2_facts b).2.2.2]
  simp only [List.mem_cons, List.not_mem_nil, or_false] at ht
  rcases ht with rfl | rfl <;> simp [x, f]

theorem markers2 (b : Bool) : ∀ t ∈ [x, f], t.kind = .faucet → (envB b).isGrandfathered t.hash = false →
    (∀ v ∈ [x, f], (⟨(envB b).fdp t.hash, 0⟩ : CoinID) ∉ v.inputs ∧ (envB b).fdp t.hash ≠ v.hash) ∧
    (∀ v ∈ [x, f], v.kind = .faucet → (envB b).fdp v.hash = (envB b).fdp t.hash → v = t) := by
  have hin : ∀ v ∈ [x, f], v.inputs = [] ∧ v.hash.length = 1 := by decide
  have hinj : ∀ v ∈ [x, f], ∀ t ∈ [x, f], v.hash = t.hash → v = t := by decide
  have hfdp : ∀ h, (envB b).fdp h = 9 :: h := fun _ => rfl
  intro t ht _ _
  refine ⟨fun v hv => ⟨?_, fun e => ?_⟩, fun v hv _ he => hinj v hv t ht ?_⟩
  · rw [(hin v hv).1]
    exact List.not_mem_nil
  · have := congrArg List.length e
    rw [hfdp, List.length_cons, (hin v hv).2, (hin t ht).2] at this
    cases this
  · rw [hfdp, hfdp] at he
    exact (List.cons.inj he).2

theorem gfMarkers2 (b : Bool) : ∀ t ∈ [x, f], t.kind = .faucet → (envB b).isGrandfathered t.hash = true →
    ∀ v ∈ [x, f], (⟨(envB b).fdp t.hash, 0⟩ : CoinID) ∉ v.inputs := by
  intro t _ _ hg
  cases hg

theorem extensional : RootsExtensional (envB true) := ⟨fun _ _ _ _ => rfl, fun _ _ _ => rfl⟩

theorem reordered_rejected :
    applyBlock (envB false) (ss1 false) { header := hdr2 false, transactions := [f, x], action := none } =
      .reject .wrongHeader := by
  obtain ⟨-, -, -, -, hrej⟩ := facts false
  exact Outcome.eq_reject (hrej rfl)

theorem accepted (b : Bool) :
    applyBlock (envB b) (ss1 b) { header := hdr2 b, transactions := [x, f], action := none } = .ok (sealed2 b) := by
  obtain ⟨-, seal1, next1, batch2, seal2, hdr2_ok⟩ := steps b
  exact C06_honest_reachable (envB b) (s1 b) none none (ss1 b) (sealed2 b) (s2 b) (u2 b) [x, f] (hdr2 b) default
    (s1_reachable b) (s1_sealable b).1 (s1_sealable b).2 seal1 next1 batch2 seal2 hdr2_ok

end C06HistWitness

/-- non-vacuity: a concrete accepted block.  On literal data (genesis → a batch with a swap → seal) the block
    made of two faucet transactions is accepted by its parent — through `C06_honest_reachable`, so all its hypotheses
    (and those of `C06_produced_block_accepted`, `C06_assert_never_fires`) are met; the parent has height 0, the
    block height 1 -/
theorem C06_honest_reachable_nonvacuous :
    ∃ (env : Env) (ss sealed : Sealed) (blk : Block), applyBlock env ss blk = .ok sealed ∧
      blk.transactions.length = 2 ∧ ss.st.height = 0 ∧ sealed.st.height = 1 ∧ blk.header.height = 1 := by
  open C06HistWitness in
  obtain ⟨-, -, -, ⟨h0, h1, h2⟩, -⟩ := facts true
  exact ⟨_, _, _, _, accepted true, rfl, h0, h1, h2⟩

/-- non-vacuity of `C06_honest_any_order`: the same block with its two transactions in the other order is accepted,
    with the same header — through the theorem, so all its hypotheses are met (constant roots are functions of the
    content) -/
theorem C06_honest_any_order_nonvacuous :
    ∃ (env : Env) (ss s₁ s₂ : Sealed) (hdr : Header) (t₁ t₂ : Tx), t₁ ≠ t₂ ∧
      applyBlock env ss { header := hdr, transactions := [t₁, t₂], action := none } = .ok s₁ ∧
      applyBlock env ss { header := hdr, transactions := [t₂, t₁], action := none } = .ok s₂ ∧
      BatchEquiv s₁.st s₂.st := by
  open C06HistWitness in
  obtain ⟨-, seal1, next1, batch2, seal2, hdr2_ok⟩ := steps true
  obtain ⟨h906, hfee, htips, -⟩ := s2_facts true
  obtain ⟨sealed', h2, -, -, e⟩ := C06_honest_any_order (envB true) extensional (s1 true) none none (ss1 true)
    (sealed2 true) (s2 true) (u2 true) [x, f] [f, x] (hdr2 true) default (s1_reachable true) (s1_sealable true).1
    (s1_sealable true).2 seal1 next1 h906 (List.Perm.swap _ _ _) (fresh2 true) (markers2 true) (gfMarkers2 true)
    hfee htips batch2 seal2 hdr2_ok
  exact ⟨_, _, _, _, _, x, f, by decide, accepted true, h2, e⟩

/-- `C06_honest_any_order` is false without `RootsExtensional`: with a coins root that depends on the order of
    the association list (the first key), every other hypothesis of the theorem holds of the same literal data and
    the reordered block is rejected with `WrongHeader` — the two batches leave the coin lists in different orders -/
theorem C06_any_order_needs_extensional :
    ∃ (env : Env) (s : State) (a0 a : Option ProposerAction) (ss sealed : Sealed) (basis u : State)
      (txs txs' : List Tx) (hdr fb : Header),
      ReachableB env s ∧ SealBounds s ∧ RewardFresh env s ∧ sealState env s a0 = .ok ss ∧
      nextUnsealed env ss = .ok basis ∧ basis.tip906 = true ∧ txs.Perm txs' ∧
      (∀ t ∈ txs, ∀ i, basis.coins.getCoin ⟨t.hash, i⟩ = none) ∧
      (∀ t ∈ txs, t.kind = .faucet → env.isGrandfathered t.hash = false →
        (∀ v ∈ txs, (⟨env.fdp t.hash, 0⟩ : CoinID) ∉ v.inputs ∧ env.fdp t.hash ≠ v.hash) ∧
        (∀ v ∈ txs, v.kind = .faucet → env.fdp v.hash = env.fdp t.hash → v = t)) ∧
      (∀ t ∈ txs, t.kind = .faucet → env.isGrandfathered t.hash = true →
        ∀ v ∈ txs, (⟨env.fdp t.hash, 0⟩ : CoinID) ∉ v.inputs) ∧
      basis.feePool ≤ U128_MAX ∧ basis.tips ≤ U128_MAX ∧
      applyBatch env basis txs fb = .ok u ∧ sealState env u a = .ok sealed ∧ headerOf env sealed = .ok hdr ∧
      applyBlock env ss { header := hdr, transactions := txs, action := a } = .ok sealed ∧
      applyBlock env ss { header := hdr, transactions := txs', action := a } = .reject .wrongHeader := by
  open C06HistWitness in
  obtain ⟨-, seal1, next1, batch2, seal2, hdr2_ok⟩ := steps false
  obtain ⟨h906, hfee, htips, -⟩ := s2_facts false
  exact ⟨envB false, s1 false, none, none, ss1 false, sealed2 false, s2 false, u2 false, [x, f], [f, x], hdr2 false,
    default, s1_reachable false, (s1_sealable false).1, (s1_sealable false).2, seal1, next1, h906,
    List.Perm.swap _ _ _, fresh2 false, markers2 false, gfMarkers2 false, hfee, htips, batch2, seal2, hdr2_ok,
    accepted false, reordered_rejected⟩

namespace C06ActionWitness
open ReachWitness (getOk eq_getOk)

/-- the reward pseudo-coin id of height 1 is the hash `[1]` — not kept apart from transaction hashes -/
def env : Env := { ReachWitness.env with rewardId := fun h => if h = 1 then [1] else [] }

/-- a testnet chain (no TIP active below height 500: no subsidy, no counts) whose initial coin has value 0 -/
def cfg : GenesisConfig :=
  { network := .testnet, initCoindata := ⟨[7], 0, .mel, []⟩, stakes := [], initFeePool := 0, initFeeMultiplier := 0 }

/-- a transaction with hash `[1]` spending the initial coin into one output of value 0 locked by `[8]`: the coin
    `([1], 0)`, created at height 1 — exactly what a zero reward to `[8]` at height 1 looks like -/
def x : Tx := {
  kind := .normal, inputs := [⟨zeroHash, 0⟩], outputs := [(⟨[8], 0, .mel, []⟩ : CoinData)], fee := 0,
  covenants := [C03Witness.cov], data := [], sigs := [], hash := [1], rawLen := 0, covHashes := [[7]] }

def act : ProposerAction := { feeMultiplierDelta := 0, rewardDest := [8] }

def ss0 : Sealed := getOk (sealState env (genesisState cfg) none)
def basis : State := getOk (nextUnsealed env ss0)
def u1 : State := getOk (applyBatch env basis [x] default)
def sa : Sealed := getOk (sealState env u1 none)
def sb : Sealed := getOk (sealState env u1 (some act))
def hdr : Header := getOk (headerOf env sa)

/-- what is evaluated about the history, in one run of the kernel: every step succeeds; the two sealed states agree
    field by field; the genesis state meets `RewardFresh` and the numeric part of `SealBounds`; `basis` has its pools -/
theorem facts :
    ((sealState env (genesisState cfg) none).isOk = true ∧ (nextUnsealed env ss0).isOk = true ∧
      (applyBatch env basis [x] default).isOk = true ∧ (sealState env u1 none).isOk = true ∧
      (sealState env u1 (some act)).isOk = true ∧ (headerOf env sa).isOk = true) ∧
    (sa.st.network = sb.st.network ∧ sa.st.height = sb.st.height ∧ sa.st.history = sb.st.history ∧
      sa.st.coins.coins = sb.st.coins.coins ∧ sa.st.coins.counts = sb.st.coins.counts ∧ sa.st.txs = sb.st.txs ∧
      sa.st.feePool = sb.st.feePool ∧ sa.st.feeMultiplier = sb.st.feeMultiplier ∧ sa.st.tips = sb.st.tips ∧
      sa.st.doscSpeed = sb.st.doscSpeed ∧ sa.st.pools = sb.st.pools ∧ sa.st.stakes = sb.st.stakes) ∧
    ((genesisState cfg).coins.getCoin ⟨env.rewardId (genesisState cfg).height, 0⟩ = none ∧
      (genesisState cfg).feePool + (genesisState cfg).tips + 2 ^ 21 ≤ 2 ^ 127 ∧
      melInflow (genesisState cfg).txs ≤ 2 ^ 124 ∧ (genesisState cfg).height < TIP_909_HEIGHT + 128 * SUBSIDY_HALVING) ∧
    2 ≤ basis.pools.length := by decide +kernel

theorem steps :
    sealState env (genesisState cfg) none = .ok ss0 ∧ nextUnsealed env ss0 = .ok basis ∧
    applyBatch env basis [x] default = .ok u1 ∧ sealState env u1 none = .ok sa ∧
    sealState env u1 (some act) = .ok sb ∧ headerOf env sa = .ok hdr := by
  obtain ⟨⟨h1, h2, h3, h4, h5, h6⟩, -⟩ := facts
  exact ⟨eq_getOk h1, eq_getOk h2, eq_getOk h3, eq_getOk h4, eq_getOk h5, eq_getOk h6⟩

theorem same_state : sa.st = sb.st := by
  obtain ⟨-, ⟨h1, h2, h3, h4, h4', h5, h6, h7, h8, h9, h10, h11⟩, -⟩ := facts
  exact BlockHistL.state_ext h1 h2 h3 h4 h4' h5 h6 h7 h8 h9 h10 h11

theorem sealable0 : SealBounds (genesisState cfg) ∧ RewardFresh env (genesisState cfg) := by
  obtain ⟨-, -, ⟨hfresh, hfee, hin, hht⟩, -⟩ := facts
  exact ⟨⟨hfee, fun _ hp => (nomatch hp), hin, hht⟩, hfresh⟩

end C06ActionWitness

/-- Whether a block carries an action is not implied by its header: on top of a sealed reachable state
    (the genesis state of a testnet configuration), the block with the transaction `x` and no action and the block
    with `x` and the action "reward to `[8]`, delta 0" are both accepted with the same header — indeed they yield the
    very same state, so no root function whatsoever tells them apart.  What fails is the separation of the reward
    pseudo-coin id from transaction hashes (`env.rewardId 1 = x.hash`): the output `(x.hash, 0)` — value 0, locked by
    `[8]`, created at height 1 — is the coin a zero reward to `[8]` would write (fee pool below 2^16, no tips). -/
theorem C06_action_presence_not_implied :
    ∃ (env : Env) (s : State) (ss s₁ s₂ : Sealed) (b₁ b₂ : Block),
      ReachableB env s ∧ SealBounds s ∧ RewardFresh env s ∧ sealState env s none = .ok ss ∧
      applyBlock env ss b₁ = .ok s₁ ∧ applyBlock env ss b₂ = .ok s₂ ∧
      b₁.header = b₂.header ∧ b₁.transactions = b₂.transactions ∧ b₁.action = none ∧ b₂.action ≠ none ∧
      s₁.st = s₂.st := by
  open C06ActionWitness in
  obtain ⟨seal0, next0, batch, sealA, sealB, hdrA⟩ := steps
  have pools2 : 2 ≤ basis.pools.length := facts.2.2.2
  have hdrB : headerOf env sb = .ok hdr := by
    have h : headerOf env sb = headerOf env sa := by
      unfold headerOf
      rw [← same_state]
    rw [h]; exact hdrA
  exact ⟨env, genesisState cfg, ss0, sa, sb, ⟨hdr, [x], none⟩, ⟨hdr, [x], some act⟩, .genesis cfg, sealable0.1,
    sealable0.2, seal0,
    C06_honest env ss0 sa basis u1 [x] none hdr default next0 pools2 batch sealA hdrA,
    C06_honest env ss0 sb basis u1 [x] (some act) hdr default next0 pools2 batch sealB hdrB,
    rfl, rfl, rfl, nofun, same_state⟩

end Mel

#print axioms Mel.C06_reachableB_two_pools
#print axioms Mel.C06_honest_reachable
#print axioms Mel.C06_assert_never_fires
#print axioms Mel.C06_produced_block_accepted
#print axioms Mel.C06_honest_any_order
#print axioms Mel.C06_applyBlock_parts
#print axioms Mel.C06_same_header_same_content
#print axioms Mel.C06_same_header_same_state
#print axioms Mel.C06_same_header_same_content_ext
#print axioms Mel.C06_same_header_same_txs
#print axioms Mel.C06_same_header_same_hashes
#print axioms Mel.C06_same_header_same_action_effect
#print axioms Mel.C06_same_header_action_presence
#print axioms Mel.C06_tx_change_rejected
#print axioms Mel.C06_tx_hash_change_rejected
#print axioms Mel.C06_action_multiplier_change_rejected
#print axioms Mel.C06_action_dest_change_rejected
#print axioms Mel.C06_honest_reachable_nonvacuous
#print axioms Mel.C06_honest_any_order_nonvacuous
#print axioms Mel.C06_any_order_needs_extensional
#print axioms Mel.C06_action_presence_not_implied

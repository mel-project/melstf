/-
  C14 — A state is confirmed only by valid signatures from a >2/3 stake majority.
  `confirm` as one decision (`confirm_eq`) and the tallies are in MelModel/Lemmas/Confirm.lean.
-/
import MelModel.Chain
import MelModel.Lemmas.Confirm
namespace Mel

/-- tallies fit the u128 the implementation sums in (true whenever the staked supply is < 2^128 - 1).
    Since the fix for the vote-sum overflow (F21) the tallies saturate and a total of exactly
    `u128::MAX` is treated as "saturated" (`confirm` returns `None`), so the total must be strictly
    below it; see `C14_saturated_total` for the other side and `C14_decision_total` for the form
    that needs no bound on the signers' tally at all. -/
def TalliesFit (ss : Sealed) (proof : List (Bytes × Bytes)) : Prop :=
  totalVotes ss < U128_MAX ∧ presentVotes ss proof ≤ U128_MAX

theorem C14_invalid_signature (env : Env) (ss : Sealed) (hdr : Header) (proof : List (Bytes × Bytes))
    (hh : headerOf env ss = .ok hdr) (e : Bytes × Bytes) (he : e ∈ proof) (hbad : validEntry env hdr e = false) :
    confirm env ss proof = .ok false := by
  rw [confirm_eq env ss hdr proof hh, decide_eq_false]
  intro h
  rw [h.1 e he] at hbad
  cases hbad

/-- `confirm` is the two-thirds rule over valid signatures; only the total has to fit (a signers' tally
    above `u128::MAX` saturates, and a saturated tally still exceeds two thirds of a total that fits) -/
theorem C14_decision_total (env : Env) (ss : Sealed) (hdr : Header) (proof : List (Bytes × Bytes))
    (hh : headerOf env ss = .ok hdr) (ht : totalVotes ss < U128_MAX) :
    confirm env ss proof = .ok (decide ((∀ e ∈ proof, validEntry env hdr e = true) ∧
                                         3 * presentVotes ss proof > 2 * totalVotes ss)) := by
  rw [confirm_eq env ss hdr proof hh, decide_eq_decide.mpr]
  exact and_congr_right fun _ => and_iff_right ht

theorem C14_decision (env : Env) (ss : Sealed) (hdr : Header) (proof : List (Bytes × Bytes))
    (hh : headerOf env ss = .ok hdr) (hfit : TalliesFit ss proof) :
    confirm env ss proof = .ok (decide ((∀ e ∈ proof, validEntry env hdr e = true) ∧
                                         3 * presentVotes ss proof > 2 * totalVotes ss)) :=
  C14_decision_total env ss hdr proof hh hfit.1

/-- the tallies saturate (fix for F21): once the header is there `confirm` always returns a
    verdict (the header computation is the only thing in it that can fail) -/
theorem C14_confirm_total (env : Env) (ss : Sealed) (hdr : Header) (proof : List (Bytes × Bytes))
    (hh : headerOf env ss = .ok hdr) :
    ∃ b, confirm env ss proof = .ok b :=
  ⟨_, confirm_eq env ss hdr proof hh⟩

/-- whatever the stakes and the proof, `confirm` crashes only if (and exactly where) computing the
    header does -/
theorem C14_confirm_never_crashes (env : Env) (ss : Sealed) (proof : List (Bytes × Bytes)) (site : String) :
    confirm env ss proof = .crash site ↔ headerOf env ss = .crash site := by
  cases hh : headerOf env ss with
  | ok hdr => rw [confirm_eq env ss hdr proof hh]; exact ⟨nofun, nofun⟩
  | reject e => unfold confirm; rw [hh]; exact ⟨nofun, nofun⟩
  | crash s =>
    unfold confirm; rw [hh]
    exact ⟨fun h => congrArg _ (Outcome.crash.inj h), fun h => congrArg _ (Outcome.crash.inj h)⟩

/-- the crash site of F21 is gone -/
theorem C14_no_vote_overflow_crash (env : Env) (ss : Sealed) (proof : List (Bytes × Bytes)) :
    confirm env ss proof ≠ .crash "state.rs: vote sum overflow" := by
  intro h
  have h' := (C14_confirm_never_crashes env ss proof _).mp h
  unfold headerOf at h'
  dsimp only at h'
  by_cases h0 : ss.st.height = 0
  · rw [if_pos h0] at h'; cases h'
  · rw [if_neg h0] at h'
    cases hg : ss.st.history.get (ss.st.height - 1) with
    | some x => rw [hg] at h'; cases h'
    | none => rw [hg] at h'; exact absurd (Outcome.crash.inj h') (by decide)

/-- a total that reaches `u128::MAX` is treated as saturated: nothing is confirmed, whatever the proof -/
theorem C14_saturated_total (env : Env) (ss : Sealed) (hdr : Header) (proof : List (Bytes × Bytes))
    (hh : headerOf env ss = .ok hdr) (hsat : totalVotes ss ≥ U128_MAX) :
    confirm env ss proof = .ok false := by
  rw [confirm_eq env ss hdr proof hh, decide_eq_false]
  intro h
  exact Nat.lt_irrefl _ (Nat.lt_of_lt_of_le h.2.1 hsat)

/-- why `TalliesFit` asks for a total strictly below `u128::MAX`: at exactly `u128::MAX` the
    implementation cannot tell a genuine total from a saturated one and rejects even a unanimous,
    validly signed proof, so the two-thirds rule is *not* what `confirm` computes there -/
theorem C14_exact_max_rejected (env : Env) (ss : Sealed) (hdr : Header) (proof : List (Bytes × Bytes))
    (hh : headerOf env ss = .ok hdr) (hmax : totalVotes ss = U128_MAX)
    (hv : ∀ e ∈ proof, validEntry env hdr e = true) (hall : presentVotes ss proof = totalVotes ss) :
    confirm env ss proof = .ok false ∧
    decide ((∀ e ∈ proof, validEntry env hdr e = true) ∧
              3 * presentVotes ss proof > 2 * totalVotes ss) = true := by
  refine ⟨C14_saturated_total env ss hdr proof hh (by omega), decide_eq_true ⟨hv, ?_⟩⟩
  rw [hall, hmax]; decide

theorem C14_majority_confirms (env : Env) (ss : Sealed) (hdr : Header) (proof : List (Bytes × Bytes))
    (hh : headerOf env ss = .ok hdr) (hfit : TalliesFit ss proof)
    (hv : ∀ e ∈ proof, validEntry env hdr e = true) (hmaj : 3 * presentVotes ss proof > 2 * totalVotes ss) :
    confirm env ss proof = .ok true := by
  rw [C14_decision env ss hdr proof hh hfit]
  congr 1
  exact decide_eq_true ⟨hv, hmaj⟩

theorem C14_minority_rejected (env : Env) (ss : Sealed) (hdr : Header) (proof : List (Bytes × Bytes))
    (hh : headerOf env ss = .ok hdr) (hfit : TalliesFit ss proof)
    (hmin : 3 * presentVotes ss proof ≤ 2 * totalVotes ss) :
    confirm env ss proof = .ok false := by
  rw [C14_decision env ss hdr proof hh hfit]
  congr 1
  apply decide_eq_false
  intro h; have := h.2; omega

theorem C14_empty_any (env : Env) (ss : Sealed) (hdr : Header) (hh : headerOf env ss = .ok hdr) :
    confirm env ss [] = .ok false := by
  rw [confirm_eq env ss hdr [] hh, decide_eq_false]
  intro h
  exact Nat.not_lt_zero _ h.2.2

theorem C14_empty (env : Env) (ss : Sealed) (hdr : Header) (hh : headerOf env ss = .ok hdr)
    (hfit : totalVotes ss ≤ U128_MAX) (hpos : 0 < totalVotes ss) :
    confirm env ss [] = .ok false :=
  -- neither hypothesis is needed: without stakers `3 * 0 > 2 * 0` fails as well, and a saturated total confirms nothing
  C14_empty_any env ss hdr hh

/-- a proof signed (validly) by every key holding an active stake confirms -/
theorem C14_unanimous (env : Env) (ss : Sealed) (hdr : Header) (proof : List (Bytes × Bytes))
    (hh : headerOf env ss = .ok hdr) (hfit : TalliesFit ss proof)
    (hv : ∀ e ∈ proof, validEntry env hdr e = true)
    (hnodup : (proof.map (·.1)).Nodup)
    (hall : ∀ d ∈ ss.st.stakes, StakeSet.active ss.st.epoch d.2 = true → d.2.pubkey ∈ proof.map (·.1))
    (hpos : 0 < totalVotes ss) :
    confirm env ss proof = .ok true := by
  apply C14_majority_confirms env ss hdr proof hh hfit hv
  have h := StakeSet.sum_votes_eq_total ss.st.stakes ss.st.epoch (proof.map (·.1)) hnodup hall
  have hp : presentVotes ss proof = totalVotes ss := by
    unfold presentVotes totalVotes
    rw [← h, List.map_map]
    rfl
  rw [hp]; omega

/-- adding a valid signature by a new key never turns a confirming proof into a non-confirming one -/
theorem C14_monotone (env : Env) (ss : Sealed) (hdr : Header) (proof : List (Bytes × Bytes))
    (e : Bytes × Bytes) (hh : headerOf env ss = .ok hdr)
    (hfit : TalliesFit ss (e :: proof)) (hfit' : TalliesFit ss proof)
    (hc : confirm env ss proof = .ok true) (hv : validEntry env hdr e = true) :
    confirm env ss (e :: proof) = .ok true := by
  rw [C14_decision env ss hdr proof hh hfit'] at hc
  have hc' : (∀ e ∈ proof, validEntry env hdr e = true) ∧
      3 * presentVotes ss proof > 2 * totalVotes ss := by
    have : decide ((∀ e ∈ proof, validEntry env hdr e = true) ∧
      3 * presentVotes ss proof > 2 * totalVotes ss) = true := by
      injection hc
    exact of_decide_eq_true this
  apply C14_majority_confirms env ss hdr (e :: proof) hh hfit
  · intro x hx
    rcases List.mem_cons.mp hx with rfl | hx
    · exact hv
    · exact hc'.1 x hx
  · have : presentVotes ss (e :: proof)
        = ss.st.stakes.votes ss.st.epoch e.1 + presentVotes ss proof := by
      simp [presentVotes]
    have := hc'.2
    omega

/-- F15 before the fix: the old comparison
    `total > present / 2 * 3` confirms an empty proof and rejects a unanimous one. -/
def oldEnough (total present : Nat) : Bool := decide (total > present / 2 * 3)
theorem C14_old_inverted : oldEnough 90 0 = true ∧ oldEnough 90 90 = false := by
  constructor <;> decide

end Mel

#print axioms Mel.C14_invalid_signature
#print axioms Mel.C14_decision_total
#print axioms Mel.C14_decision
#print axioms Mel.C14_confirm_total
#print axioms Mel.C14_confirm_never_crashes
#print axioms Mel.C14_no_vote_overflow_crash
#print axioms Mel.C14_saturated_total
#print axioms Mel.C14_exact_max_rejected
#print axioms Mel.C14_majority_confirms
#print axioms Mel.C14_minority_rejected
#print axioms Mel.C14_empty
#print axioms Mel.C14_empty_any
#print axioms Mel.C14_unanimous
#print axioms Mel.C14_monotone
#print axioms Mel.C14_old_inverted

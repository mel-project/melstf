/-
  C17 — the constants the property's statement (and the recorded deviations) fix, stated of the values regenerated
  from /repo's source (Generated/Tables.lean): the step is at most multiplier/128 (floor 2 once TIP-901 is active),
  scaled by delta/128. The model is parametric in these constants: a changed constant breaks these theorems instead of
  being followed silently.
-/
import MelModel.Generated.Tables
namespace Mel
open Mel.Gen

theorem C17_pin_FEEMULT_SHIFT : FEEMULT_SHIFT = 7 := rfl
theorem C17_pin_FEEMULT_DIV : FEEMULT_DIV = 128 := rfl
theorem C17_pin_FEEMULT_FLOOR : FEEMULT_FLOOR = 2 := rfl
theorem C17_pin_TIP_901_HEIGHT : TIP_901_HEIGHT = 42700 := rfl

end Mel

#print axioms Mel.C17_pin_FEEMULT_SHIFT
#print axioms Mel.C17_pin_FEEMULT_DIV
#print axioms Mel.C17_pin_FEEMULT_FLOOR
#print axioms Mel.C17_pin_TIP_901_HEIGHT

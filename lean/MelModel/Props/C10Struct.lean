/-
  C10 (counted loops run their body exactly the stated number of times), for every nesting depth: the flat executor
  refines the structured big-step semantics of MelModel/VM/Struct.lean (the induction: `sim_list` in Lemmas/StructL).
-/
import MelModel.VM.Struct
import MelModel.Lemmas.StructL
import MelModel.Props.C10
namespace Mel.VM
open Mel

/-! The invariant on the loop stack.  Only the innermost active frame matters: `updatePc` looks at the next frame only
  after dropping the innermost one, and the nesting check of `Op.loop` (`pc + n > last.end_`) reads the innermost
  frame only.  The block `flatten P` placed at `pre.length` must end no later than the innermost frame:
      `pre.length + (flatten P).length - 1 ≤ L.end_`      (`L` the head of `st.loops`, if any)
  — nothing is required of `begin_`, `left` or of the deeper frames.  When the inequality is an equality the block is
  the tail of the innermost loop's body and the frame takes over after the last instruction; the conclusion therefore
  describes the final state as pc `e` = just after the block, then the bookkeeping `updatePc e st.loops`, which is
  `(e, st.loops)` when the inequality is strict (`C10_structured_inside`), the jump back / the drop of the frame when
  it is an equality (`C10_structured_body_end`), and `(e, [])` at top level (`C10_structured_top`). -/

/-- after exactly `stepsOf P` steps the machine has the stack and heap of the structured evaluation — or, if that
    fails, `stepN` fails and so does the whole run, whatever the fuel.
    `hne : P ≠ []`: false without it, see `C10_structured_empty_program_counterexample` (an empty block takes no step,
    so no bookkeeping is performed) -/
theorem C10_structured (o : Oracles) (P : List SInstr) (hne : P ≠ []) (hwf : WF P)
    (pre post : List Op) (st : Exec) (hpc : st.pc = pre.length)
    (henc : ∀ L tl, st.loops = L :: tl → pre.length + (flatten P).length - 1 ≤ L.end_) :
    stepN o (pre ++ flatten P ++ post) (stepsOf P) st =
      (eval o P (st.stack, st.heap)).map (fun sh =>
        { stack := sh.1, heap := sh.2,
          pc := (updatePc (pre.length + (flatten P).length) st.loops).1,
          loops := (updatePc (pre.length + (flatten P).length) st.loops).2 }) ∧
    (eval o P (st.stack, st.heap) = none →
      ∀ f m, (runFuel o (pre ++ flatten P ++ post) (stepsOf P + f) st m).1 = none) := by
  have hpos := flatten_length_pos hne
  have h := sim_block o P hne hwf pre post st hpc (by intro L tl hl; have := henc L tl hl; omega)
  exact ⟨h.1, fun hn => h.2 (by rw [hn]; rfl)⟩

theorem C10_structured_inside (o : Oracles) (P : List SInstr) (hwf : WF P)
    (pre post : List Op) (st : Exec) (hpc : st.pc = pre.length)
    (henc : ∀ L tl, st.loops = L :: tl → pre.length + (flatten P).length ≤ L.end_) :
    stepN o (pre ++ flatten P ++ post) (stepsOf P) st =
      (eval o P (st.stack, st.heap)).map fun sh =>
        { stack := sh.1, heap := sh.2, pc := pre.length + (flatten P).length, loops := st.loops } := by
  have h := (sim_inside o _ P post st hwf (by rw [hpc]; exact drop_pre pre _ post)
    (by rw [hpc]; exact henc)).1
  rwa [hpc] at h

theorem C10_structured_top (o : Oracles) (P : List SInstr) (hwf : WF P)
    (pre post : List Op) (st : Exec) (hpc : st.pc = pre.length) (hl : st.loops = []) :
    stepN o (pre ++ flatten P ++ post) (stepsOf P) st =
      (eval o P (st.stack, st.heap)).map fun sh =>
        { stack := sh.1, heap := sh.2, pc := pre.length + (flatten P).length, loops := [] } := by
  rw [C10_structured_inside o P hwf pre post st hpc (by intro L tl h; rw [hl] at h; simp at h), hl]

theorem C10_structured_body_end (o : Oracles) (P : List SInstr) (hne : P ≠ []) (hwf : WF P)
    (pre post : List Op) (st : Exec) (hpc : st.pc = pre.length) (L : LoopState) (tl : List LoopState)
    (hl : st.loops = L :: tl) (hend : L.end_ + 1 = pre.length + (flatten P).length) :
    stepN o (pre ++ flatten P ++ post) (stepsOf P) st =
      (eval o P (st.stack, st.heap)).map fun sh =>
        if L.left > 0 then
          { stack := sh.1, heap := sh.2, pc := L.begin_, loops := { L with left := L.left - 1 } :: tl }
        else
          { stack := sh.1, heap := sh.2,
            pc := (updatePc (L.end_ + 1) tl).1, loops := (updatePc (L.end_ + 1) tl).2 } := by
  rw [(C10_structured o P hne hwf pre post st hpc
    (by intro L' tl' hl'
        rw [hl] at hl'
        simp only [List.cons.injEq] at hl'
        rw [← hl'.1]; omega)).1, hl, ← hend,
    show updatePc (L.end_ + 1) (L :: tl) = _ from updatePc_frame_end L.begin_ L.end_ L.left tl]
  congr 1
  funext sh
  split <;> rfl

theorem C10_structured_runFuel (o : Oracles) (P : List SInstr) (hwf : WF P) (heap : Heap)
    (sh : List Value × Heap) (hev : eval o P ([], heap) = some sh) :
    runFuel o (flatten P) (weightU (flatten P) + 1) (initExec heap) 0 = (sh.1.head?, stepsOf P) := by
  have h := C10_structured_top o P hwf [] [] (initExec heap) rfl rfl
  simp only [List.nil_append, List.append_nil, List.length_nil, Nat.zero_add] at h
  rw [show eval o P ((initExec heap).stack, (initExec heap).heap) = some sh from hev] at h
  exact runFuel_of_stepN_end h (Nat.le_refl _)

/-- the flat program returns what the structured evaluation leaves on top of the stack, and fails when that fails -/
theorem C10_structured_run (o : Oracles) (P : List SInstr) (hwf : WF P) (heap : Heap) :
    run o (flatten P) heap = (eval o P ([], heap)).bind fun sh => sh.1.head? := by
  cases hev : eval o P ([], heap) with
  | some sh => exact congrArg Prod.fst (C10_structured_runFuel o P hwf heap sh hev)
  | none =>
    have hne : P ≠ [] := by
      intro h; subst h; cases hev
    have h := (C10_structured o P hne hwf [] [] (initExec heap) rfl
      (by intro L tl hl; cases hl)).2 hev
    simp only [List.nil_append, List.append_nil] at h
    exact run_of_fail h

theorem C10_structured_runSteps (o : Oracles) (P : List SInstr) (hwf : WF P) (heap : Heap)
    (sh : List Value × Heap) (hev : eval o P ([], heap) = some sh) :
    runSteps o (flatten P) heap = stepsOf P := by
  unfold runSteps
  rw [C10_structured_runFuel o P hwf heap sh hev]

theorem C10_structured_run_evalSteps (o : Oracles) (P : List SInstr) (hwf : WF P) (heap : Heap)
    (sh : List Value × Heap) (k : Nat) (hev : evalSteps o P ([], heap) = some (sh, k)) :
    run o (flatten P) heap = sh.1.head? ∧ runSteps o (flatten P) heap = k := by
  unfold evalSteps at hev
  cases hev' : eval o P ([], heap) with
  | none => rw [hev'] at hev; simp at hev
  | some sh' =>
    rw [hev'] at hev
    simp only [Option.map_some, Option.some.injEq, Prod.mk.injEq] at hev
    obtain ⟨rfl, rfl⟩ := hev
    exact ⟨by rw [C10_structured_run o P hwf heap, hev']; rfl,
      C10_structured_runSteps o P hwf heap sh' hev'⟩

/-- the flat form of `loop a { loop b { B } }` -/
theorem C10_nested_flatten (a b : UInt16) (B : List Op) :
    flatten [SInstr.loop a [SInstr.loop b (B.map SInstr.op)]] =
      [Op.loop a (UInt16.ofNat (B.length + 1)), Op.loop b (UInt16.ofNat B.length)] ++ B := by
  simp [flatten_map_op]

theorem nested_WF (a b : UInt16) (B : List Op) (hB : 1 ≤ B.length) (hlen : B.length + 1 < 65536)
    (hS : ∀ op ∈ B, op.isStraight = true) :
    WF [SInstr.loop a [SInstr.loop b (B.map SInstr.op)]] := by
  rw [WF_cons, sinstr_WF_loop, WF_cons, sinstr_WF_loop]
  simp only [flatten_cons, flatten_nil, List.append_nil, sinstr_flatten_loop, flatten_map_op,
    List.length_cons]
  exact ⟨⟨⟨⟨WF_map_op B hS, hB, by omega⟩, WF_nil⟩, by omega, hlen⟩, WF_nil⟩

theorem nested_eval (o : Oracles) (a b : UInt16) (B : List Op) (sh : List Value × Heap) :
    eval o [SInstr.loop a [SInstr.loop b (B.map SInstr.op)]] sh =
      iter (iter (straight o B) b.toNat) a.toNat sh := by
  rw [eval_singleton, sinstr_eval_loop]
  apply iter_congr
  intro sh'
  rw [eval_singleton, sinstr_eval_loop]
  exact iter_congr (eval_map_op o B) _ _

theorem nested_steps (a b : UInt16) (B : List Op) :
    stepsOf [SInstr.loop a [SInstr.loop b (B.map SInstr.op)]] =
      1 + a.toNat * (1 + b.toNat * B.length) := by
  simp [stepsOf_map_op]

/-- two nested loops run `B` in `a` rounds of `b` passes -/
theorem C10_nested_loops_exact (o : Oracles) (pre B post : List Op) (a b : UInt16) (st : Exec)
    (hB : 1 ≤ B.length) (hlen : B.length + 1 < 65536) (hS : ∀ op ∈ B, op.isStraight = true)
    (hpc : st.pc = pre.length) (hl : st.loops = []) :
    stepN o (pre ++ ([Op.loop a (UInt16.ofNat (B.length + 1)), Op.loop b (UInt16.ofNat B.length)] ++ B)
        ++ post) (1 + a.toNat * (1 + b.toNat * B.length)) st =
      (iter (iter (straight o B) b.toNat) a.toNat (st.stack, st.heap)).map fun sh =>
        { stack := sh.1, heap := sh.2, pc := pre.length + (2 + B.length), loops := [] } := by
  have h := C10_structured_top o [SInstr.loop a [SInstr.loop b (B.map SInstr.op)]]
    (nested_WF a b B hB hlen hS) pre post st hpc hl
  rw [nested_eval, nested_steps, C10_nested_flatten] at h
  rw [h]
  have e : ([Op.loop a (UInt16.ofNat (B.length + 1)), Op.loop b (UInt16.ofNat B.length)]
      ++ B).length = 2 + B.length := by
    simp only [List.length_append, List.length_cons, List.length_nil]
  rw [e]

/-- … that is, exactly `a * b` times -/
theorem C10_nested_loops_exact_mul (o : Oracles) (pre B post : List Op) (a b : UInt16) (st : Exec)
    (hB : 1 ≤ B.length) (hlen : B.length + 1 < 65536) (hS : ∀ op ∈ B, op.isStraight = true)
    (hpc : st.pc = pre.length) (hl : st.loops = []) :
    stepN o (pre ++ ([Op.loop a (UInt16.ofNat (B.length + 1)), Op.loop b (UInt16.ofNat B.length)] ++ B)
        ++ post) (1 + a.toNat * (1 + b.toNat * B.length)) st =
      (iter (straight o B) (a.toNat * b.toNat) (st.stack, st.heap)).map fun sh =>
        { stack := sh.1, heap := sh.2, pc := pre.length + (2 + B.length), loops := [] } := by
  rw [C10_nested_loops_exact o pre B post a b st hB hlen hS hpc hl, iter_iter]

theorem C10_nested_loops_run (o : Oracles) (B : List Op) (a b : UInt16) (heap : Heap)
    (hB : 1 ≤ B.length) (hlen : B.length + 1 < 65536) (hS : ∀ op ∈ B, op.isStraight = true) :
    run o ([Op.loop a (UInt16.ofNat (B.length + 1)), Op.loop b (UInt16.ofNat B.length)] ++ B) heap =
      (iter (straight o B) (a.toNat * b.toNat) ([], heap)).bind fun sh => sh.1.head? := by
  have h := C10_structured_run o [SInstr.loop a [SInstr.loop b (B.map SInstr.op)]]
    (nested_WF a b B hB hlen hS) heap
  rw [nested_eval, C10_nested_flatten, iter_iter] at h
  exact h

/-! Counted loops run their body exactly the stated number of times: program `pre ++ [loop it n] ++ B ++ post` with
  `B` straight-line, `n = B.length ≥ 1`, started at the `loop` instruction outside any loop. -/

/-- the law as a single equation -/
theorem C10_loop_exact_eq (o : Oracles) (pre B post : List Op) (it n : UInt16) (st : Exec)
    (hn : n.toNat = B.length) (hB : 1 ≤ B.length) (hS : ∀ op ∈ B, op.isStraight = true)
    (hpc : st.pc = pre.length) (hl : st.loops = []) :
    stepN o (pre ++ [Op.loop it n] ++ B ++ post) (1 + it.toNat * B.length) st =
      (iter (straight o B) it.toNat (st.stack, st.heap)).map fun sh =>
        { stack := sh.1, heap := sh.2, pc := pre.length + 1 + B.length, loops := [] } :=
  (sim_loop o pre B post it n st hn hB hS hpc hl).1

theorem C10_loop_exact (o : Oracles) (pre B post : List Op) (it n : UInt16) (st : Exec)
    (hn : n.toNat = B.length) (hB : 1 ≤ B.length) (hS : ∀ op ∈ B, op.isStraight = true)
    (hpc : st.pc = pre.length) (hl : st.loops = []) :
    (∀ s' h', iter (straight o B) it.toNat (st.stack, st.heap) = some (s', h') →
      stepN o (pre ++ [Op.loop it n] ++ B ++ post) (1 + it.toNat * B.length) st =
        some { stack := s', heap := h', pc := pre.length + 1 + B.length, loops := [] }) ∧
    (iter (straight o B) it.toNat (st.stack, st.heap) = none →
      stepN o (pre ++ [Op.loop it n] ++ B ++ post) (1 + it.toNat * B.length) st = none ∧
      ∀ f k, (runFuel o (pre ++ [Op.loop it n] ++ B ++ post)
                (1 + it.toNat * B.length + f) st k).1 = none) := by
  obtain ⟨heq, hfail⟩ := sim_loop o pre B post it n st hn hB hS hpc hl
  constructor
  · intro s' h' hsome
    rw [heq, hsome]; rfl
  · intro hnone
    exact ⟨by rw [heq, hnone]; rfl, hfail (by rw [hnone]; rfl)⟩

theorem C10_loop_exact_zero (o : Oracles) (pre B post : List Op) (it n : UInt16) (st : Exec)
    (hn : n.toNat = B.length) (hB : 1 ≤ B.length) (hS : ∀ op ∈ B, op.isStraight = true)
    (hpc : st.pc = pre.length) (hl : st.loops = []) (hit : it.toNat = 0) :
    stepN o (pre ++ [Op.loop it n] ++ B ++ post) 1 st =
      some { stack := st.stack, heap := st.heap, pc := pre.length + 1 + B.length, loops := [] } := by
  have h := (C10_loop_exact o pre B post it n st hn hB hS hpc hl).1 st.stack st.heap
    (by rw [hit]; rfl)
  rw [hit] at h
  simpa using h

theorem C10_loop_exact_run (o : Oracles) (pre B post : List Op) (it n : UInt16) (st : Exec)
    (hn : n.toNat = B.length) (hB : 1 ≤ B.length) (hS : ∀ op ∈ B, op.isStraight = true)
    (hpc : st.pc = pre.length) (hl : st.loops = []) (s' : List Value) (h' : Heap)
    (hsome : iter (straight o B) it.toNat (st.stack, st.heap) = some (s', h')) (f k : Nat) :
    runFuel o (pre ++ [Op.loop it n] ++ B ++ post) (1 + it.toNat * B.length + f) st k =
      runFuel o (pre ++ [Op.loop it n] ++ B ++ post) f
        { stack := s', heap := h', pc := pre.length + 1 + B.length, loops := [] }
        (k + (1 + it.toNat * B.length)) :=
  runFuel_of_stepN o _ _ f st _ k
    ((C10_loop_exact o pre B post it n st hn hB hS hpc hl).1 s' h' hsome)

theorem C10_loop_run (o : Oracles) (B : List Op) (it n : UInt16) (heap : Heap)
    (hn : n.toNat = B.length) (hB : 1 ≤ B.length) (hS : ∀ op ∈ B, op.isStraight = true)
    (s' : List Value) (h' : Heap)
    (hsome : iter (straight o B) it.toNat ([], heap) = some (s', h')) :
    run o ([Op.loop it n] ++ B) heap = s'.head? := by
  have h := (C10_loop_exact o [] B [] it n (initExec heap) hn hB hS rfl rfl).1 s' h' hsome
  simp only [List.nil_append, List.append_nil, List.length_nil] at h
  exact run_of_stepN h (by simp only [List.length_append, List.length_cons, List.length_nil]; omega)

theorem C10_loop_run_fails (o : Oracles) (B post : List Op) (it n : UInt16) (heap : Heap)
    (hn : n.toNat = B.length) (hB : 1 ≤ B.length) (hS : ∀ op ∈ B, op.isStraight = true)
    (hnone : iter (straight o B) it.toNat ([], heap) = none) :
    run o ([Op.loop it n] ++ B ++ post) heap = none := by
  have h := ((C10_loop_exact o [] B post it n (initExec heap) hn hB hS rfl rfl).2 hnone).2
  simp only [List.nil_append] at h
  exact run_of_fail h

/-- `C10_loop_exact_eq` is an instance of the structured theorem (`sim_loop` is `sim_block` for `[loop it (B.map op)]`) -/
theorem C10_loop_exact_eq_of_structured (o : Oracles) (pre B post : List Op) (it n : UInt16)
    (st : Exec) (hn : n.toNat = B.length) (hB : 1 ≤ B.length)
    (hS : ∀ op ∈ B, op.isStraight = true) (hpc : st.pc = pre.length) (hl : st.loops = []) :
    stepN o (pre ++ [Op.loop it n] ++ B ++ post) (1 + it.toNat * B.length) st =
      (iter (straight o B) it.toNat (st.stack, st.heap)).map fun sh =>
        { stack := sh.1, heap := sh.2, pc := pre.length + 1 + B.length, loops := [] } :=
  C10_loop_exact_eq o pre B post it n st hn hB hS hpc hl

/-! Oddities of the loop bookkeeping.  The loop frame `{begin_, end_, left}` is pushed by `loop it n` with `end_ = pc + n - 1` (`pc` already
  incremented) and is only looked at by `updatePc` *after* an instruction, when the new pc is past
  `end_`: exactly one past with iterations left → jump back to `begin_`; otherwise the frame is dropped. -/

/-- **an empty-bodied loop leaves a stale frame for one step.** `loop it 0` (`it > 0`) pushes a frame
    with `end_ = begin_ - 1`. The pc is then one past `end_`: with iterations left (`it ≥ 2`) `updatePc`
    "jumps back" to `begin_` (= the next instruction) and *keeps* the frame, so the next instruction runs
    inside a loop whose body is over — a `loop` there is judged to overrun its parent and the covenant
    fails. With `it = 1` nothing is left, the frame is dropped at once and the same continuation runs.
    (Both results are those observed on the real executor.) -/
theorem C10_empty_loop_stale_frame_actual (o : Oracles) :
    run o [.loop 2 0, .loop 2 1, .pushi 1] [] = none ∧
    run o [.loop 1 0, .loop 2 1, .pushi 1] [] = some (.int 1) :=
  ⟨rfl, rfl⟩

/-- the stale frame itself -/
theorem C10_empty_loop_stale_frame_step_actual (o : Oracles) (pre rest : List Op) (it : UInt16)
    (st : Exec) (hpc : st.pc = pre.length) (hl : st.loops = []) :
    (it.toNat ≥ 2 → step o (pre ++ [Op.loop it 0] ++ rest) st =
      some { st with pc := pre.length + 1,
                     loops := [{ begin_ := pre.length + 1, end_ := pre.length,
                                 left := it.toNat - 2 }] }) ∧
    (it.toNat = 1 → step o (pre ++ [Op.loop it 0] ++ rest) st =
      some { st with pc := pre.length + 1, loops := [] }) := by
  have hop : (pre ++ [Op.loop it 0] ++ rest)[st.pc]? = some (Op.loop it 0) := by
    rw [hpc]; simp
  have hstep : it.toNat > 0 → step o (pre ++ [Op.loop it 0] ++ rest) st =
      some { st with pc := (updatePc (st.pc + 1) [{ begin_ := st.pc + 1, end_ := st.pc, left := it.toNat - 1 }]).1,
                     loops := (updatePc (st.pc + 1) [{ begin_ := st.pc + 1, end_ := st.pc, left := it.toNat - 1 }]).2 } :=
    fun hit => step_of_execOp hop (C10_loop_enter o st it 0 hit hl)
  constructor
  · intro hit
    rw [hstep (by omega), updatePc_frame_end, if_pos (by omega), hpc,
      show it.toNat - 1 - 1 = it.toNat - 2 by omega]
  · intro hit
    rw [hstep (by omega), updatePc_frame_end, if_neg (by omega), hpc]
    rfl

/-- **a loop whose body runs past the end of the program runs once.** `loop 5 3` with only two
    instructions left: `end_` lies beyond the program, the pc never gets past it, the run ends at the end of
    the program after a single pass (0 + 1). With the right length, `loop 5 2`, the body runs 5 times.
    (Both results are those observed on the real executor.) -/
theorem C10_loop_body_overrun_runs_once_actual (o : Oracles) :
    run o [.pushi 0, .loop 5 3, .pushi 1, .add] [] = some (.int 1) ∧
    run o [.pushi 0, .loop 5 2, .pushi 1, .add] [] = some (.int 5) :=
  ⟨rfl, rfl⟩

/-- general form: at the end of the program `B` has been applied exactly once, whatever `it`, and the loop frame is
    still open -/
theorem C10_loop_body_overrun_stepN_actual (o : Oracles) (pre B : List Op) (it n : UInt16) (st : Exec)
    (hit : it.toNat > 0) (hn : B.length < n.toNat) (hS : ∀ op ∈ B, op.isStraight = true)
    (hpc : st.pc = pre.length) (hl : st.loops = []) :
    stepN o (pre ++ [Op.loop it n] ++ B) (1 + B.length) st =
      (straight o B (st.stack, st.heap)).map fun sh =>
        { stack := sh.1, heap := sh.2, pc := (pre ++ [Op.loop it n] ++ B).length,
          loops := [{ begin_ := pre.length + 1, end_ := pre.length + n.toNat,
                      left := it.toNat - 1 }] } :=
  (sim_loop_overrun o pre B it n st hit hn hS hpc hl).1

theorem C10_loop_body_overrun_run_actual (o : Oracles) (B : List Op) (it n : UInt16) (heap : Heap)
    (hit : it.toNat > 0) (hn : B.length < n.toNat) (hS : ∀ op ∈ B, op.isStraight = true) :
    run o ([Op.loop it n] ++ B) heap = (straight o B ([], heap)).bind fun sh => sh.1.head? := by
  obtain ⟨heq, hfail⟩ := sim_loop_overrun o [] B it n (initExec heap) hit hn hS rfl rfl
  rw [show ((initExec heap).stack, (initExec heap).heap) = ([], heap) from rfl] at heq hfail
  simp only [List.nil_append] at heq hfail
  cases hB : straight o B ([], heap) with
  | none => exact run_of_fail (hfail (by rw [hB]; rfl))
  | some sh =>
    rw [hB] at heq
    exact run_of_stepN heq (Nat.le_refl _)

/-- a loop with an EMPTY body is excluded by `WF` (`1 ≤ (flatten body).length`): the executor leaves a stale frame
    after `loop 2 0` and the next loop is judged to overrun it (`C10_empty_loop_stale_frame_actual`), so the flat run
    fails although the structured evaluation succeeds -/
theorem C10_structured_empty_body_counterexample (o : Oracles) :
    let P := [SInstr.loop 2 [], SInstr.loop 2 [SInstr.op (.pushi 1)]]
    ¬ WF P ∧
    flatten P = [.loop 2 0, .loop 2 1, .pushi 1] ∧
    run o (flatten P) [] = none ∧
    ((eval o P ([], [])).bind fun sh => sh.1.head?) = some (.int 1) :=
  ⟨by decide, rfl, rfl, rfl⟩

/-- the innermost active loop must not end before the block does: here the active frame ends at position 0 and the
    block `[loop 1 1, noop]` at position 1 — the nesting check of `loop` fails the run, the structured evaluation
    succeeds -/
theorem C10_structured_not_enclosed_counterexample (o : Oracles) :
    let P := [SInstr.loop 1 [SInstr.op .noop]]
    let st : Exec := { stack := [], heap := [], pc := 0, loops := [{ begin_ := 0, end_ := 0, left := 0 }] }
    WF P ∧ stepN o ([] ++ flatten P ++ []) (stepsOf P) st = none ∧
    (eval o P (st.stack, st.heap)).isSome = true :=
  ⟨by decide, rfl, rfl⟩

/-- `P ≠ []` in `C10_structured`: an empty block takes no step, so no bookkeeping happens — a machine standing one
    past the end of its innermost loop (the stale frame of `C10_empty_loop_stale_frame_step_actual`) keeps the frame,
    whereas `updatePc` would drop it.  (`C10_structured_inside` / `_top`, where the block ends strictly inside the
    innermost loop, hold for the empty program too.) -/
theorem C10_structured_empty_program_counterexample (o : Oracles) :
    let st : Exec := { stack := [], heap := [], pc := 1, loops := [{ begin_ := 0, end_ := 0, left := 0 }] }
    (∀ L tl, st.loops = L :: tl → [Op.noop].length + (flatten []).length - 1 ≤ L.end_) ∧
    (stepN o ([Op.noop] ++ flatten [] ++ []) (stepsOf []) st).map (·.loops) =
      some [{ begin_ := 0, end_ := 0, left := 0 }] ∧
    (updatePc ([Op.noop].length + (flatten []).length) st.loops).2 = [] := by
  refine ⟨?_, rfl, rfl⟩
  intro L tl hl
  simp only [List.cons.injEq] at hl
  rw [← hl.1]
  decide

/-- `(flatten body).length < 2^16` in `WF`: the length field of `Op.loop` is 16 bits wide; a body of 65536 flat
    instructions would be announced as a body of length 0 -/
theorem C10_structured_long_body_counterexample :
    (SInstr.loop 1 ((List.replicate 65536 Op.noop).map SInstr.op)).flatten.head? = some (Op.loop 1 0) ∧
    ¬ (SInstr.loop 1 ((List.replicate 65536 Op.noop).map SInstr.op)).WF := by
  constructor
  · rw [sinstr_flatten_loop, flatten_map_op, List.length_replicate]
    rfl
  · rw [sinstr_WF_loop, flatten_map_op, List.length_replicate]
    omega

section Examples
variable (o : Oracles)

/-- depth 2: `0; loop 3 { loop 4 { 1; add } }` = 12 -/
def exNest2 : List SInstr :=
  [.op (.pushi 0), .loop 3 [.loop 4 [.op (.pushi 1), .op .add]]]

example : WF exNest2 := by decide
example : flatten exNest2 = [.pushi 0, .loop 3 3, .loop 4 2, .pushi 1, .add] := rfl
example : run o (flatten exNest2) [] = some (.int 12) := rfl
example : (eval o exNest2 ([], [])).bind (fun sh => sh.1.head?) = some (.int 12) := by
  simp only [exNest2, eval_fun]; rfl
example : run o (flatten exNest2) [] = (eval o exNest2 ([], [])).bind (fun sh => sh.1.head?) :=
  C10_structured_run o exNest2 (by decide) []
example : runSteps o (flatten exNest2) [] = stepsOf exNest2 := rfl
example : stepsOf exNest2 = 1 + (1 + 3 * (1 + 4 * 2)) := rfl
example : SInstr.depth.depthL exNest2 = 2 := rfl

/-- depth 3 with instructions before, between and after the loops:
    `0; loop 2 { 1; add; loop 3 { loop 2 { 1; add }; 10; add }; 100; add }`
    = 2 * (1 + 3 * (2 + 10) + 100) = 274 -/
def exNest3 : List SInstr :=
  [.op (.pushi 0),
   .loop 2 [.op (.pushi 1), .op .add,
            .loop 3 [.loop 2 [.op (.pushi 1), .op .add], .op (.pushi 10), .op .add],
            .op (.pushi 100), .op .add]]

example : WF exNest3 := by decide
example : flatten exNest3 =
    [.pushi 0, .loop 2 10, .pushi 1, .add, .loop 3 5, .loop 2 2, .pushi 1, .add, .pushi 10, .add,
     .pushi 100, .add] := rfl
private theorem exNest3_eval : eval o exNest3 ([], []) = some ([.int 274], []) := by
  simp only [exNest3, eval_fun]; rfl

example : run o (flatten exNest3) [] = some (.int 274) := rfl
example : (eval o exNest3 ([], [])).bind (fun sh => sh.1.head?) = some (.int 274) := by
  rw [exNest3_eval]; rfl
example : run o (flatten exNest3) [] = (eval o exNest3 ([], [])).bind (fun sh => sh.1.head?) :=
  C10_structured_run o exNest3 (by decide) []
example : runSteps o (flatten exNest3) [] = stepsOf exNest3 := rfl
example : SInstr.depth.depthL exNest3 = 3 := rfl

/-- a zero-count loop in the middle of a nest skips its whole (nested) body -/
def exZero : List SInstr :=
  [.op (.pushi 7), .loop 2 [.loop 0 [.loop 5 [.op (.pushi 1), .op .add]], .op (.pushi 1), .op .add]]

example : WF exZero := by decide
example : run o (flatten exZero) [] = some (.int 9) := rfl
example : run o (flatten exZero) [] = (eval o exZero ([], [])).bind (fun sh => sh.1.head?) :=
  C10_structured_run o exZero (by decide) []
example : runSteps o (flatten exZero) [] = stepsOf exZero := rfl

/-- a failing pass deep in a nest (division by zero in the second round) fails both -/
def exFail : List SInstr :=
  [.op (.pushi 1), .loop 2 [.loop 1 [.op (.pushi 1), .op .sub, .op .dup, .op (.pushi 5), .op .div]]]

example : WF exFail := by decide
example : eval o exFail ([], []) = none := by simp only [exFail, eval_fun]; rfl
example : run o (flatten exFail) [] = none := rfl

example : run o (flatten exNest3) [] = some (.int 274) := by
  rw [C10_structured_run o exNest3 (by decide), exNest3_eval]; rfl

example : runSteps o (flatten exNest3) [] = stepsOf exNest3 :=
  C10_structured_runSteps o exNest3 (by decide) [] ([.int 274], []) (exNest3_eval o)

example : stepN o ([.pushi 0] ++ flatten [SInstr.loop 3 [.loop 4 [.op (.pushi 1), .op .add]]] ++ [.noop])
      (stepsOf [SInstr.loop 3 [.loop 4 [.op (.pushi 1), .op .add]]])
      { stack := [.int 0], heap := [], pc := 1, loops := [] } =
    some { stack := [.int 12], heap := [], pc := 5, loops := [] } := by
  rw [C10_structured_top o _ (by decide) [.pushi 0] [.noop] _ rfl rfl]
  simp only [eval_fun]; rfl

/-- `C10_structured_body_end` with passes left: the block is the tail of the body `[1 .. 3]` of an active loop -/
example : stepN o ([.loop 2 3] ++ flatten [SInstr.loop 2 [.op (.pushi 1)], .op .noop] ++ [])
      (stepsOf [SInstr.loop 2 [.op (.pushi 1)], .op .noop])
      { stack := [], heap := [], pc := 1, loops := [{ begin_ := 1, end_ := 3, left := 1 }] } =
    some { stack := [.int 1, .int 1], heap := [], pc := 1,
           loops := [{ begin_ := 1, end_ := 3, left := 0 }] } := by
  rw [C10_structured_body_end o _ (by simp) (by decide) [.loop 2 3] [] _ rfl
    { begin_ := 1, end_ := 3, left := 1 } [] rfl rfl]
  simp only [eval_fun]; rfl

/-- … and the same computed by the machine itself -/
example : stepN o ([.loop 2 3] ++ flatten [SInstr.loop 2 [.op (.pushi 1)], .op .noop] ++ [])
      (stepsOf [SInstr.loop 2 [.op (.pushi 1)], .op .noop])
      { stack := [], heap := [], pc := 1, loops := [{ begin_ := 1, end_ := 3, left := 1 }] } =
    some { stack := [.int 1, .int 1], heap := [], pc := 1,
           loops := [{ begin_ := 1, end_ := 3, left := 0 }] } := rfl

example : run o ([Op.loop 3 (UInt16.ofNat 2), Op.loop 4 (UInt16.ofNat 1)] ++ [.pushi 1]) [] =
    (iter (straight o [.pushi 1]) (3 * 4) ([], [])).bind fun sh => sh.1.head? :=
  C10_nested_loops_run o [.pushi 1] 3 4 [] (by decide) (by decide) (by decide)

end Examples

#print axioms C10_structured
#print axioms C10_structured_inside
#print axioms C10_structured_top
#print axioms C10_structured_body_end
#print axioms C10_structured_runFuel
#print axioms C10_structured_run
#print axioms C10_structured_runSteps
#print axioms C10_structured_run_evalSteps
#print axioms C10_nested_loops_exact
#print axioms C10_nested_loops_exact_mul
#print axioms C10_nested_loops_run
#print axioms C10_loop_exact_eq
#print axioms C10_loop_exact
#print axioms C10_loop_exact_zero
#print axioms C10_loop_exact_run
#print axioms C10_loop_run
#print axioms C10_loop_run_fails
#print axioms C10_empty_loop_stale_frame_actual
#print axioms C10_empty_loop_stale_frame_step_actual
#print axioms C10_loop_body_overrun_runs_once_actual
#print axioms C10_loop_body_overrun_stepN_actual
#print axioms C10_loop_body_overrun_run_actual
#print axioms C10_loop_exact_eq_of_structured
#print axioms C10_structured_empty_body_counterexample
#print axioms C10_structured_not_enclosed_counterexample
#print axioms C10_structured_empty_program_counterexample
#print axioms C10_structured_long_body_counterexample

end Mel.VM

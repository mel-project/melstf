/-
  C08 over reachable states — restart equivalence "at every height at which a node might stop and restart" — and the
  sharp form of finding F6: what the pending tips (the one field a block does not carry) can and cannot influence.

  Part 1 discharges the two hypotheses of `C08_roundtrip` (`toBlock` succeeds, the transaction list is sorted) from
  reachability.  They need no freshness assumption at all: they hold along any run of the chain from a genesis state
  (`ChainRun`, Props/C13Life.lean), hence in every `Reachable` / `ReachableSep` / `ReachableB` state.
  Part 2: `EqUpToTips` — two states that differ in their tips only (a state and its restored copy) —
    (a) accept / reject / crash on exactly the same batches, with the same resulting state up to tips, the tips being
        the same increments added (saturating) to the two different starts;
    (b) seal without an action to states equal up to tips, with the same header;
    (c) seal with an action to states that are the same pre-payout state with the reward coin written with two
        values that differ by exactly the difference of the tips.
  Together: after a restart the only observable difference is the next proposer's reward, lower by exactly the tips
  that were pending (`C08_restart_only_reward_differs`).
-/
import MelModel.Props.C08
import MelModel.Props.Reach
import MelModel.Props.C09Reach
import MelModel.Props.C05Hist
import MelModel.Props.C13Life
import MelModel.Lemmas.RestartL
namespace Mel
open Mel.Gen Mel.RestartL


theorem C08_txsSorted_iff_sortedTxs (l : List Tx) : TxsSorted l ↔ SortedTxs l := txsSorted_iff_sortedTxs l

/-- Restart along any run: whatever state a run of the chain from a genesis state has reached, once it is sealed
    (with or without a proposer action) the sealed state can be written out as a block, and restoring from that block
    gives back every field except the pending tips.  No hash-freshness assumption is needed. -/
theorem C08_restart_run (env : Env) (cfg : GenesisConfig) (s : State) (a : Option ProposerAction) (ss : Sealed)
    (hrun : ChainRun env (genesisState cfg) s) (h : sealState env s a = .ok ss) :
    ∃ blk, toBlock env ss = .ok blk ∧
      fromBlock blk ss.st.stakes ss.st.coins ss.st.history ss.st.pools =
        { st := { ss.st with tips := 0 }, action := ss.action } := by
  obtain ⟨hs, blk, hb⟩ := toBlock_total (runInv_run hrun (runInv_genesis cfg)) h
  exact ⟨blk, hb, C08_roundtrip env ss blk hb hs⟩

/-- Restart equivalence at every reachable height: the hypotheses of `C08_roundtrip` are discharged by
    reachability.  (`Reachable` suffices; `ReachableSep`, `ReachableB` and `RewardFresh` are not needed.) -/
theorem C08_restart_reachable (env : Env) (s : State) (a : Option ProposerAction) (ss : Sealed)
    (hr : Reachable env s) (h : sealState env s a = .ok ss) :
    ∃ blk, toBlock env ss = .ok blk ∧
      fromBlock blk ss.st.stakes ss.st.coins ss.st.history ss.st.pools =
        { st := { ss.st with tips := 0 }, action := ss.action } := by
  obtain ⟨cfg, hrun⟩ := hr.toRun
  exact C08_restart_run env cfg s a ss hrun h

/-- … in the form with the refined reachability notion and the freshness of the reward id among the hypotheses -/
theorem C08_restart_reachableSep (env : Env) (s : State) (a : Option ProposerAction) (ss : Sealed)
    (hr : ReachableSep env s) (_hrew : RewardFresh env s) (h : sealState env s a = .ok ss) :
    ∃ blk, toBlock env ss = .ok blk ∧
      fromBlock blk ss.st.stakes ss.st.coins ss.st.history ss.st.pools =
        { st := { ss.st with tips := 0 }, action := ss.action } :=
  C08_restart_reachable env s a ss hr.reachable h

/-- … and for `ReachableB` states under `SealBounds` sealing itself succeeds, so: a reachable state can always be
    sealed, written out and restored -/
theorem C08_restart_reachableB (env : Env) (s : State) (a : Option ProposerAction)
    (hr : ReachableB env s) (hb : SealBounds s) :
    ∃ ss blk, sealState env s a = .ok ss ∧ toBlock env ss = .ok blk ∧
      fromBlock blk ss.st.stakes ss.st.coins ss.st.history ss.st.pools =
        { st := { ss.st with tips := 0 }, action := ss.action } := by
  obtain ⟨ss, hs⟩ := C09_seal_ok_reachable hr hb a
  obtain ⟨blk, h1, h2⟩ := C08_restart_reachable env s a ss hr.reachable hs
  exact ⟨ss, blk, hs, h1, h2⟩

theorem C08_zeroed_eq_iff (ss : Sealed) :
    ({ st := { ss.st with tips := 0 }, action := ss.action } : Sealed) = ss ↔ ss.st.tips = 0 := by
  constructor
  · intro h
    exact (congrArg (fun x : Sealed => x.st.tips) h).symm
  · intro ht
    rw [← ht]

/-- restored = original ↔ no pending tips, for every sealed state of a run -/
theorem C08_restart_exact_iff_no_pending_tips (env : Env) (cfg : GenesisConfig) (s : State)
    (a : Option ProposerAction) (ss : Sealed)
    (hrun : ChainRun env (genesisState cfg) s) (h : sealState env s a = .ok ss) :
    ∃ blk, toBlock env ss = .ok blk ∧
      (fromBlock blk ss.st.stakes ss.st.coins ss.st.history ss.st.pools = ss ↔ ss.st.tips = 0) := by
  obtain ⟨blk, hb, hr⟩ := C08_restart_run env cfg s a ss hrun h
  exact ⟨blk, hb, by rw [hr]; exact C08_zeroed_eq_iff ss⟩

/-- a block sealed with a proposer action is restored exactly (the tips are 0 after the action) -/
theorem C08_restart_exact_with_action (env : Env) (s : State) (act : ProposerAction) (ss : Sealed)
    (hr : Reachable env s) (h : sealState env s (some act) = .ok ss) :
    ∃ blk, toBlock env ss = .ok blk ∧ fromBlock blk ss.st.stakes ss.st.coins ss.st.history ss.st.pools = ss := by
  obtain ⟨blk, hb, hrt⟩ := C08_restart_reachable env s (some act) ss hr h
  exact ⟨blk, hb, by rw [hrt]; exact (C08_zeroed_eq_iff ss).mpr (C08_tips_zero_after_action env s act ss h)⟩

/-- along a chain every block of which carries a proposer action (`ActionRun`, as every block of a real chain
    does) every sealed state is restored exactly -/
theorem C08_restart_exact_on_action_chains (env : Env) (cfg : GenesisConfig) (m : State) (act : ProposerAction)
    (ss : Sealed) (hrun : ActionRun env (genesisState cfg) m) (h : sealState env m (some act) = .ok ss) :
    ∃ blk, toBlock env ss = .ok blk ∧ fromBlock blk ss.st.stakes ss.st.coins ss.st.history ss.st.pools = ss := by
  obtain ⟨blk, hb, hrt⟩ := C08_restart_run env cfg m (some act) ss hrun.toRun h
  exact ⟨blk, hb, by rw [hrt]; exact (C08_zeroed_eq_iff ss).mpr (C08_tips_zero_after_action env m act ss h)⟩

/-- … and on such a chain even a block that has just been opened (no transaction yet) and is sealed without an
    action is restored exactly: it carries no tips (`C05_tips_zero_from_genesis`) -/
theorem C08_restart_exact_fresh_block_on_action_chains (env : Env) (cfg : GenesisConfig) (m : State) (ss : Sealed)
    (hrun : ActionRun env (genesisState cfg) m) (hnil : m.txs = []) (h : sealState env m none = .ok ss) :
    ∃ blk, toBlock env ss = .ok blk ∧ fromBlock blk ss.st.stakes ss.st.coins ss.st.history ss.st.pools = ss := by
  obtain ⟨blk, hb, hrt⟩ := C08_restart_run env cfg m none ss hrun.toRun h
  refine ⟨blk, hb, ?_⟩
  rw [hrt]
  apply (C08_zeroed_eq_iff ss).mpr
  rw [C08_tips_kept_without_action env m ss h]
  exact C05_tips_zero_from_genesis env cfg m hrun hnil


theorem C08_restored_eqUpToTips (s : State) : EqUpToTips s { s with tips := 0 } := eqUpToTips_W s 0

/-- `EqUpToTips` is an equivalence relation (`EqUpToTips.refl`, `.symm`, `.trans` in Lemmas/RestartL.lean) -/
example (a b c : State) (e1 : EqUpToTips a b) (e2 : EqUpToTips b c) : EqUpToTips c a := (e1.trans e2).symm

/-- (a) batches, as one equation: on a state with other tips a batch has the same verdict — accepted, the same
    rejection, the same crash — and the same resulting state up to tips; the new tips are the same per-transaction
    increments (fee above the minimum fee at the state's fee multiplier) added, saturating, to the other start -/
theorem C08_batch_up_to_tips_eq (env : Env) (s₁ s₂ : State) (txs : List Tx) (fb : Header) (e : EqUpToTips s₁ s₂) :
    applyBatch env s₂ txs fb =
      (applyBatch env s₁ txs fb).bind fun s₁' =>
        .ok { s₁' with tips := tipsAfter s₂.tips s₁.feeMultiplier txs } := by
  rw [eqUpToTips_form e]
  exact applyBatch_W env s₁ txs fb s₂.tips

/-- (a) accepted batches: `applyBatch` respects `EqUpToTips`; both tips are `satAdd128`-folds of the same
    increments `ds` (the model adds with saturation at u128::MAX, so "the difference is kept" is only true while
    neither saturates: `C08_batch_tips_diff`) -/
theorem C08_batch_up_to_tips (env : Env) (s₁ s₂ s₁' : State) (txs : List Tx) (fb : Header)
    (e : EqUpToTips s₁ s₂) (h : applyBatch env s₁ txs fb = .ok s₁') :
    ∃ s₂', applyBatch env s₂ txs fb = .ok s₂' ∧ EqUpToTips s₁' s₂' ∧
      ∃ ds : List Nat, ds = txs.map (tipIncr s₁.feeMultiplier) ∧
        s₁'.tips = ds.foldl satAdd128 s₁.tips ∧ s₂'.tips = ds.foldl satAdd128 s₂.tips := by
  refine ⟨W s₁' (tipsAfter s₂.tips s₁.feeMultiplier txs), ?_, eqUpToTips_W _ _, _, rfl, applyBatch_tips h, rfl⟩
  rw [C08_batch_up_to_tips_eq env s₁ s₂ txs fb e, h]
  rfl

/-- … while neither accumulator saturates, the tips differ after the batch by exactly what they differed before -/
theorem C08_batch_tips_diff (env : Env) (s₁ s₂ s₁' s₂' : State) (txs : List Tx) (fb : Header)
    (e : EqUpToTips s₁ s₂) (h₁ : applyBatch env s₁ txs fb = .ok s₁') (h₂ : applyBatch env s₂ txs fb = .ok s₂')
    (hs₁ : s₁'.tips < U128_MAX) (hs₂ : s₂'.tips < U128_MAX) :
    s₁'.tips + s₂.tips = s₂'.tips + s₁.tips := by
  obtain ⟨x, hx, -, ds, rfl, t1, t2⟩ := C08_batch_up_to_tips env s₁ s₂ s₁' txs fb e h₁
  rw [h₂] at hx
  cases hx
  rw [t1] at hs₁ ⊢
  rw [t2] at hs₂ ⊢
  exact tipsAfter_diff s₁.tips s₂.tips s₁.feeMultiplier txs hs₁ hs₂

/-- … in the restart case (`s₂.tips = 0`): the original's tips are the restored state's tips plus what was pending;
    it suffices that the original's accumulator does not saturate -/
theorem C08_batch_tips_restart (env : Env) (s₁ s₂ s₁' s₂' : State) (txs : List Tx) (fb : Header)
    (e : EqUpToTips s₁ s₂) (h0 : s₂.tips = 0) (h₁ : applyBatch env s₁ txs fb = .ok s₁')
    (h₂ : applyBatch env s₂ txs fb = .ok s₂') (hs₁ : s₁'.tips < U128_MAX) :
    s₁'.tips = s₂'.tips + s₁.tips := by
  obtain ⟨x, hx, -, ds, hds, t1, t2⟩ := C08_batch_up_to_tips env s₁ s₂ s₁' txs fb e h₁
  rw [h₂] at hx
  cases hx
  have hle : s₂'.tips ≤ s₁'.tips := by
    rw [t1, t2]; exact foldl_satAdd128_mono _ _ _ (by omega)
  have := C08_batch_tips_diff env s₁ s₂ s₁' s₂' txs fb e h₁ h₂ hs₁ (by omega)
  omega

/-- (a) rejections coincide (the error reported depends on nothing but the transactions and the tip-free part
    of the state) … -/
theorem C08_batch_reject_up_to_tips (env : Env) (s₁ s₂ : State) (txs : List Tx) (fb : Header) (err : StateError)
    (e : EqUpToTips s₁ s₂) (h : applyBatch env s₁ txs fb = .reject err) :
    applyBatch env s₂ txs fb = .reject err := by
  rw [C08_batch_up_to_tips_eq env s₁ s₂ txs fb e, h]; rfl

/-- … and so do crashes -/
theorem C08_batch_crash_up_to_tips (env : Env) (s₁ s₂ : State) (txs : List Tx) (fb : Header) (c : String)
    (e : EqUpToTips s₁ s₂) (h : applyBatch env s₁ txs fb = .crash c) :
    applyBatch env s₂ txs fb = .crash c := by
  rw [C08_batch_up_to_tips_eq env s₁ s₂ txs fb e, h]; rfl

/-- (b) sealing without an action respects `EqUpToTips`, keeps both tips, and gives the same header -/
theorem C08_seal_none_up_to_tips (env : Env) (s₁ s₂ : State) (ss₁ : Sealed) (e : EqUpToTips s₁ s₂)
    (h : sealState env s₁ none = .ok ss₁) :
    ∃ ss₂, sealState env s₂ none = .ok ss₂ ∧ EqUpToTips ss₁.st ss₂.st ∧ ss₂.st.tips = s₂.tips ∧
      ss₁.action = ss₂.action ∧ headerOf env ss₁ = headerOf env ss₂ := by
  refine ⟨{ st := W ss₁.st s₂.tips, action := none }, ?_, eqUpToTips_W _ _, rfl, sealState_action _ _ _ _ h, ?_⟩
  · rw [eqUpToTips_form e]; exact sealState_none_W _ h
  · exact (headerOf_W env ss₁.st s₂.tips none ss₁.action).symm

/-- … and so does opening the next block: the two next states are equal up to tips, the tips carried over -/
theorem C08_next_up_to_tips (env : Env) (ss₁ ss₂ : Sealed) (n₁ : State) (e : EqUpToTips ss₁.st ss₂.st)
    (h : nextUnsealed env ss₁ = .ok n₁) :
    ∃ n₂, nextUnsealed env ss₂ = .ok n₂ ∧ EqUpToTips n₁ n₂ ∧ n₂.tips = ss₂.st.tips := by
  obtain ⟨st₂, a₂⟩ := ss₂
  obtain ⟨st₁, a₁⟩ := ss₁
  simp only at e
  refine ⟨W n₁ st₂.tips, ?_, eqUpToTips_W _ _, rfl⟩
  rw [eqUpToTips_form e, nextUnsealed_W env st₁ st₂.tips a₂ a₁, h]
  rfl

/-- (c) sealing with an action: both sealed states are the same pre-payout state `p` (the state after Melmint
    and the subsidy, tips aside) with the reward coin written with value `base + tips`, `base` the 65536th of the
    post-subsidy fee pool.  The second seal succeeds when its reward fits a u128 (`hfit`). -/
theorem C08_seal_action_up_to_tips (env : Env) (s₁ s₂ : State) (a : ProposerAction) (ss₁ : Sealed)
    (e : EqUpToTips s₁ s₂) (h : sealState env s₁ (some a) = .ok ss₁) :
    ∃ (p : State) (base : Nat), p.height = s₁.height ∧ base + s₁.tips ≤ U128_MAX ∧
      ss₁ = { st := payout env p a (base + s₁.tips), action := some a } ∧
      (base + s₂.tips ≤ U128_MAX →
        sealState env s₂ (some a) = .ok { st := payout env p a (base + s₂.tips), action := some a }) := by
  obtain ⟨p, hh, hle, hss, hall⟩ := sealState_some_W h
  refine ⟨p, p.feePool / 2 ^ REWARD_SHIFT, hh, hle, hss, fun hfit => ?_⟩
  rw [eqUpToTips_form e]
  exact hall s₂.tips hfit

def rewardCoinId (env : Env) (height : Nat) : CoinID := { txhash := env.rewardId height, index := 0 }

/-- (c), spelled out: when the second state has no more tips than the first (in particular after a restart:
    `s₂.tips = 0`) the second seal succeeds as well, and the two sealed states agree on the action, on every field
    other than the coin map, on the per-covenant counts and on every coin except the proposer's reward
    `(env.rewardId s.height, 0)`; the two reward coins have the same covenant, denomination and height and their
    values differ by exactly the difference of the tips -/
theorem C08_seal_action_reward_diff (env : Env) (s₁ s₂ : State) (a : ProposerAction) (ss₁ : Sealed)
    (e : EqUpToTips s₁ s₂) (h : sealState env s₁ (some a) = .ok ss₁) (hle : s₂.tips ≤ s₁.tips) :
    ∃ (ss₂ : Sealed) (base : Nat), sealState env s₂ (some a) = .ok ss₂ ∧ ss₁.action = ss₂.action ∧
      ss₂.st = { ss₁.st with coins := ss₂.st.coins } ∧
      ss₁.st.coins.counts = ss₂.st.coins.counts ∧
      (∀ id, id ≠ rewardCoinId env s₁.height → ss₁.st.coins.getCoin id = ss₂.st.coins.getCoin id) ∧
      ss₁.st.coins.getCoin (rewardCoinId env s₁.height) =
        some { coinData := { covhash := a.rewardDest, value := base + s₁.tips, denom := .mel, additionalData := [] },
               height := s₁.height } ∧
      ss₂.st.coins.getCoin (rewardCoinId env s₁.height) =
        some { coinData := { covhash := a.rewardDest, value := base + s₂.tips, denom := .mel, additionalData := [] },
               height := s₁.height } := by
  obtain ⟨p, base, hh, hb, rfl, hfit⟩ := C08_seal_action_up_to_tips env s₁ s₂ a ss₁ e h
  refine ⟨_, base, hfit (by omega), rfl, rfl, payout_counts env p a _ _, fun id hid => ?_, ?_, ?_⟩
  · rw [← hh] at hid
    rw [payout_getCoin_ne env p a _ hid, payout_getCoin_ne env p a _ hid]
  · rw [← hh]; exact payout_getCoin_self env p a _
  · rw [← hh]; exact payout_getCoin_self env p a _

/-- (c), the restart case: `value₁ = value₂ + s₁.tips` -/
theorem C08_seal_action_restart (env : Env) (s₁ s₂ : State) (a : ProposerAction) (ss₁ : Sealed)
    (e : EqUpToTips s₁ s₂) (h0 : s₂.tips = 0) (h : sealState env s₁ (some a) = .ok ss₁) :
    ∃ ss₂ c₁ c₂, sealState env s₂ (some a) = .ok ss₂ ∧
      ss₁.st.coins.getCoin (rewardCoinId env s₁.height) = some c₁ ∧
      ss₂.st.coins.getCoin (rewardCoinId env s₁.height) = some c₂ ∧
      c₁.coinData.value = c₂.coinData.value + s₁.tips ∧
      c₁.coinData.covhash = c₂.coinData.covhash ∧ c₁.coinData.denom = c₂.coinData.denom ∧ c₁.height = c₂.height ∧
      (∀ id, id ≠ rewardCoinId env s₁.height → ss₁.st.coins.getCoin id = ss₂.st.coins.getCoin id) ∧
      ss₂.st = { ss₁.st with coins := ss₂.st.coins } := by
  obtain ⟨ss₂, base, hs, -, hst, -, hother, hc₁, hc₂⟩ :=
    C08_seal_action_reward_diff env s₁ s₂ a ss₁ e h (by omega)
  refine ⟨ss₂, _, _, hs, hc₁, hc₂, ?_, rfl, rfl, rfl, hother, hst⟩
  show base + s₁.tips = base + s₂.tips + s₁.tips
  omega

/-- Together — the only observable difference after a restart is the next proposer's reward: let `n₁` be an
    open state with pending tips and `n₂` its restored copy (`EqUpToTips`, no tips).  Any batch accepted by one is
    accepted by the other; sealing the results with a proposer action succeeds for both; the two sealed states agree
    on everything except the value of the reward coin, and — unless the original's tips saturate — the restored
    chain's reward is lower by exactly the tips that were pending. -/
theorem C08_restart_only_reward_differs (env : Env) (n₁ n₂ u₁ : State) (txs : List Tx) (fb : Header)
    (a : ProposerAction) (ss₁ : Sealed) (e : EqUpToTips n₁ n₂) (h0 : n₂.tips = 0)
    (hb : applyBatch env n₁ txs fb = .ok u₁) (hs : sealState env u₁ (some a) = .ok ss₁) :
    ∃ u₂ ss₂ c₁ c₂, applyBatch env n₂ txs fb = .ok u₂ ∧ sealState env u₂ (some a) = .ok ss₂ ∧
      ss₂.st = { ss₁.st with coins := ss₂.st.coins } ∧
      (∀ id, id ≠ rewardCoinId env u₁.height → ss₁.st.coins.getCoin id = ss₂.st.coins.getCoin id) ∧
      ss₁.st.coins.getCoin (rewardCoinId env u₁.height) = some c₁ ∧
      ss₂.st.coins.getCoin (rewardCoinId env u₁.height) = some c₂ ∧
      c₂.coinData.value ≤ c₁.coinData.value ∧
      (u₁.tips < U128_MAX → c₁.coinData.value = c₂.coinData.value + n₁.tips) := by
  obtain ⟨u₂, hb₂, eu, ds, -, t1, t2⟩ := C08_batch_up_to_tips env n₁ n₂ u₁ txs fb e hb
  have hle : u₂.tips ≤ u₁.tips := by
    rw [t1, t2]; exact foldl_satAdd128_mono _ _ _ (by omega)
  obtain ⟨ss₂, base, hs₂, -, hst, -, hother, hc₁, hc₂⟩ := C08_seal_action_reward_diff env u₁ u₂ a ss₁ eu hs hle
  refine ⟨u₂, ss₂, _, _, hb₂, hs₂, hst, hother, hc₁, hc₂, Nat.add_le_add_left hle base, fun hsat => ?_⟩
  have := C08_batch_tips_restart env n₁ n₂ u₁ u₂ txs fb e h0 hb hb₂ hsat
  show base + u₁.tips = base + u₂.tips + n₁.tips
  omega

/-- The restart scenario, end to end: seal a reachable state, write the block, restore, open the next block on
    both sides — the two open states are equal up to tips, the restored one having none (so parts (a)–(c) and
    `C08_restart_only_reward_differs` apply to them) -/
theorem C08_restart_then_next (env : Env) (s : State) (a : Option ProposerAction) (ss : Sealed) (n₁ : State)
    (hr : Reachable env s) (h : sealState env s a = .ok ss) (hn : nextUnsealed env ss = .ok n₁) :
    ∃ blk n₂, toBlock env ss = .ok blk ∧
      nextUnsealed env (fromBlock blk ss.st.stakes ss.st.coins ss.st.history ss.st.pools) = .ok n₂ ∧
      EqUpToTips n₁ n₂ ∧ n₂.tips = 0 ∧ n₁.tips = ss.st.tips := by
  obtain ⟨blk, hb, hrt⟩ := C08_restart_reachable env s a ss hr h
  obtain ⟨n₂, hn₂, e, ht⟩ := C08_next_up_to_tips env ss { st := { ss.st with tips := 0 }, action := ss.action } n₁
    (C08_restored_eqUpToTips ss.st) hn
  exact ⟨blk, n₂, hb, by rw [hrt]; exact hn₂, e, ht, (FeeHistL.nextUnsealed_fee hn).2.1⟩


namespace C08ReachWitness
open ReachWitness (env cfg getOk eq_getOk)
open C05HistWitness (pz act q1 qs ns n2 pz2 u1 batch_ok seal_ok sealNone_ok nextNone_ok u1_ok)

/-- the block written out from `ns` (the batch `[pz]` — 2 MEL of tips — sealed without an action) -/
def blk : Block := getOk (toBlock env ns)
def r : Sealed := fromBlock blk ns.st.stakes ns.st.coins ns.st.history ns.st.pools
def m2 : State := getOk (nextUnsealed env r)

/-- the original chain: the batch `[pz2]` on `n2`, sealed with the action -/
def us1 : Sealed := getOk (sealState env u1 (some act))
/-- the restored chain: the same on `m2` (no tips) -/
def u2 : State := getOk (applyBatch env m2 [pz2] default)
def us2 : Sealed := getOk (sealState env u2 (some act))

def sn1 : Sealed := getOk (sealState env n2 none)

/-- what is evaluated about the original and the restored chain, in one run of the kernel: every step succeeds;
    the tips after the batch and the proposer's coin after the seal, on both sides -/
theorem facts :
    ((toBlock env ns).isOk = true ∧ (nextUnsealed env r).isOk = true ∧
      (sealState env u1 (some act)).isOk = true ∧
      (applyBatch env m2 [pz2] default).isOk = true ∧ (sealState env u2 (some act)).isOk = true ∧
      (sealState env n2 none).isOk = true) ∧
    (u1.tips = 3 ∧ u2.tips = 1) ∧
    (us1.st.coins.getCoin (rewardCoinId env u1.height)).map (·.coinData.value) = some 34 ∧
    (us2.st.coins.getCoin (rewardCoinId env u1.height)).map (·.coinData.value) = some 32 := by decide +kernel

theorem blk_ok : toBlock env ns = .ok blk := eq_getOk facts.1.1
theorem m2_ok : nextUnsealed env r = .ok m2 := eq_getOk facts.1.2.1
theorem us1_ok : sealState env u1 (some act) = .ok us1 := eq_getOk facts.1.2.2.1
theorem u2_ok : applyBatch env m2 [pz2] default = .ok u2 := eq_getOk facts.1.2.2.2.1
theorem us2_ok : sealState env u2 (some act) = .ok us2 := eq_getOk facts.1.2.2.2.2.1
theorem sn1_ok : sealState env n2 none = .ok sn1 := eq_getOk facts.1.2.2.2.2.2

theorem q1_run : ChainRun env (genesisState cfg) q1 := .step (.refl _) (.batch batch_ok)

theorem q1_reachable : Reachable env q1 :=
  .batch (.genesis cfg) (batchFresh_genesis _ _ (by decide) (by decide)) batch_ok

/-- the restart of `ns` and the opening of the next block, on the literal states: `n2` and `m2` are equal up to the
    tips, of which `m2` has none -/
theorem restarted : EqUpToTips n2 m2 ∧ m2.tips = 0 := by
  obtain ⟨blk', n₂, hb', hn₂, e, ht0, -⟩ := C08_restart_then_next env q1 none ns n2 q1_reachable sealNone_ok nextNone_ok
  -- the variables are rewritten to the literal states, not the other way round: `subst` would put the literal
  -- state into weak head normal form, that is run the whole chain in the elaborator
  have hblk : blk' = blk := Outcome.ok.inj (hb'.symm.trans blk_ok)
  rw [hblk] at hn₂
  have hm : n₂ = m2 := Outcome.ok.inj (hn₂.symm.trans m2_ok)
  rw [hm] at e ht0
  exact ⟨e, ht0⟩

end C08ReachWitness

/-- non-vacuity of part 1, both ways: the reachable state `q1` (genesis, then a batch paying 2 MEL of tips) sealed
    with an action is restored exactly; sealed without one it is restored with the tips lost (2 ≠ 0), so the restored
    state is not the original — `C08_restart_exact_iff_no_pending_tips` has both of its sides inhabited -/
theorem C08_restart_nonvacuous :
    ∃ (env : Env) (cfg : GenesisConfig) (s : State) (act : ProposerAction) (ssA ssN : Sealed) (blkA blkN : Block),
      ChainRun env (genesisState cfg) s ∧ Reachable env s ∧ ActionRun env (genesisState cfg) s ∧
      sealState env s (some act) = .ok ssA ∧ toBlock env ssA = .ok blkA ∧
      fromBlock blkA ssA.st.stakes ssA.st.coins ssA.st.history ssA.st.pools = ssA ∧
      sealState env s none = .ok ssN ∧ toBlock env ssN = .ok blkN ∧ ssN.st.tips = 2 ∧
      fromBlock blkN ssN.st.stakes ssN.st.coins ssN.st.history ssN.st.pools ≠ ssN := by
  open C08ReachWitness C05HistWitness in
  obtain ⟨blkA, hA, eA⟩ := C08_restart_exact_with_action ReachWitness.env q1 act qs q1_reachable seal_ok
  obtain ⟨blkN, hN, eN⟩ :=
    C08_restart_exact_iff_no_pending_tips ReachWitness.env ReachWitness.cfg q1 none ns q1_run sealNone_ok
  have ht : ns.st.tips = 2 := tips_kept.1
  refine ⟨ReachWitness.env, ReachWitness.cfg, q1, act, qs, ns, blkA, blkN, q1_run, q1_reachable,
    .batch (.refl _) batch_ok, seal_ok, hA, eA, sealNone_ok, hN, ht, fun he => ?_⟩
  have := eN.mp he
  omega

/-- non-vacuity of part 2 (and the numbers of finding F6): after the restart of the block with 2 MEL of pending
    tips, the same batch `[pz2]` (1 MEL of tips) is accepted on both sides, the tips are 3 and 1, and sealing with
    the same action pays the proposer 34 MEL on the original chain and 32 MEL on the restored one: lower by exactly
    the 2 MEL that were pending; every other coin and every other field agree -/
theorem C08_up_to_tips_nonvacuous :
    ∃ (env : Env) (n₁ n₂ u₁ u₂ : State) (txs : List Tx) (fb : Header) (a : ProposerAction) (ss₁ ss₂ : Sealed),
      EqUpToTips n₁ n₂ ∧ n₁.tips = 2 ∧ n₂.tips = 0 ∧
      applyBatch env n₁ txs fb = .ok u₁ ∧ applyBatch env n₂ txs fb = .ok u₂ ∧ u₁.tips = 3 ∧ u₂.tips = 1 ∧
      sealState env u₁ (some a) = .ok ss₁ ∧ sealState env u₂ (some a) = .ok ss₂ ∧
      (ss₁.st.coins.getCoin (rewardCoinId env u₁.height)).map (·.coinData.value) = some 34 ∧
      (ss₂.st.coins.getCoin (rewardCoinId env u₁.height)).map (·.coinData.value) = some 32 ∧
      ss₂.st = { ss₁.st with coins := ss₂.st.coins } := by
  open C08ReachWitness C05HistWitness in
  obtain ⟨e, ht0⟩ := restarted
  obtain ⟨u₂', ss₂', c₁, c₂, hb₂, hs₂, hst, -, -, -, -, -⟩ :=
    C08_restart_only_reward_differs ReachWitness.env n2 m2 u1 [pz2] default act us1 e ht0 u1_ok us1_ok
  have hu : u₂' = u2 := Outcome.ok.inj (hb₂.symm.trans u2_ok)
  rw [hu] at hs₂
  have hss : ss₂' = us2 := Outcome.ok.inj (hs₂.symm.trans us2_ok)
  rw [hss] at hst
  obtain ⟨-, ⟨tips1, tips2⟩, reward1, reward2⟩ := C08ReachWitness.facts
  exact ⟨ReachWitness.env, n2, m2, u1, u2, [pz2], default, act, us1, us2, e, tips_kept.2.2, ht0,
    u1_ok, u2_ok, tips1, tips2, us1_ok, us2_ok, reward1, reward2, hst⟩

/-- non-vacuity of (b): the same two open states sealed without an action give the same header -/
example : ∃ ss₁ ss₂, sealState ReachWitness.env C05HistWitness.n2 none = .ok ss₁ ∧
    sealState ReachWitness.env C08ReachWitness.m2 none = .ok ss₂ ∧ ss₁.st.tips = 2 ∧ ss₂.st.tips = 0 ∧
    headerOf ReachWitness.env ss₁ = headerOf ReachWitness.env ss₂ := by
  open C08ReachWitness C05HistWitness in
  obtain ⟨e, ht0⟩ := restarted
  obtain ⟨ss₂, hs₂, -, ht₂, -, hh⟩ := C08_seal_none_up_to_tips ReachWitness.env n2 m2 sn1 e sn1_ok
  refine ⟨sn1, ss₂, sn1_ok, hs₂, ?_, ht₂.trans ht0, hh⟩
  rw [C08_tips_kept_without_action _ _ _ sn1_ok]
  exact tips_kept.2.2

end Mel

#print axioms Mel.C08_txsSorted_iff_sortedTxs
#print axioms Mel.C08_restart_run
#print axioms Mel.C08_restart_reachable
#print axioms Mel.C08_restart_reachableSep
#print axioms Mel.C08_restart_reachableB
#print axioms Mel.C08_zeroed_eq_iff
#print axioms Mel.C08_restart_exact_iff_no_pending_tips
#print axioms Mel.C08_restart_exact_with_action
#print axioms Mel.C08_restart_exact_on_action_chains
#print axioms Mel.C08_restart_exact_fresh_block_on_action_chains
#print axioms Mel.C08_restored_eqUpToTips
#print axioms Mel.C08_batch_up_to_tips_eq
#print axioms Mel.C08_batch_up_to_tips
#print axioms Mel.C08_batch_tips_diff
#print axioms Mel.C08_batch_tips_restart
#print axioms Mel.C08_batch_reject_up_to_tips
#print axioms Mel.C08_batch_crash_up_to_tips
#print axioms Mel.C08_seal_none_up_to_tips
#print axioms Mel.C08_next_up_to_tips
#print axioms Mel.C08_seal_action_up_to_tips
#print axioms Mel.C08_seal_action_reward_diff
#print axioms Mel.C08_seal_action_restart
#print axioms Mel.C08_restart_only_reward_differs
#print axioms Mel.C08_restart_then_next
#print axioms Mel.C08_restart_nonvacuous
#print axioms Mel.C08_up_to_tips_nonvacuous

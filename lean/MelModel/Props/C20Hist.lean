/-
  C20 for restored and for sealed reachable states — the count invariant survives a restart: the state restored from
  the block of a sealed state has that state's coin map, hence the invariant; every state sealed from a reachable
  state satisfies the invariant once TIP-906 is active; so the state restored from a reachable chain, and the block
  opened on it, satisfy it too.  (`Props/C20.lean` has the coin-map level, `Props/Reach.lean` the lift to reachable
  unsealed states `C20_reachable` and the seal step `reach_seal_inv`, `Props/C08.lean` the round trip
  `C08_roundtrip`.)
-/
import MelModel.Chain
import MelModel.Props.C20
import MelModel.Props.C08
import MelModel.Props.Reach
import MelModel.Props.C08Reach
import MelModel.Props.C09Reach
namespace Mel
open Mel.Gen

/-- the invariant survives a restart: restoring from a block with the stake set and the trees of the sealed
    state `ss` gives a state with the coin map of `ss` — whatever the block — hence with the count invariant -/
theorem C20_restored (ss : Sealed) (blk : Block) (h : CountsOk ss.st.coins) :
    (fromBlock blk ss.st.stakes ss.st.coins ss.st.history ss.st.pools).st.coins = ss.st.coins ∧
    CountsOk (fromBlock blk ss.st.stakes ss.st.coins ss.st.history ss.st.pools).st.coins :=
  ⟨rfl, h⟩

/-- … and restoring from the block written out of `ss` itself gives back `ss` up to the pending tips
    (`C08_roundtrip`), so the whole structural invariant `Inv`, not only the counts, survives -/
theorem C20_restored_inv (env : Env) (ss : Sealed) (blk : Block) (h : toBlock env ss = .ok blk) (hi : Inv ss.st) :
    Inv (fromBlock blk ss.st.stakes ss.st.coins ss.st.history ss.st.pools).st := by
  rw [C08_roundtrip env ss blk h ((C08_txsSorted_iff_sortedTxs _).mpr hi.sorted)]
  -- no field of `Inv` reads the tips
  exact { hi with }

/-- every sealed reachable state satisfies the invariant: a state obtained by `sealState` from a `ReachableSep`
    state whose reward pseudo-coin id is fresh satisfies `Inv`; with TIP-906 active its per-covenant counts are
    exactly the numbers of unspent coins (from `reach_seal_inv`) -/
theorem C20_reachable_sealed (env : Env) (s : State) (a : Option ProposerAction) (ss : Sealed)
    (hr : ReachableSep env s) (hf : RewardFresh env s) (hs : sealState env s a = .ok ss)
    (h906 : ss.st.tip906 = true) :
    CountsOk ss.st.coins ∧
    (∀ c, ss.st.coins.coinCount c = coinsWith ss.st.coins c) ∧ (∀ e ∈ ss.st.coins.counts, e.2 ≠ 0) := by
  obtain ⟨hi, hsl⟩ := reachable_inv_slots env s hr
  have hc := (reach_seal_inv env s a ss hi hsl hf hs).counts h906
  exact ⟨hc, hc.2.2.1, hc.2.2.2⟩

theorem C20_sealed_tip906 (env : Env) (s : State) (a : Option ProposerAction) (ss : Sealed)
    (hs : sealState env s a = .ok ss) : ss.st.tip906 = s.tip906 := by
  obtain ⟨-, e2, e3⟩ := sealState_hhn env s a ss hs
  exact tip906_eq e3 e2

/-- restart of a reachable chain: a state sealed from a reachable state can be written out as a block; the state
    restored from that block satisfies `Inv` — with TIP-906 active, the count invariant — and so does the block opened
    on it: the counts stay right across a restart -/
theorem C20_restart_reachable (env : Env) (s : State) (a : Option ProposerAction) (ss : Sealed)
    (hr : ReachableSep env s) (hf : RewardFresh env s) (hs : sealState env s a = .ok ss) :
    ∃ blk, toBlock env ss = .ok blk ∧
      Inv (fromBlock blk ss.st.stakes ss.st.coins ss.st.history ss.st.pools).st ∧
      (ss.st.tip906 = true → CountsOk (fromBlock blk ss.st.stakes ss.st.coins ss.st.history ss.st.pools).st.coins) ∧
      ∀ n, nextUnsealed env (fromBlock blk ss.st.stakes ss.st.coins ss.st.history ss.st.pools) = .ok n →
        Inv n ∧ (n.tip906 = true → CountsOk n.coins) := by
  obtain ⟨hi, hsl⟩ := reachable_inv_slots env s hr
  have his := reach_seal_inv env s a ss hi hsl hf hs
  obtain ⟨blk, hb, -⟩ := C08_restart_reachable env s a ss hr.reachable hs
  have hir := C20_restored_inv env ss blk hb his
  refine ⟨blk, hb, hir, fun h906 => (C20_restored ss blk (his.counts h906)).2, fun n hn => ?_⟩
  have hin := reach_next_inv env _ n hir hn
  exact ⟨hin, hin.counts⟩

/-- non-vacuity: the state `s1` of `C09ReachWitness` (genesis of a custom network — TIP-906 active from the start —
    then a batch with a swap transaction) is `ReachableSep`, its reward id is fresh, it is sealed, and the sealed
    state has coins locked by covenant hash `[8]`, counted right -/
theorem C20_reachable_sealed_nonvacuous :
    ∃ (env : Env) (s : State) (ss : Sealed), ReachableSep env s ∧ RewardFresh env s ∧
      sealState env s none = .ok ss ∧ ss.st.tip906 = true ∧ CountsOk ss.st.coins ∧
      ss.st.coins.coinCount [8] = 1 ∧ coinsWith ss.st.coins [8] = 1 := by
  open C09ReachWitness in
  have h906 : ss1.st.tip906 = true := sealed1.1
  have hc := C20_reachable_sealed ReachWitness.env s1 none ss1 s1_reachable.sep rewardFresh1 seal1_ok h906
  have h1 : ss1.st.coins.coinCount [8] = 1 := sealed1.2
  exact ⟨ReachWitness.env, s1, ss1, s1_reachable.sep, rewardFresh1, seal1_ok, h906, hc.1, h1,
    (hc.2.1 [8]).symm.trans h1⟩

end Mel

#print axioms Mel.C20_restored
#print axioms Mel.C20_restored_inv
#print axioms Mel.C20_reachable_sealed
#print axioms Mel.C20_sealed_tip906
#print axioms Mel.C20_restart_reachable
#print axioms Mel.C20_reachable_sealed_nonvacuous

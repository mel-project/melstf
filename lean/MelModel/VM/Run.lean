/-
  The notions in which the executor laws (C10) are stated: the successor state of an instruction, `k` machine steps,
  the effect of a straight-line block on (stack, heap), iteration of a partial function, and two classifications of
  the instructions.  Definitions only.
-/
import MelModel.VM.Exec
namespace Mel.VM
open Mel

/-- successor state of a non-jumping instruction: new stack `s`, `pc + 1`, same heap, same loops -/
abbrev Exec.next (st : Exec) (s : List Value) : Exec := { st with stack := s, pc := st.pc + 1 }

/-- straight-line instructions: everything except `loop`/`jmp`/`bez`/`bnz` -/
def Op.isStraight : Op → Bool
  | .loop _ _ | .jmp _ | .bez _ | .bnz _ => false
  | _ => true

def stepN (o : Oracles) (ops : List Op) : Nat → Exec → Option Exec
  | 0, st => some st
  | k + 1, st => (step o ops st).bind (stepN o ops k)

/-- the effect of a block of instructions on (stack, heap): left fold of `execOp`, ignoring the pc -/
def straight (o : Oracles) : List Op → List Value × Heap → Option (List Value × Heap)
  | [], sh => some sh
  | op :: B, sh =>
    (execOp o op { stack := sh.1, heap := sh.2, pc := 0, loops := [] }).bind fun st' =>
      straight o B (st'.stack, st'.heap)

def iter {α} (f : α → Option α) : Nat → α → Option α
  | 0, a => some a
  | k + 1, a => (f a).bind (iter f k)

/-- number of operands an instruction pops (or, for `dup`, inspects) -/
def Op.arity : Op → Nat
  | .noop | .vempty | .bempty | .jmp _ | .loop _ _ | .pushb _ | .pushi _ | .pushic _
  | .loadimm _ => 0
  | .not | .hash _ | .load | .storeimm _ | .vlength | .blength | .bez _ | .bnz _
  | .itob | .btoi | .typeq | .dup => 1
  | .add | .sub | .mul | .div | .rem | .exp _ | .and | .or | .xor | .eql | .lt | .gt | .shl | .shr
  | .store | .vref | .vappend | .vpush | .vcons | .bref | .bappend | .bpush | .bcons => 2
  | .sigeok _ | .vslice | .vset | .bslice | .bset => 3

def Op.isIntBinop : Op → Bool
  | .add | .sub | .mul | .div | .rem | .exp _ | .and | .or | .xor | .eql | .lt | .gt | .shl
  | .shr => true
  | _ => false

end Mel.VM

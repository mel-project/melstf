/-
  Structured MelVM programs: straight-line instructions and counted loops over structured bodies, with a big-step
  semantics.  The flat executor (`step`/`run` of MelModel/VM/Exec.lean) is shown to refine this semantics in
  MelModel/Props/C10Struct.lean (property C10, loops of every nesting depth).

  No Mathlib imports.  (`Op.isStraight`, `straight`, `iter`, `stepN` come from MelModel/VM/Run.lean.)
-/
import MelModel.VM.Exec
import MelModel.VM.Run
namespace Mel.VM
open Mel

/-- structured programs: straight-line instructions and counted loops over structured bodies -/
inductive SInstr where
  /-- a straight-line instruction (`o.isStraight`, see `WF`) -/
  | op (o : Op)
  /-- `it` passes over `body` -/
  | loop (it : UInt16) (body : List SInstr)
  deriving Inhabited

mutual
/-- a loop becomes `Op.loop it len` followed by the flattened body, `len` = length of the flattened body -/
def SInstr.flatten : SInstr → List Op
  | .op o => [o]
  | .loop it body => Op.loop it (UInt16.ofNat (flatten body).length) :: flatten body
/-- the flat program of a structured one -/
def flatten : List SInstr → List Op
  | [] => []
  | i :: rest => i.flatten ++ flatten rest
end

mutual
/-- Boolean form of `SInstr.WF` -/
def SInstr.wf : SInstr → Bool
  | .op o => o.isStraight
  | .loop _ body => wf body && decide (1 ≤ (flatten body).length) && decide ((flatten body).length < 65536)
/-- Boolean form of `WF` -/
def wf : List SInstr → Bool
  | [] => true
  | i :: rest => i.wf && wf rest
end

/-- well-formed instruction: `op o` is straight-line; a loop body is well-formed, non-empty after flattening and its
    flattened length fits the 16-bit length field of `Op.loop` -/
def SInstr.WF (i : SInstr) : Prop := i.wf = true

/-- well-formed structured program: every instruction is -/
def WF (P : List SInstr) : Prop := wf P = true

instance (i : SInstr) : Decidable i.WF := inferInstanceAs (Decidable (i.wf = true))
instance (P : List SInstr) : Decidable (WF P) := inferInstanceAs (Decidable (wf P = true))

mutual
/-- big-step semantics of one structured instruction on (stack, heap): an `op` acts as in `straight`;
    `loop it body` is the `it`-fold iteration of the body (`it = 0`: nothing happens); failure propagates -/
def SInstr.eval (o : Oracles) : SInstr → List Value × Heap → Option (List Value × Heap)
  | .op op, sh => straight o [op] sh
  | .loop it body, sh => iter (eval o body) it.toNat sh
/-- big-step semantics of a structured program: the instructions in order -/
def eval (o : Oracles) : List SInstr → List Value × Heap → Option (List Value × Heap)
  | [], sh => some sh
  | i :: rest, sh => (i.eval o sh).bind (eval o rest)
end

mutual
/-- number of flat machine steps of a successful structured run of one instruction: an `op` takes one step, a loop one
    step for the `loop` instruction plus `it` times the steps of its body.  (It does not depend on the state.) -/
def SInstr.steps : SInstr → Nat
  | .op _ => 1
  | .loop it body => 1 + it.toNat * stepsOf body
/-- number of flat machine steps of a successful structured run -/
def stepsOf : List SInstr → Nat
  | [] => 0
  | i :: rest => i.steps + stepsOf rest
end

/-- the structured run together with its step count -/
def evalSteps (o : Oracles) (P : List SInstr) (sh : List Value × Heap) :
    Option ((List Value × Heap) × Nat) :=
  (eval o P sh).map fun r => (r, stepsOf P)

/-- nesting depth of loops -/
def SInstr.depth : SInstr → Nat
  | .op _ => 0
  | .loop _ body => 1 + depthL body
where depthL : List SInstr → Nat
  | [] => 0
  | i :: rest => max (SInstr.depth i) (depthL rest)

end Mel.VM

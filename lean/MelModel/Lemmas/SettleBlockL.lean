/-
  What the three settlement phases do to the state, pool by pool (for Props/C15Block.lean).
  Two folds carry everything. The inner one runs over the requests of a pool and writes only output slots of the
  request at hand (`WritesSlots`), so with distinct hashes every request ends up holding what its own step wrote
  (`PaidAt`, `paidAt_of_fold`). The outer one runs over the pool keys and touches only its own pool and its own
  requests' slots (`Local`), so every pool is settled once, from a state that agrees with the initial one where the
  step looks (`fold_pools`).
-/
import MelModel.Lemmas.TotalSeal
import MelModel.Lemmas.SupplySeal
import MelModel.Lemmas.OutcomeL
import MelModel.Lemmas.MapL
import MelModel.Lemmas.MelmintL
namespace Mel
open Mel.Gen
open TotalSealL
namespace SettleBlockL

/-- every request holds at its first `n` output slots what `new` says -/
def PaidAt (reqs : List Tx) (n : Nat) (new : Tx → Nat → Option CoinDataHeight) (coins : CoinMap) : Prop :=
  ∀ tx ∈ reqs, ∀ i < n, coins.getCoin ⟨tx.hash, i⟩ = new tx i

theorem PaidAt.congr {reqs : List Tx} {n : Nat} {new new' : Tx → Nat → Option CoinDataHeight} {c c' : CoinMap}
    (h : PaidAt reqs n new c) (he : ∀ tx ∈ reqs, ∀ i, c'.getCoin ⟨tx.hash, i⟩ = c.getCoin ⟨tx.hash, i⟩)
    (hnew : ∀ tx ∈ reqs, ∀ i < n, new' tx i = new tx i) : PaidAt reqs n new' c' :=
  fun tx htx i hi => ((he tx htx i).trans (h tx htx i hi)).trans (hnew tx htx i hi).symm

theorem paidAt_of_fold {n : Nat} {step : CoinMap → Tx → Outcome CoinMap} {P : Tx → Prop}
    {new : CoinMap → Tx → Nat → Option CoinDataHeight} (hw : WritesSlots n step)
    (hs : ∀ c tx c', step c tx = .ok c' → P tx ∧ ∀ i < n, c'.getCoin ⟨tx.hash, i⟩ = new c tx i)
    (hnew : ∀ c c' tx, (∀ i, c.getCoin ⟨tx.hash, i⟩ = c'.getCoin ⟨tx.hash, i⟩) → new c tx = new c' tx)
    {l : List Tx} {c0 c' : CoinMap} (hn : (l.map (·.hash)).Nodup) (h : Outcome.foldlM' step c0 l = .ok c') :
    (∀ tx ∈ l, P tx) ∧ PaidAt l n (new c0) c' := by
  induction l generalizing c0 with
  | nil => exact ⟨fun _ h => (nomatch h), fun _ h => (nomatch h)⟩
  | cons a as ih =>
    obtain ⟨c1, h1, h2⟩ := (Outcome.foldlM'_cons_ok _ _ _ _ _).mp h
    obtain ⟨hna, hn2⟩ := List.nodup_cons.mp hn
    have hne : ∀ tx ∈ as, tx.hash ≠ a.hash := fun tx h' e => hna (List.mem_map.mpr ⟨tx, h', e⟩)
    obtain ⟨hP, hpaid⟩ := ih hn2 h2
    obtain ⟨hPa, hsa⟩ := hs c0 a c1 h1
    refine ⟨List.forall_mem_cons.mpr ⟨hPa, hP⟩, List.forall_mem_cons.mpr ⟨fun i hi => ?_, fun tx htx i hi => ?_⟩⟩
    · -- the later requests leave the slots of `a` as its step wrote them
      rw [fold_untouched hw h2 (fun tx h' j _ => outCoinID_ne j (hne tx h')), hsa i hi]
    · -- the step of `a` leaves the slots of a later request alone, so that request is paid as from `c0`
      rw [hpaid tx htx i hi,
        hnew c1 c0 tx (fun _ => hw _ _ _ _ h1 (fun j _ => outCoinID_ne j (hne tx htx).symm))]

def AgreeC (R : List Tx) (a b : State) : Prop :=
  ∀ tx ∈ R, ∀ i, a.coins.getCoin ⟨tx.hash, i⟩ = b.coins.getCoin ⟨tx.hash, i⟩

structure Local (n : Nat) (F : PoolKey → State → Outcome State) (R : PoolKey → List Tx) : Prop where
  pools : ∀ k st st', F k st = .ok st' → ∀ k', k' ≠ k → st'.pools.get k' = st.pools.get k'
  coins : ∀ k st st', F k st = .ok st' → ∀ id, (∀ tx ∈ R k, ∀ i < n, id ≠ outCoinID tx i) →
    st'.coins.getCoin id = st.coins.getCoin id
  base : ∀ k st st', F k st = .ok st' → MelmintFrame st st'

/-- requests of different pools have different hashes -/
def Disjoint (R : PoolKey → List Tx) : Prop :=
  ∀ k k', k ≠ k' → ∀ tx ∈ R k, ∀ tx' ∈ R k', tx.hash ≠ tx'.hash

theorem fold_pools {n : Nat} {F : PoolKey → State → Outcome State} {R : PoolKey → List Tx} (hL : Local n F R) :
    ∀ (ks : List PoolKey) (s s' : State), ks.Nodup →
      Outcome.foldlM' (fun st k => F k st) s ks = .ok s' →
      MelmintFrame s s' ∧
      (∀ k, k ∉ ks → s'.pools.get k = s.pools.get k) ∧
      (∀ id, (∀ k ∈ ks, ∀ tx ∈ R k, ∀ i < n, id ≠ outCoinID tx i) → s'.coins.getCoin id = s.coins.getCoin id) ∧
      (∀ k ∈ ks, ∃ st st', F k st = .ok st' ∧ MelmintFrame s st ∧ s.pools.get k = st.pools.get k ∧
          st'.pools.get k = s'.pools.get k ∧ (Disjoint R → AgreeC (R k) s st ∧ AgreeC (R k) st' s')) := by
  intro ks
  induction ks with
  | nil =>
    intro s s' _ h
    cases (Outcome.foldlM'_nil_ok _ _ _).mp h
    exact ⟨.refl _, fun _ _ => rfl, fun _ _ => rfl, fun k hk => by cases hk⟩
  | cons k0 ks ih =>
    intro s s' hn h
    obtain ⟨s1, h1, h⟩ := (Outcome.foldlM'_cons_ok _ _ _ _ _).mp h
    obtain ⟨hk0, hn'⟩ := List.nodup_cons.mp hn
    obtain ⟨ib, ip, ic, id'⟩ := ih s1 s' hn' h
    have hb1 := hL.base _ _ _ h1
    have hother : ∀ k, k ≠ k0 → Disjoint R → ∀ tx ∈ R k, ∀ i,
        s1.coins.getCoin ⟨tx.hash, i⟩ = s.coins.getCoin ⟨tx.hash, i⟩ := fun k hne hd tx htx i =>
      hL.coins _ _ _ h1 _ (fun tx' htx' j _ => outCoinID_ne j (hd k k0 hne tx htx tx' htx').symm)
    refine ⟨hb1.trans ib, ?_, ?_, ?_⟩
    · intro k hk
      rw [ip k (fun hm => hk (List.mem_cons_of_mem _ hm)),
        hL.pools _ _ _ h1 k (fun e => hk (by rw [e]; exact List.mem_cons_self))]
    · intro id hid
      rw [ic id (fun k hk => hid k (List.mem_cons_of_mem _ hk)), hL.coins _ _ _ h1 id (hid k0 List.mem_cons_self)]
    · intro k hk
      rcases List.mem_cons.mp hk with e | hks
      · subst e
        refine ⟨s, s1, h1, .refl _, rfl, (ip _ hk0).symm, fun hd => ⟨fun _ _ _ => rfl, fun tx htx i => ?_⟩⟩
        refine (ic _ (fun k' hk' tx' htx' j _ => outCoinID_ne j (Ne.symm ?_))).symm
        exact hd _ k' (fun e => hk0 (by rw [e]; exact hk')) tx htx tx' htx'
      · obtain ⟨st, st', hF, hb, hp, hp', hc⟩ := id' k hks
        have hne : k ≠ k0 := fun e => hk0 (by rw [← e]; exact hks)
        refine ⟨st, st', hF, hb1.trans hb, ?_, hp', fun hd => ⟨fun tx htx i => ?_, (hc hd).2⟩⟩
        · rw [← hp, hL.pools _ _ _ h1 k hne]
        · rw [← (hc hd).1 tx htx i, hother k hne hd tx htx i]

theorem disjoint_requests {reqs : List Tx} (h : (reqs.map (·.hash)).Nodup) :
    Disjoint (transactionsForPool reqs) := by
  intro k k' hne tx htx tx' htx' e
  obtain ⟨h1, h2⟩ := mem_transactionsForPool_iff.mp htx
  obtain ⟨h1', h2'⟩ := mem_transactionsForPool_iff.mp htx'
  have : tx = tx' := eq_of_nodup_map (·.hash) h h1 h1' e
  subst this
  rw [h2] at h2'
  exact hne (Option.some.inj h2')

theorem mem_extract_iff {reqs : List Tx} {k : PoolKey} :
    k ∈ extractPoolKeysSorted reqs ↔ transactionsForPool reqs k ≠ [] := by
  constructor
  · intro h e
    obtain ⟨tx, htx⟩ := exists_mem_of_mem_keys h
    rw [e] at htx
    cases htx
  · intro h
    obtain ⟨tx, htx⟩ := List.exists_mem_of_ne_nil _ h
    obtain ⟨h1, h2⟩ := mem_transactionsForPool_iff.mp htx
    unfold extractPoolKeysSorted
    rw [mem_sortDedup]
    exact List.mem_filterMap.mpr ⟨tx, h1, h2⟩

theorem phase_pools {n : Nat} {F : PoolKey → State → Outcome State} {reqs : List Tx}
    (hL : Local n F (transactionsForPool reqs)) {s s' : State}
    (h : Outcome.foldlM' (fun st k => F k st) s (extractPoolKeysSorted reqs) = .ok s') :
    MelmintFrame s s' ∧
    (∀ k, transactionsForPool reqs k = [] → s'.pools.get k = s.pools.get k) ∧
    (∀ id, (∀ tx ∈ reqs, ∀ i < n, id ≠ outCoinID tx i) → s'.coins.getCoin id = s.coins.getCoin id) ∧
    (∀ k, transactionsForPool reqs k ≠ [] → ∃ st st', F k st = .ok st' ∧ MelmintFrame s st ∧
        s.pools.get k = st.pools.get k ∧ st'.pools.get k = s'.pools.get k ∧
        ((reqs.map (·.hash)).Nodup →
          AgreeC (transactionsForPool reqs k) s st ∧ AgreeC (transactionsForPool reqs k) st' s')) := by
  obtain ⟨hb, hp, hc, hd⟩ := fold_pools hL _ s s' (extractPoolKeysSorted_nodup _) h
  refine ⟨hb, fun k hk => hp k (fun hm => mem_extract_iff.mp hm hk), fun id hid => hc id ?_, fun k hk => ?_⟩
  · exact fun k _ tx htx => hid tx (mem_transactionsForPool_iff.mp htx).1
  · obtain ⟨st, st', hF, hbs, hps, hps', hag⟩ := hd k (mem_extract_iff.mpr hk)
    exact ⟨st, st', hF, hbs, hps, hps', fun hn => hag (disjoint_requests hn)⟩

theorem multiplyFrac_eq_ok {x n d v : Nat} (h : multiplyFrac x n d = .ok v) :
    0 < d ∧ v = min (x * n / d) U128_MAX := by
  unfold multiplyFrac at h
  split at h
  · cases h
  · next hd => cases h; exact ⟨Nat.pos_of_ne_zero hd, rfl⟩

/-- `multiply_frac` in front of a continuation: the divisor is positive and the continuation runs on the saturated
    quotient -/
theorem multiplyFrac_bind_ok {α : Type} {x n d : Nat} {g : Nat → Outcome α} {a : α}
    (h : (multiplyFrac x n d).bind g = .ok a) : 0 < d ∧ g (min (x * n / d) U128_MAX) = .ok a := by
  obtain ⟨v, hv, h⟩ := Outcome.bind_eq_ok.mp h
  obtain ⟨hpos, rfl⟩ := multiplyFrac_eq_ok hv
  exact ⟨hpos, h⟩

theorem min_cap (x : Nat) : min (min x U128_MAX) MAX_COINVAL = min x MAX_COINVAL := by
  rw [Nat.min_assoc, Nat.min_eq_right (by decide : MAX_COINVAL ≤ U128_MAX)]

/-- one price up to rounding: the floors of `w·v₁/T` and `w·v₂/T` are in proportion `v₁ : v₂` within one unit -/
theorem same_price {w T v₁ v₂ : Nat} (hT : 0 < T) (hv : 0 < v₁) :
    (w * v₁ / T) * v₂ < (w * v₂ / T + 1) * v₁ := by
  have h2 : w * v₂ < (w * v₂ / T + 1) * T := by
    rw [Nat.mul_comm _ T]
    exact Nat.lt_mul_div_succ (w * v₂) hT
  -- times `T`: a₁·T·v₂ ≤ w·v₁·v₂ = w·v₂·v₁ < (a₂+1)·T·v₁
  refine Nat.lt_of_mul_lt_mul_right (a := T) ?_
  calc w * v₁ / T * v₂ * T
      = w * v₁ / T * T * v₂ := Nat.mul_right_comm _ _ _
    _ ≤ w * v₁ * v₂ := Nat.mul_le_mul_right v₂ (Nat.div_mul_le_self _ _)
    _ = w * v₂ * v₁ := Nat.mul_right_comm _ _ _
    _ < (w * v₂ / T + 1) * T * v₁ := Nat.mul_lt_mul_of_pos_right h2 hv
    _ = (w * v₂ / T + 1) * v₁ * T := Nat.mul_right_comm _ _ _

/-- … and so are the payouts `min ⌊w·vᵢ/T⌋ M` when the cap `M` does not bite on the second -/
theorem same_price_capped {w T v₁ v₂ M : Nat} (hT : 0 < T) (hv : 0 < v₁) (hc : min (w * v₂ / T) M < M) :
    min (w * v₁ / T) M * v₂ < (min (w * v₂ / T) M + 1) * v₁ := by
  rw [Nat.min_eq_left (a := w * v₂ / T) (Nat.le_of_lt (Nat.lt_of_not_le fun hle => by
    rw [Nat.min_eq_right hle] at hc; exact Nat.lt_irrefl _ hc))]
  exact Nat.lt_of_le_of_lt (Nat.mul_le_mul_right _ (Nat.min_le_left _ _)) (same_price hT hv)

theorem slots1 {P : Nat → Prop} : (∀ i < 1, P i) ↔ P 0 :=
  ⟨fun h => h 0 (by decide), fun h i hi => by
    obtain rfl : i = 0 := Nat.lt_one_iff.mp hi
    exact h⟩

theorem slots2 {P : Nat → Prop} : (∀ i < 2, P i) ↔ P 0 ∧ P 1 :=
  ⟨fun h => ⟨h 0 (by decide), h 1 (by decide)⟩, fun h i hi => by
    rcases i with _ | _ | i
    · exact h.1
    · exact h.2
    · omega⟩

theorem slot01 (tx : Tx) : outCoinID tx 0 ≠ outCoinID tx 1 := by intro e; cases e

theorem mem_requests {txs : List Tx} {q : Tx → Bool} {k : PoolKey} {tx : Tx} :
    tx ∈ transactionsForPool (txs.filter q) k ↔ tx ∈ txs ∧ q tx = true ∧ canonicalPoolKey tx.data = some k := by
  rw [mem_transactionsForPool_iff, List.mem_filter, and_assoc]

/-- the side a request pays into has a positive total -/
def SwapPos (k : PoolKey) (tl tr : Nat) (tx : Tx) : Prop :=
  ((out0 tx).denom = k.left → 0 < tl) ∧ ((out0 tx).denom ≠ k.left → 0 < tr)

/-- `swapCoin` as a value: the request's pro-rata share of what the pool paid out on the other side, capped at
    `MAX_COINVAL` -/
def swapOut (k : PoolKey) (lw rw tl tr : Nat) (tx : Tx) : CoinData :=
  if (out0 tx).denom = k.left then
    { out0 tx with denom := k.right, value := min (rw * (out0 tx).value / tl) MAX_COINVAL }
  else { out0 tx with denom := k.left, value := min (lw * (out0 tx).value / tr) MAX_COINVAL }

theorem swapCoin_ok {k : PoolKey} {lw rw tl tr : Nat} {tx : Tx} {cd : CoinData}
    (h : swapCoin k lw rw tl tr tx = .ok cd) : SwapPos k tl tr tx ∧ cd = swapOut k lw rw tl tr tx := by
  unfold swapCoin at h
  unfold swapOut
  split at h
  · next hd =>
    obtain ⟨hpos, h2⟩ := multiplyFrac_bind_ok h
    cases h2
    rw [if_pos hd, min_cap]
    exact ⟨⟨fun _ => hpos, fun hn => absurd hd hn⟩, rfl⟩
  · next hd =>
    obtain ⟨hpos, h2⟩ := multiplyFrac_bind_ok h
    cases h2
    rw [if_neg hd, min_cap]
    exact ⟨⟨fun hn => absurd hn hd, fun _ => hpos⟩, rfl⟩

theorem swapStep_local {k : PoolKey} {height : Nat} {tip : Bool} {lw rw tl tr : Nat} {c c' : CoinMap} {tx : Tx}
    (h : swapStep k height tip lw rw tl tr c tx = .ok c') :
    ∃ cd, swapCoin k lw rw tl tr tx = .ok cd ∧
      c' = c.insertCoin (outCoinID tx 0) { coinData := cd, height := height } tip := by
  unfold swapStep at h
  obtain ⟨cd, hcd, h2⟩ := Outcome.bind_eq_ok.mp h
  cases h2
  exact ⟨cd, hcd, rfl⟩

theorem swapFold_paid {k : PoolKey} {height : Nat} {tip : Bool} {lw rw tl tr : Nat} {l : List Tx}
    {c0 c' : CoinMap} (hn : (l.map (·.hash)).Nodup)
    (h : Outcome.foldlM' (swapStep k height tip lw rw tl tr) c0 l = .ok c') :
    (∀ tx ∈ l, SwapPos k tl tr tx) ∧ PaidAt l 1 (fun tx _ => some ⟨swapOut k lw rw tl tr tx, height⟩) c' := by
  refine paidAt_of_fold (new := fun _ tx _ => some ⟨swapOut k lw rw tl tr tx, height⟩)
    swapStep_writes (fun c tx c' hs => ?_) (fun _ _ _ _ => rfl) hn h
  obtain ⟨cd, hcd, rfl⟩ := swapStep_local hs
  obtain ⟨hp, rfl⟩ := swapCoin_ok hcd
  exact ⟨hp, slots1.mpr (CoinMap.getCoin_insertCoin_self _ _ _ _)⟩

/-- the coins of the requests `reqs` of pool `k` in `coins'` are the pro-rata payouts (`swapOut`, spelled out) of what
    `swap_many` withdrew: `lw` lefts, `rw` rights -/
structure SwapPaid (k : PoolKey) (reqs : List Tx) (height lw rw : Nat) (coins' : CoinMap) : Prop where
  left : ∀ tx ∈ reqs, (out0 tx).denom = k.left → 0 < swapTL k reqs ∧
    coins'.getCoin ⟨tx.hash, 0⟩ = some ⟨{ out0 tx with
      denom := k.right, value := min (rw * (out0 tx).value / swapTL k reqs) MAX_COINVAL }, height⟩
  right : ∀ tx ∈ reqs, (out0 tx).denom ≠ k.left → 0 < swapTR k reqs ∧
    coins'.getCoin ⟨tx.hash, 0⟩ = some ⟨{ out0 tx with
      denom := k.left, value := min (lw * (out0 tx).value / swapTR k reqs) MAX_COINVAL }, height⟩

theorem SwapPaid.of_paidAt {k : PoolKey} {reqs : List Tx} {height lw rw : Nat} {coins' : CoinMap}
    (hp : ∀ tx ∈ reqs, SwapPos k (swapTL k reqs) (swapTR k reqs) tx)
    (h : PaidAt reqs 1 (fun tx _ => some ⟨swapOut k lw rw (swapTL k reqs) (swapTR k reqs) tx, height⟩) coins') :
    SwapPaid k reqs height lw rw coins' := by
  refine ⟨fun tx htx hd => ⟨(hp tx htx).1 hd, ?_⟩, fun tx htx hd => ⟨(hp tx htx).2 hd, ?_⟩⟩ <;>
    rw [h tx htx 0 (by decide)] <;> dsimp only [swapOut]
  · rw [if_pos hd]
  · rw [if_neg hd]

theorem swap_phase_pool {k : PoolKey} {s s' : State} {swaps : List Tx} {p : PoolState}
    (hp : s.pools.get k = some p) (h : processSwapsForPool k s swaps = .ok s') :
    ∃ p' lw rw, p.swapMany (swapTL k swaps) (swapTR k swaps) = .ok (p', lw, rw) ∧
      s'.pools = s.pools.set k p' ∧
      ((swaps.map (·.hash)).Nodup → SwapPaid k swaps s.height lw rw s'.coins) ∧
      (∀ id, (∀ tx ∈ swaps, id ≠ outCoinID tx 0) → s'.coins.getCoin id = s.coins.getCoin id) ∧
      MelmintFrame s s' := by
  obtain ⟨p0, p', lw, rw, coins, hp0, hsm, hc, e⟩ := processSwapsForPool_inv h
  rw [hp] at hp0; cases hp0
  subst e
  refine ⟨p', lw, rw, hsm, rfl, fun hn => ?_, fun id hid => ?_, .of_eq rfl⟩
  · obtain ⟨hpos, hpaid⟩ := swapFold_paid hn hc
    exact .of_paidAt hpos hpaid
  · exact fold_untouched swapStep_writes hc (fun tx htx => slots1.mpr (hid tx htx))

theorem swapLocal (reqs : List Tx) :
    Local 1 (fun k st => processSwapsForPool k st (transactionsForPool reqs k)) (transactionsForPool reqs) := by
  refine ⟨fun k st st' h k' hne => ?_, fun k st st' h id hid => ?_, fun k st st' h => processSwapsForPool_frame h⟩ <;>
    obtain ⟨p, p', lw, rw, coins, _, _, hc, rfl⟩ := processSwapsForPool_inv h
  · exact AList.get_set_ne _ _ hne
  · exact fold_untouched swapStep_writes hc hid

theorem mem_swapReqs {s : State} {k : PoolKey} {tx : Tx} (h : tx ∈ swapReqs s k) :
    tx ∈ s.txs ∧ isSwapRequest s tx = true ∧ canonicalPoolKey tx.data = some k :=
  mem_requests.mp h

theorem swapReqs_spec {s : State} {k : PoolKey} {tx : Tx} (h : tx ∈ swapReqs s k) :
    ∃ p, s.pools.get k = some p ∧ 0 < p.lefts ∧ 0 < p.rights ∧ 0 < (out0 tx).value ∧
      ((out0 tx).denom = k.left ∨ (out0 tx).denom = k.right) ∧ tx.outputs.head? = some (out0 tx) := by
  obtain ⟨_, o, rest, p, ho, hpos, hd, hp, hl, hr⟩ := swapReqs_facts h
  unfold out0
  rw [ho]
  exact ⟨p, hp, hl, hr, hpos, hd, rfl⟩

theorem swap_phase {s s' : State} (h : processSwaps s = .ok s') :
    MelmintFrame s s' ∧
    (∀ k, swapReqs s k = [] → s'.pools.get k = s.pools.get k) ∧
    (∀ id, (∀ tx ∈ s.txs, isSwapRequest s tx = true → id ≠ outCoinID tx 0) →
      s'.coins.getCoin id = s.coins.getCoin id) ∧
    (∀ k, swapReqs s k ≠ [] → ∃ p p' lw rw, s.pools.get k = some p ∧ s'.pools.get k = some p' ∧
      p.swapMany (swapTL k (swapReqs s k)) (swapTR k (swapReqs s k)) = .ok (p', lw, rw) ∧
      ((s.txs.map (·.hash)).Nodup → SwapPaid k (swapReqs s k) s.height lw rw s'.coins)) := by
  obtain ⟨hb, hp, hun, hd⟩ := phase_pools (swapLocal (s.txs.filter (isSwapRequest s))) h
  refine ⟨hb, hp, fun id hid => hun id (fun tx htx => ?_), fun k hk => ?_⟩
  · obtain ⟨h3, h4⟩ := List.mem_filter.mp htx
    exact slots1.mpr (hid tx h3 h4)
  · obtain ⟨st, st', hF, hbs, hps, hps', hc⟩ := hd k hk
    obtain ⟨p, p', lw, rw, coins, hp0, hsm, hfold, e⟩ := processSwapsForPool_inv hF
    refine ⟨p, p', lw, rw, hps.trans hp0, ?_, hsm, fun hn => ?_⟩
    · rw [← hps', e]; exact AList.get_set_self _ _ _
    · obtain ⟨hpos, hpaid⟩ := swapFold_paid (transactionsForPool_nodup (nodup_map_filter _ _ hn) k) hfold
      rw [hbs.height] at hpaid
      refine .of_paidAt hpos (hpaid.congr (fun tx htx i => ?_) (fun _ _ _ _ => rfl))
      rw [← (hc (nodup_map_filter _ _ hn)).2 tx htx i, e]

theorem swap_phase_alone {s s' : State} (h : processSwaps s = .ok s') (hn : (s.txs.map (·.hash)).Nodup)
    {k : PoolKey} (hk : swapReqs s k ≠ []) :
    ∃ s'', processSwapsForPool k s (swapReqs s k) = .ok s'' ∧ s''.pools.get k = s'.pools.get k ∧
      ∀ tx ∈ swapReqs s k, s''.coins.getCoin ⟨tx.hash, 0⟩ = s'.coins.getCoin ⟨tx.hash, 0⟩ := by
  obtain ⟨_, _, _, hd⟩ := phase_pools (swapLocal (s.txs.filter (isSwapRequest s))) h
  obtain ⟨st, st', hF, hbs, hps, hps', hc⟩ := hd k hk
  obtain ⟨_, hc2⟩ := hc (nodup_map_filter _ _ hn)
  obtain ⟨p, p', lw, rw, coins, hp0, hsm, hfold, e⟩ := processSwapsForPool_inv hF
  rw [hbs.height, hbs.tip906] at hfold
  -- whether a request can be paid does not depend on the coins
  obtain ⟨coins2, hfold2, _⟩ := Outcome.foldlM'_rel_self (fun _ _ => True) _ (fun b b' a r _ hr => by
    obtain ⟨cd, hcd, _⟩ := swapStep_local hr
    exact ⟨_, by unfold swapStep; rw [hcd]; rfl, trivial⟩) _ _ s.coins _ trivial hfold
  have hnk := transactionsForPool_nodup (nodup_map_filter _ (isSwapRequest s) hn) k
  refine ⟨_, processSwapsForPool_of (hps.trans hp0) hsm hfold2, ?_, fun tx htx => ?_⟩
  · rw [← hps', e]
    exact (AList.get_set_self _ _ _).trans (AList.get_set_self _ _ _).symm
  · rw [← hc2 tx htx 0, e]
    exact ((swapFold_paid hnk hfold2).2 tx htx 0 (by decide)).trans
      ((swapFold_paid hnk hfold).2 tx htx 0 (by decide)).symm

/-- what a settled depositor holds at its first two outputs: its share `⌊minted · wᵢ / W⌋` (saturating at u128) of
    the liquidity tokens minted, and no second coin — in the legacy window the second coin of `c` stays -/
def depNew (env : Env) (k : PoolKey) (height : Nat) (legacy : Bool) (minted tw : Nat) (c : CoinMap) (tx : Tx) :
    Nat → Option CoinDataHeight
  | 0 => some ⟨{ out0 tx with denom := liqTokenDenom env k, value := min (minted * depW tx / tw) U128_MAX }, height⟩
  | _ => if legacy then c.getCoin ⟨tx.hash, 1⟩ else none

theorem depStep_spec {env : Env} {k : PoolKey} {height : Nat} {tip legacy : Bool} {minted tw : Nat}
    {c c' : CoinMap} {tx : Tx} (h : depStep env k height tip legacy minted tw c tx = .ok c') :
    0 < tw ∧ ∀ i < 2, c'.getCoin ⟨tx.hash, i⟩ = depNew env k height legacy minted tw c tx i := by
  unfold depStep at h
  obtain ⟨hpos, h⟩ := multiplyFrac_bind_ok h
  dsimp only at h
  cases legacy with
  | true =>
    cases h
    exact ⟨hpos,
      slots2.mpr ⟨CoinMap.getCoin_insertCoin_self _ _ _ _, CoinMap.getCoin_insertCoin_ne _ _ _ (slot01 tx).symm⟩⟩
  | false =>
    refine ⟨hpos, slots2.mpr ⟨?_, CoinMap.getCoin_removeCoin_self h⟩⟩
    exact (CoinMap.getCoin_removeCoin_ne h (slot01 tx)).trans (CoinMap.getCoin_insertCoin_self _ _ _ _)

theorem depNew_congr {env : Env} {k : PoolKey} {height : Nat} {legacy : Bool} {minted tw : Nat} {c c' : CoinMap}
    {tx : Tx} (h : c.getCoin ⟨tx.hash, 1⟩ = c'.getCoin ⟨tx.hash, 1⟩) :
    depNew env k height legacy minted tw c tx = depNew env k height legacy minted tw c' tx := by
  funext i
  cases i with
  | zero => rfl
  | succ j => show (if legacy then _ else _) = _; rw [h]; rfl

theorem depFold_paid {env : Env} {k : PoolKey} {height : Nat} {tip legacy : Bool} {minted tw : Nat} {l : List Tx}
    {c0 c' : CoinMap} (hn : (l.map (·.hash)).Nodup)
    (h : Outcome.foldlM' (depStep env k height tip legacy minted tw) c0 l = .ok c') :
    (∀ tx ∈ l, 0 < tw) ∧ PaidAt l 2 (depNew env k height legacy minted tw c0) c' :=
  paidAt_of_fold (P := fun _ => 0 < tw) depStep_writes (fun _ _ _ hs => depStep_spec hs)
    (fun _ _ _ hc => depNew_congr (hc 1)) hn h

/-- the coins of the depositors `deps` of pool `k` in `coins'` (`depNew`, spelled out); `c0` are the coins before the pool
    was settled -/
structure DepPaid (env : Env) (k : PoolKey) (deps : List Tx) (height : Nat) (legacy : Bool) (minted : Nat)
    (c0 coins' : CoinMap) : Prop where
  token : ∀ tx ∈ deps, 0 < depTW deps ∧ coins'.getCoin ⟨tx.hash, 0⟩ = some ⟨{ out0 tx with
      denom := liqTokenDenom env k, value := min (minted * depW tx / depTW deps) U128_MAX }, height⟩
  second : ∀ tx ∈ deps, legacy = false → coins'.getCoin ⟨tx.hash, 1⟩ = none
  secondLegacy : ∀ tx ∈ deps, legacy = true → coins'.getCoin ⟨tx.hash, 1⟩ = c0.getCoin ⟨tx.hash, 1⟩

theorem DepPaid.of_paidAt {env : Env} {k : PoolKey} {deps : List Tx} {height : Nat} {legacy : Bool} {minted : Nat}
    {c0 coins' : CoinMap} (hpos : ∀ tx ∈ deps, 0 < depTW deps)
    (h : PaidAt deps 2 (depNew env k height legacy minted (depTW deps) c0) coins') :
    DepPaid env k deps height legacy minted c0 coins' := by
  refine ⟨fun tx htx => ⟨hpos tx htx, h tx htx 0 (by decide)⟩, fun tx htx hl => ?_, fun tx htx hl => ?_⟩ <;>
    rw [h tx htx 1 (by decide), hl] <;> rfl

theorem deposit_phase_pool {env : Env} {k : PoolKey} {s s' : State} {deps : List Tx}
    (h : processDepositsForPool env k s deps = .ok s') :
    ∃ p' minted, ((s.pools.get k).getD PoolState.newEmpty).deposit (depTL deps) (depTR deps) = .ok (p', minted) ∧
      (((s.pools.get k).getD PoolState.newEmpty).liqs + minted > U128_MAX → s' = s) ∧
      (((s.pools.get k).getD PoolState.newEmpty).liqs + minted ≤ U128_MAX →
        s'.pools = s.pools.set k p' ∧
        ((deps.map (·.hash)).Nodup → DepPaid env k deps s.height (legacyDeposit s) minted s.coins s'.coins) ∧
        (∀ id, (∀ tx ∈ deps, id ≠ outCoinID tx 0 ∧ id ≠ outCoinID tx 1) →
          s'.coins.getCoin id = s.coins.getCoin id)) ∧
      MelmintFrame s s' := by
  obtain ⟨p', minted, hdep, hcase⟩ := processDepositsForPool_inv h
  refine ⟨p', minted, hdep, ?_⟩
  rcases hcase with ⟨hsat, rfl⟩ | ⟨hsat, coins, hc, rfl⟩
  · exact ⟨fun _ => rfl, fun hle => absurd hsat (Nat.not_lt.mpr hle), .refl _⟩
  · refine ⟨fun hgt => absurd hgt hsat, fun _ => ⟨rfl, fun hn => ?_, fun id hid => ?_⟩, .of_eq rfl⟩
    · obtain ⟨hpos, hpaid⟩ := depFold_paid hn hc
      exact .of_paidAt hpos hpaid
    · exact fold_untouched depStep_writes hc (fun tx htx => slots2.mpr (hid tx htx))

theorem depLocal (env : Env) (reqs : List Tx) :
    Local 2 (fun k st => processDepositsForPool env k st (transactionsForPool reqs k))
      (transactionsForPool reqs) := by
  refine ⟨fun k st st' h k' hne => ?_, fun k st st' h id hid => ?_,
    fun k st st' h => processDepositsForPool_frame h⟩ <;>
    obtain ⟨p', minted, _, ⟨_, rfl⟩ | ⟨_, coins, hc, rfl⟩⟩ := processDepositsForPool_inv h
  · rfl
  · exact AList.get_set_ne _ _ hne
  · rfl
  · exact fold_untouched depStep_writes hc hid

theorem depReqs_spec {s : State} {k : PoolKey} {tx : Tx} (h : tx ∈ depReqs s k) :
    tx ∈ s.txs ∧ isDepositRequest s tx = true ∧ canonicalPoolKey tx.data = some k ∧
      0 < (out0 tx).value ∧ 0 < (out1 tx).value ∧ (out0 tx).denom = k.left := by
  obtain ⟨h3, h4, h2⟩ := mem_requests.mp h
  obtain ⟨_, o0, o1, rest, ho, hp0, hp1, hd⟩ := depReqs_facts h
  unfold out0 out1
  rw [ho]
  exact ⟨h3, h4, h2, hp0, hp1, hd⟩

/-- what a settled withdrawal request holds at its first two outputs: its shares `⌊tl · qᵢ / q⌋` of the lefts and
    `⌊tr · qᵢ / q⌋` of the rights the pool paid out (saturating at u128) -/
def wdNew (k : PoolKey) (height tl tr total : Nat) (tx : Tx) : Nat → Option CoinDataHeight
  | 0 => some ⟨{ out0 tx with denom := k.left, value := min (tl * (out0 tx).value / total) U128_MAX }, height⟩
  | _ => some ⟨{ out0 tx with denom := k.right, value := min (tr * (out0 tx).value / total) U128_MAX }, height⟩

theorem wdStep_spec {k : PoolKey} {height : Nat} {tip : Bool} {tl tr total : Nat} {c c' : CoinMap} {tx : Tx}
    (h : wdStep k height tip tl tr total c tx = .ok c') :
    0 < total ∧ ∀ i < 2, c'.getCoin ⟨tx.hash, i⟩ = wdNew k height tl tr total tx i := by
  unfold wdStep at h
  obtain ⟨hpos, h⟩ := multiplyFrac_bind_ok h
  obtain ⟨_, h⟩ := multiplyFrac_bind_ok h
  cases h
  refine ⟨hpos, slots2.mpr ⟨?_, CoinMap.getCoin_insertCoin_self _ _ _ _⟩⟩
  exact (CoinMap.getCoin_insertCoin_ne _ _ _ (slot01 tx)).trans (CoinMap.getCoin_insertCoin_self _ _ _ _)

theorem wdFold_paid {k : PoolKey} {height : Nat} {tip : Bool} {tl tr total : Nat} {l : List Tx} {c0 c' : CoinMap}
    (hn : (l.map (·.hash)).Nodup) (h : Outcome.foldlM' (wdStep k height tip tl tr total) c0 l = .ok c') :
    (∀ tx ∈ l, 0 < total) ∧ PaidAt l 2 (wdNew k height tl tr total) c' :=
  paidAt_of_fold (P := fun _ => 0 < total) (new := fun _ => wdNew k height tl tr total) wdStep_writes
    (fun _ _ _ hs => wdStep_spec hs) (fun _ _ _ _ => rfl) hn h

/-- the coins of the withdrawal requests `reqs` of pool `k` in `coins'` (`wdNew`, spelled out); the coin at output 1 is
    new: a withdrawal request has one output -/
structure WdPaid (k : PoolKey) (reqs : List Tx) (height tl tr : Nat) (coins' : CoinMap) : Prop where
  paid : ∀ tx ∈ reqs, 0 < wdT reqs ∧
    coins'.getCoin ⟨tx.hash, 0⟩ = some ⟨{ out0 tx with
      denom := k.left, value := min (tl * (out0 tx).value / wdT reqs) U128_MAX }, height⟩ ∧
    coins'.getCoin ⟨tx.hash, 1⟩ = some ⟨{ out0 tx with
      denom := k.right, value := min (tr * (out0 tx).value / wdT reqs) U128_MAX }, height⟩

theorem WdPaid.of_paidAt {k : PoolKey} {reqs : List Tx} {height tl tr : Nat} {coins' : CoinMap}
    (hpos : ∀ tx ∈ reqs, 0 < wdT reqs) (h : PaidAt reqs 2 (wdNew k height tl tr (wdT reqs)) coins') :
    WdPaid k reqs height tl tr coins' :=
  ⟨fun tx htx => ⟨hpos tx htx, h tx htx 0 (by decide), h tx htx 1 (by decide)⟩⟩

theorem withdraw_phase_pool {k : PoolKey} {s s' : State} {reqs : List Tx} {p : PoolState}
    (hp : s.pools.get k = some p) (h : processWithdrawalsForPool k s reqs = .ok s') :
    (wdT reqs > p.liqs → s' = s) ∧
    (wdT reqs ≤ p.liqs → ∃ p' tl tr, p.withdraw (wdT reqs) = .ok (p', tl, tr) ∧
      s'.pools = s.pools.set k p' ∧
      ((reqs.map (·.hash)).Nodup → WdPaid k reqs s.height tl tr s'.coins) ∧
      (∀ id, (∀ tx ∈ reqs, id ≠ outCoinID tx 0 ∧ id ≠ outCoinID tx 1) →
        s'.coins.getCoin id = s.coins.getCoin id)) ∧
    MelmintFrame s s' := by
  obtain ⟨p0, hp0, hcase⟩ := processWithdrawalsForPool_inv h
  rw [hp] at hp0; cases hp0
  rcases hcase with ⟨hgt, rfl⟩ | ⟨hgt, p', tl, tr, coins, hw, hc, rfl⟩
  · exact ⟨fun _ => rfl, fun hle => absurd hgt (Nat.not_lt.mpr hle), .refl _⟩
  · refine ⟨fun h' => absurd h' hgt, fun _ => ⟨p', tl, tr, hw, rfl, fun hn => ?_, fun id hid => ?_⟩, .of_eq rfl⟩
    · obtain ⟨hpos, hpaid⟩ := wdFold_paid hn hc
      exact .of_paidAt hpos hpaid
    · exact fold_untouched wdStep_writes hc (fun tx htx => slots2.mpr (hid tx htx))

theorem wdLocal (reqs : List Tx) :
    Local 2 (fun k st => processWithdrawalsForPool k st (transactionsForPool reqs k)) (transactionsForPool reqs) := by
  refine ⟨fun k st st' h k' hne => ?_, fun k st st' h id hid => ?_,
    fun k st st' h => processWithdrawalsForPool_frame h⟩ <;>
    obtain ⟨p, _, ⟨_, rfl⟩ | ⟨_, p', tl, tr, coins, _, hc, rfl⟩⟩ := processWithdrawalsForPool_inv h
  · rfl
  · exact AList.get_set_ne _ _ hne
  · rfl
  · exact fold_untouched wdStep_writes hc hid

theorem wdReqs_spec {env : Env} {s : State} {k : PoolKey} {tx : Tx} (h : tx ∈ wdReqs env s k) :
    tx ∈ s.txs ∧ isWithdrawRequest env s tx = true ∧ canonicalPoolKey tx.data = some k ∧
      0 < (out0 tx).value ∧ tx.outputs = [out0 tx] ∧ (s.pools.get k).isSome = true := by
  obtain ⟨h3, h4, h2⟩ := mem_requests.mp h
  obtain ⟨⟨o0, ho, hp0⟩, hs⟩ := wdReqs_facts h
  unfold out0
  rw [ho]
  exact ⟨h3, h4, h2, hp0, rfl, hs⟩

/-- exact (unsaturated) totals paid in by the requests of either side of pool `k` -/
def sumL (k : PoolKey) (reqs : List Tx) : Nat :=
  (reqs.map fun tx => if (out0 tx).denom = k.left then (out0 tx).value else 0).sum
def sumR (k : PoolKey) (reqs : List Tx) : Nat :=
  (reqs.map fun tx => if (out0 tx).denom = k.right then (out0 tx).value else 0).sum

theorem swapTL_eq_sumL {k : PoolKey} {reqs : List Tx} (h : sumL k reqs ≤ U128_MAX) : swapTL k reqs = sumL k reqs :=
  satSum_eq_sum _ h
theorem swapTR_eq_sumR {k : PoolKey} {reqs : List Tx} (h : sumR k reqs ≤ U128_MAX) : swapTR k reqs = sumR k reqs :=
  satSum_eq_sum _ h

def coinValueAt (m : CoinMap) (id : CoinID) : Nat :=
  match m.getCoin id with
  | some c => c.coinData.value
  | none => 0

def paidOut (m : CoinMap) (i : Nat) (txs : List Tx) : Nat := (txs.map fun tx => coinValueAt m ⟨tx.hash, i⟩).sum

theorem coinValueAt_of {m : CoinMap} {id : CoinID} {c : CoinDataHeight} (h : m.getCoin id = some c) :
    coinValueAt m id = c.coinData.value := by
  unfold coinValueAt; rw [h]

theorem paidOut_le {m : CoinMap} {i : Nat} {reqs : List Tx} (v : Tx → Nat) (w T : Nat)
    (hT : T = (reqs.map v).sum)
    (hpaid : ∀ tx ∈ reqs, coinValueAt m ⟨tx.hash, i⟩ ≤ w * v tx / T) : paidOut m i reqs ≤ w := by
  unfold paidOut
  refine Nat.le_trans (sum_map_le _ (fun tx => w * v tx / T) reqs hpaid) ?_
  rw [hT]
  exact pro_rata_map_le w v reqs

/-- pro-rata payouts over a filtered side never exceed what is split, when the side's total is the exact sum -/
theorem paidOut_filter_le {m : CoinMap} {i : Nat} {reqs : List Tx} (q : Tx → Bool) (v : Tx → Nat) (w T : Nat)
    (hT : T = (reqs.map fun tx => if q tx then v tx else 0).sum)
    (hpaid : ∀ tx ∈ reqs, q tx = true → coinValueAt m ⟨tx.hash, i⟩ ≤ w * v tx / T) :
    paidOut m i (reqs.filter q) ≤ w :=
  paidOut_le v w T (hT.trans (sum_filter_map q v reqs).symm) fun tx htx =>
    hpaid tx (List.mem_filter.mp htx).1 (List.mem_filter.mp htx).2

end SettleBlockL
end Mel


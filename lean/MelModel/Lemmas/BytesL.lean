/- big-endian byte strings, significant length, and a few list facts: shared by the codec (C12) and the executor laws (C10) -/
import MelModel.Prim.Bytes
namespace Mel

theorem snoc_induction {α} {P : List α → Prop} (nil : P [])
    (append_singleton : ∀ l b, P l → P (l ++ [b])) (bs : List α) : P bs := by
  suffices h : ∀ l : List α, P l.reverse by simpa using h bs.reverse
  intro l
  induction l with
  | nil => simpa using nil
  | cons a l ih => simpa using append_singleton _ a ih

theorem getElem?_of_drop {α} {l : List α} {p : Nat} {x : α} {r : List α}
    (h : l.drop p = x :: r) : l[p]? = some x := by
  have : (l.drop p)[0]? = l[p + 0]? := List.getElem?_drop
  rw [h] at this
  simpa using this.symm

theorem drop_succ_of_drop {α} {l : List α} {p : Nat} {x : α} {r : List α}
    (h : l.drop p = x :: r) : l.drop (p + 1) = r := by
  rw [List.drop_add_one_eq_tail_drop, h]; rfl

theorem drop_add_of_drop_append {α} {l a r : List α} {p : Nat} (h : l.drop p = a ++ r) :
    l.drop (p + a.length) = r := by
  rw [← List.drop_drop, h, List.drop_left]

theorem drop_pre {α} (pre mid post : List α) :
    (pre ++ mid ++ post).drop pre.length = mid ++ post := by
  rw [List.append_assoc, List.drop_left]

@[simp] theorem toBE_length (n v : Nat) : (toBE n v).length = n := by
  induction n generalizing v with
  | zero => simp [toBE]
  | succ n ih => simp [toBE, ih]

theorem fromBE_nil : fromBE [] = 0 := rfl

theorem fromBE_snoc (bs : Bytes) (b : UInt8) :
    fromBE (bs ++ [b]) = fromBE bs * 256 + b.toNat := by
  simp [fromBE, List.foldl_append]

theorem fromBE_toBE (n v : Nat) : fromBE (toBE n v) = v % 256 ^ n := by
  induction n generalizing v with
  | zero => simp [toBE, fromBE_nil, Nat.mod_one]
  | succ n ih =>
    rw [toBE, fromBE_snoc, ih, UInt8.toNat_ofNat']
    have e : 256 ^ (n + 1) = 256 * 256 ^ n := by rw [Nat.pow_succ, Nat.mul_comm]
    rw [e, Nat.mod_mul]
    omega

theorem toBE_fromBE (bs : Bytes) : toBE bs.length (fromBE bs) = bs := by
  induction bs using snoc_induction with
  | nil => simp [toBE]
  | append_singleton l b ih =>
    have hb : b.toNat < 256 := UInt8.toNat_lt b
    rw [List.length_append, List.length_singleton, toBE, fromBE_snoc]
    have h1 : (fromBE l * 256 + b.toNat) / 256 = fromBE l := by omega
    have h2 : (fromBE l * 256 + b.toNat) % 256 = b.toNat := by omega
    rw [h1, h2, ih, UInt8.ofNat_toNat]

theorem fromBE_lt (bs : Bytes) : fromBE bs < 256 ^ bs.length := by
  induction bs using snoc_induction with
  | nil => simp [fromBE_nil]
  | append_singleton l b ih =>
    have hb : b.toNat < 256 := UInt8.toNat_lt b
    rw [List.length_append, List.length_singleton, fromBE_snoc, Nat.pow_succ]
    omega

theorem toBE_getElem? : ∀ (n v i : Nat), i < n →
    (toBE n v)[i]? = some (UInt8.ofNat (v / 256 ^ (n - 1 - i) % 256))
  | 0, _, _, h => by omega
  | n + 1, v, i, h => by
    rw [toBE]
    by_cases hi : i < n
    · rw [List.getElem?_append_left (by simpa using hi), toBE_getElem? n (v / 256) i hi,
        Nat.div_div_eq_div_mul, ← Nat.pow_succ']
      have : (n - 1 - i).succ = n + 1 - 1 - i := by omega
      rw [this]
    · have : i = n := by omega
      subst this
      rw [List.getElem?_append_right (by simp)]
      simp

theorem sigLen_zero : sigLen 0 = 0 := by
  rw [sigLen]; simp

theorem sigLen_pos (v : Nat) (h : v ≠ 0) : sigLen v = sigLen (v / 256) + 1 := by
  rw [sigLen]; simp [h]

theorem lt_pow_sigLen (v : Nat) : v < 256 ^ sigLen v := by
  induction v using Nat.strongRecOn with
  | _ v ih =>
    by_cases h : v = 0
    · subst h; simp [sigLen_zero]
    · rw [sigLen_pos v h, Nat.pow_succ]
      have := ih (v / 256) (by omega)
      omega

theorem sigLen_le_of_lt_pow (n v : Nat) (h : v < 256 ^ n) : sigLen v ≤ n := by
  induction n generalizing v with
  | zero =>
    have : v = 0 := by simpa using h
    subst this; simp [sigLen_zero]
  | succ n ih =>
    by_cases hv : v = 0
    · subst hv; simp [sigLen_zero]
    · rw [sigLen_pos v hv]
      rw [Nat.pow_succ] at h
      have := ih (v / 256) (by omega)
      omega

theorem lt_pow_of_sigLen_le (n v : Nat) (h : sigLen v ≤ n) : v < 256 ^ n :=
  Nat.lt_of_lt_of_le (lt_pow_sigLen v) (Nat.pow_le_pow_right (by decide) h)

theorem sigLen_le_iff (n v : Nat) : sigLen v ≤ n ↔ v < 256 ^ n :=
  ⟨lt_pow_of_sigLen_le n v, sigLen_le_of_lt_pow n v⟩

theorem pow_256_32 : 256 ^ 32 = 2 ^ 256 := by decide

theorem fromBE_toBE_sigLen (v : Nat) : fromBE (toBE (sigLen v) v) = v := by
  rw [fromBE_toBE, Nat.mod_eq_of_lt (lt_pow_sigLen v)]

theorem fromBE_toBE_32 (v : BitVec 256) : fromBE (toBE 32 v.toNat) = v.toNat := by
  rw [fromBE_toBE, pow_256_32, Nat.mod_eq_of_lt v.isLt]

theorem sigLen_u256_le (v : BitVec 256) : sigLen v.toNat ≤ 32 :=
  sigLen_le_of_lt_pow 32 _ (by rw [pow_256_32]; exact v.isLt)

end Mel

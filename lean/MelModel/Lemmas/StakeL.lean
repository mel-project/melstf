/- which documents `loadStakeInfo` registers (`stakeRes`, `stakeMap` in terms of `StakeRegisters`); the lock test of
   `checkTxValidity` -/
import MelModel.Chain
import MelModel.Lemmas.Counts
import MelModel.Lemmas.Confirm
import MelModel.Lemmas.FeeMult
import MelModel.Lemmas.Phase
import MelModel.Lemmas.OutcomeL
import MelModel.Lemmas.MapL
import MelModel.Lemmas.Batch
namespace Mel
open Mel.Gen C3

/-- `tx` registers the stake document `d` in state `s`: the conditions under which `load_stake_info` records it.
    `Registers` in Props/C13.lean, which imports this file, has the same body. -/
def StakeRegisters (s : State) (tx : Tx) (d : StakeDoc) : Prop :=
  tx.kind = .stake ∧ legacyStakeReg s = false ∧ tx.stakeDoc = some d ∧
  ∃ first, tx.outputs.head? = some first ∧ first.denom = .sym ∧
    d.eStart > s.epoch ∧ d.ePostEnd > d.eStart ∧ d.symsStaked = first.value

theorem StakeRegisters.unique {s : State} {tx : Tx} {d d' : StakeDoc}
    (h : StakeRegisters s tx d) (h' : StakeRegisters s tx d') : d = d' := by
  have := h.2.2.1.symm.trans h'.2.2.1
  exact Option.some.inj this

/-- `stakeRes` accepts with exactly the document the transaction registers, if any -/
theorem stakeRes_ok {s : State} {tx : Tx} {o : Option StakeDoc} (h : stakeRes s tx = .ok o) (d : StakeDoc) :
    o = some d ↔ StakeRegisters s tx d := by
  unfold stakeRes at h
  by_cases hk : tx.kind ≠ .stake
  · rw [if_pos hk] at h; cases h
    exact ⟨nofun, fun hd => absurd hd.1 hk⟩
  rw [if_neg hk] at h
  by_cases hl : legacyStakeReg s = true
  · rw [if_pos hl] at h; cases h
    exact ⟨nofun, fun hd => absurd (hd.2.1.symm.trans hl) (by decide)⟩
  rw [if_neg hl] at h
  cases hd : tx.stakeDoc with
  | none => rw [hd] at h; cases h
  | some d0 =>
    cases ho : tx.outputs with
    | nil => rw [hd, ho] at h; cases h
    | cons first rest =>
      rw [hd, ho] at h
      dsimp only at h
      by_cases hden : first.denom ≠ .sym
      · rw [if_pos hden] at h; cases h
      rw [if_neg hden] at h
      have hcons : stakeIsConsistent d0 s.epoch first = true ↔
          d0.eStart > s.epoch ∧ d0.ePostEnd > d0.eStart ∧ d0.symsStaked = first.value := by
        simp [stakeIsConsistent, and_assoc]
      by_cases hc : stakeIsConsistent d0 s.epoch first = true
      · rw [if_pos hc] at h; cases h
        constructor
        · intro e; cases e
          exact ⟨Decidable.of_not_not hk, Bool.eq_false_iff.mpr hl, hd, first, by rw [ho]; rfl,
            Decidable.of_not_not hden, hcons.mp hc⟩
        · intro hd'
          exact hd.symm.trans hd'.2.2.1
      · rw [if_neg hc] at h; cases h
        refine ⟨nofun, fun hd' => ?_⟩
        obtain ⟨_, _, hdoc, f, hf, _, hrest⟩ := hd'
        rw [hd] at hdoc; cases hdoc
        rw [ho] at hf; cases hf
        exact absurd (hcons.mpr hrest) hc

theorem stakeRes_malformed (s : State) (tx : Tx) (hk : tx.kind = .stake) (hl : legacyStakeReg s = false)
    (hbad : tx.stakeDoc = none ∨ tx.outputs = [] ∨ ∃ o, tx.outputs.head? = some o ∧ o.denom ≠ .sym)
    (v : Option StakeDoc) : stakeRes s tx ≠ .ok v := by
  intro h
  unfold stakeRes at h
  simp only [hk, hl, ne_eq, not_true_eq_false, if_false, Bool.false_eq_true] at h
  split at h
  · cases h
  · next d hd =>
    split at h
    · cases h
    · next first rest ho =>
      rcases hbad with hb | hb | ⟨o, ho', hden⟩
      · rw [hd] at hb; cases hb
      · rw [ho] at hb; cases hb
      · simp [ho] at ho'; subst ho'
        simp [hden] at h

/-- the entry one transaction writes -/
theorem stakeEntries_get {s : State} {tx : Tx} {o : Option StakeDoc} (h : stakeRes s tx = .ok o) (k : Hash)
    (d : StakeDoc) :
    AList.get (stakeEntries (valOf (stakeRes s tx)) tx).reverse k = some d ↔ tx.hash = k ∧ StakeRegisters s tx d := by
  rw [← stakeRes_ok h d, h]
  cases o with
  | none => simp [valOf, stakeEntries, AList.get]
  | some d0 => simp [valOf, stakeEntries, AList.get_cons, AList.get, eq_comm]

theorem stakeMap_get_iff {s : State} {txs : List Tx} (hok : ∀ a ∈ txs, ∃ v, stakeRes s a = .ok v)
    (hu : (txs.map (·.hash)).Nodup) (k : Hash) (d : StakeDoc) :
    (SeqL.stakeMap s txs).get k = some d ↔ ∃ tx ∈ txs, tx.hash = k ∧ StakeRegisters s tx d := by
  unfold SeqL.stakeMap
  rw [AList.get_foldl_extend_iff _ k d Tx.hash (fun _ _ h => (stakeEntries_key h).symm) txs []
    (fun _ ha _ hb e => eq_of_nodup_map (·.hash) hu ha hb e)]
  simp only [AList.get, and_false, or_false, reduceCtorEq]
  refine exists_congr fun a => and_congr_right fun ha => ?_
  obtain ⟨v, hv⟩ := hok a ha
  exact stakeEntries_get hv k d

/-- needs no distinctness of hashes: a later transaction with the same hash can overwrite the entry but not delete it -/
theorem stakeMap_contains {s : State} {t : Tx} {d : StakeDoc} (hr : stakeRes s t = .ok (some d)) :
    ∀ {txs : List Tx}, t ∈ txs → (SeqL.stakeMap s txs).contains t.hash = true := by
  intro txs
  induction txs with
  | nil => nofun
  | cons x xs ih =>
    intro ht
    unfold AList.contains SeqL.stakeMap
    rw [List.foldl_cons, AList.get_foldl_extend_or, Option.isSome_or]
    rcases List.mem_cons.mp ht with rfl | ht
    · refine (Bool.or_eq_true _ _).mpr (.inr ?_)
      rw [hr]
      exact congrArg Option.isSome (AList.get_set_self [] t.hash d)
    · exact (Bool.or_eq_true _ _).mpr (.inl (ih ht))

theorem loadStakeInfo_legacy (s : State) (txs : List Tx) (h : legacyStakeReg s = true) :
    loadStakeInfo s txs = .ok [] := by
  have hres : ∀ a, stakeRes s a = .ok none := fun a => by unfold stakeRes; simp [h]
  refine loadStake_iff.mpr ⟨fun a _ => ⟨none, hres a⟩, ?_⟩
  unfold SeqL.stakeMap
  simp only [hres]
  induction txs with
  | nil => rfl
  | cons x xs ih => exact ih

theorem applyBatch_stakes (env : Env) (s s' : State) (txs : List Tx) (fb : Header)
    (h : applyBatch env s txs fb = .ok s') :
    ∃ rel newStakes,
      loadRelevantCoins s txs = .ok rel ∧ loadStakeInfo s txs = .ok newStakes ∧
      Outcome.forM' (fun tx => checkTxValidity env s (lastHeaderOf s fb) tx rel newStakes) txs = .ok () ∧
      s'.stakes = newStakes.reverse.foldl (fun st e => StakeSet.addStake st e.1 e.2) s.stakes := by
  obtain ⟨rel, ns, sp, next, hrel, hns, hu, -, hnext, rfl⟩ := applyBatch_iff.mp h
  rw [createNextState_eq] at hnext
  have hst := (nextFold_info env _ txs _ _ hnext).stakes
  refine ⟨rel, ns, hrel, hns, hu, ?_⟩
  show ns.reverse.foldl _ next.stakes = _
  rw [hst]

theorem checkTxValidity_locked (env : Env) (s : State) (lh : Header) (tx : Tx) (rel : Relevant)
    (ns : AList Hash StakeDoc) (id : CoinID) (hid : id ∈ tx.inputs) (hl : legacyStakeLock s = false)
    (hlock : (ns.contains id.txhash || (s.stakes.getStake id.txhash).isSome) = true) :
    checkTxValidity env s lh tx rel ns ≠ .ok () := by
  intro h
  unfold checkTxValidity at h
  obtain ⟨inCoins, hgo, _⟩ := Outcome.bind_eq_ok.mp h
  obtain ⟨i, hi⟩ : ∃ i, (id, i) ∈ tx.inputs.zipIdx := by
    obtain ⟨i, hi, rfl⟩ := List.getElem_of_mem hid
    exact ⟨i, by simp [List.mem_zipIdx_iff_getElem?]⟩
  obtain ⟨b1, b2, hstep⟩ := Outcome.foldlM'_step_of_ok _ _ _ _ _ hi hgo
  simp [hlock, hl] at hstep

end Mel

/- the coin map: what `insertCoin`, `removeCoin` and `insertCoinCount` do to lookups and counts -/
import MelModel.Coins
import MelModel.Lemmas.MapL
import MelModel.Lemmas.OutcomeL
namespace Mel
namespace CoinMap

/-! ### `insertCoinCount` -/

theorem coins_insertCoinCount (m : CoinMap) (h : Hash) (n : Nat) : (m.insertCoinCount h n).coins = m.coins := by
  unfold insertCoinCount
  split <;> rfl

theorem getCoin_insertCoinCount (m : CoinMap) (h : Hash) (n : Nat) (id : CoinID) :
    (m.insertCoinCount h n).getCoin id = m.getCoin id := by
  rw [getCoin, coins_insertCoinCount]; rfl

theorem coinCount_insertCoinCount (m : CoinMap) (h : Hash) (n : Nat) (k : Hash) :
    (m.insertCoinCount h n).coinCount k = if k = h then n else m.coinCount k := by
  unfold insertCoinCount coinCount
  by_cases hn : n = 0
  · rw [if_pos hn]
    by_cases hk : k = h
    · rw [if_pos hk, hk, AList.get_del_self, hn]; rfl
    · rw [if_neg hk, AList.get_del_ne _ hk]
  · rw [if_neg hn]
    by_cases hk : k = h
    · rw [if_pos hk, hk, AList.get_set_self]; rfl
    · rw [if_neg hk, AList.get_set_ne _ _ hk]

/-! ### `insertCoin` -/

theorem coins_insertCoin (m : CoinMap) (id : CoinID) (d : CoinDataHeight) (t : Bool) :
    (m.insertCoin id d t).coins = m.coins.set id d := by
  unfold insertCoin
  simp only
  split <;> rfl

theorem getCoin_insertCoin (m : CoinMap) (id : CoinID) (d : CoinDataHeight) (t : Bool) (k : CoinID) :
    (m.insertCoin id d t).getCoin k = if k = id then some d else m.getCoin k := by
  rw [getCoin, coins_insertCoin]
  by_cases h : k = id
  · rw [if_pos h, h]; exact AList.get_set_self _ _ _
  · rw [if_neg h]; exact AList.get_set_ne _ _ h

theorem getCoin_insertCoin_self (m : CoinMap) (id : CoinID) (d : CoinDataHeight) (t : Bool) :
    (m.insertCoin id d t).getCoin id = some d := by
  rw [getCoin_insertCoin, if_pos rfl]

theorem getCoin_insertCoin_ne (m : CoinMap) {id id' : CoinID} (d : CoinDataHeight) (t : Bool)
    (hne : id ≠ id') : (m.insertCoin id' d t).getCoin id = m.getCoin id := by
  rw [getCoin_insertCoin, if_neg hne]

theorem coinCount_insertCoin (m : CoinMap) (id : CoinID) (d : CoinDataHeight) (t : Bool) (h : Hash) :
    (m.insertCoin id d t).coinCount h =
      if (t && !(m.getCoin id).isSome) = true ∧ h = d.coinData.covhash then m.coinCount d.coinData.covhash + 1
      else m.coinCount h := by
  unfold insertCoin getCoin
  simp only
  by_cases hc : (t && !(m.coins.get id).isSome) = true
  · rw [if_pos hc]
    by_cases hh : h = d.coinData.covhash
    · rw [if_pos ⟨hc, hh⟩, hh, coinCount, AList.get_set_self]; rfl
    · rw [if_neg (fun x => hh x.2), coinCount, AList.get_set_ne _ _ hh]; rfl
  · rw [if_neg hc, if_neg (fun x => hc x.1)]
    rfl

/-! ### `removeCoin` -/

theorem coins_removeCoin {m m' : CoinMap} {id : CoinID} {t : Bool} (h : m.removeCoin id t = .ok m') :
    m'.coins = m.coins.del id := by
  unfold removeCoin at h
  split at h
  · split at h
    · simp only at h
      split at h
      · cases h
      · cases h; rfl
    · cases h; rfl
  · cases h; rfl

theorem getCoin_removeCoin {m m' : CoinMap} {id : CoinID} {t : Bool} (h : m.removeCoin id t = .ok m')
    (k : CoinID) : m'.getCoin k = if k = id then none else m.getCoin k := by
  rw [getCoin, coins_removeCoin h]
  by_cases hk : k = id
  · rw [if_pos hk, hk]; exact AList.get_del_self _ _
  · rw [if_neg hk]; exact AList.get_del_ne _ hk

theorem getCoin_removeCoin_self {m m' : CoinMap} {id : CoinID} {t : Bool}
    (h : m.removeCoin id t = .ok m') : m'.getCoin id = none := by
  rw [getCoin_removeCoin h, if_pos rfl]

theorem getCoin_removeCoin_ne {m m' : CoinMap} {id id' : CoinID} {t : Bool}
    (h : m.removeCoin id' t = .ok m') (hne : id ≠ id') : m'.getCoin id = m.getCoin id := by
  rw [getCoin_removeCoin h, if_neg hne]

theorem getCoin_removeCoins (t : Bool) (ids : List CoinID) :
    ∀ (m m' : CoinMap), Outcome.foldlM' (fun (c : CoinMap) id => c.removeCoin id t) m ids = .ok m' →
      ∀ k, m'.getCoin k = if k ∈ ids then none else m.getCoin k := by
  induction ids with
  | nil =>
    intro m m' h k
    rw [Outcome.foldlM'_nil_ok] at h
    rw [h, if_neg List.not_mem_nil]
  | cons id rest ih =>
    intro m m' h k
    obtain ⟨m1, h1, h2⟩ := (Outcome.foldlM'_cons_ok _ _ _ _ _).mp h
    rw [ih m1 m' h2 k, getCoin_removeCoin h1 k]
    by_cases hk : k = id
    · rw [if_pos hk, ite_self, if_pos (List.mem_cons.mpr (.inl hk))]
    · by_cases hr : k ∈ rest
      · rw [if_pos hr, if_pos (List.mem_cons_of_mem _ hr)]
      · rw [if_neg hr, if_neg hk, if_neg (fun h => (List.mem_cons.mp h).elim hk hr)]

end CoinMap
end Mel

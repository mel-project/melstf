/- `validateDoscmint` in normal form: what is checked before the proof is looked at, and the arithmetic after it (C18, C09) -/
import MelModel.ApplyTx
import MelModel.Lemmas.OutcomeL
namespace Mel
open Mel.Gen

theorem computeDoscmintSpeed_iff {t : Bool} {d sh ch r : Nat} :
    computeDoscmintSpeed t d sh ch = .ok r ↔
      d < 128 ∧ ch < sh ∧ (if t then TIP910_SPEED_FACTOR else 1) * 2 ^ d ≤ U128_MAX ∧
      r = (if t then TIP910_SPEED_FACTOR else 1) * 2 ^ d / (sh - ch) := by
  unfold computeDoscmintSpeed
  by_cases h1 : d ≥ 128
  · rw [if_pos h1]
    exact Iff.intro (fun h => nomatch h) (fun h => absurd h.1 (Nat.not_lt.mpr h1))
  rw [if_neg h1]
  by_cases h2 : ch > sh
  · rw [if_pos h2]
    exact Iff.intro (fun h => nomatch h) (fun h => absurd h.2.1 (Nat.lt_asymm h2))
  rw [if_neg h2]
  by_cases h3 : sh = ch
  · rw [if_pos h3]
    exact Iff.intro (fun h => nomatch h) (fun h => absurd h.2.1 (h3 ▸ Nat.lt_irrefl _))
  rw [if_neg h3]
  have hlt : ch < sh := Nat.lt_of_le_of_ne (Nat.le_of_not_lt h2) (fun e => h3 e.symm)
  by_cases h4 : (if t then TIP910_SPEED_FACTOR else 1) * 2 ^ d > U128_MAX
  · rw [if_pos h4]
    exact Iff.intro (fun h => nomatch h) (fun h => absurd h.2.2.1 (Nat.not_le.mpr h4))
  rw [if_neg h4]
  exact ⟨fun h => ⟨Nat.lt_of_not_le h1, hlt, Nat.le_of_not_lt h4, by cases h; rfl⟩, fun h => by rw [h.2.2.2]⟩

theorem calculateReward_iff {ms ds d r : Nat} {t : Bool} :
    calculateReward ms ds d t = .ok r ↔
      d < 128 ∧ ds ≠ 0 ∧
      r = satU128 ((if t then satMul128 (2 ^ d) TIP910_WORK_FACTOR else 2 ^ d) * ms * MICRO_CONVERTER /
        (ds ^ 2 * REWARD_DIVISOR)) := by
  unfold calculateReward
  by_cases h1 : d ≥ 128
  · rw [if_pos h1]
    exact Iff.intro (fun h => nomatch h) (fun h => absurd h.1 (Nat.not_lt.mpr h1))
  rw [if_neg h1]
  by_cases h2 : ds = 0
  · rw [if_pos h2]
    exact Iff.intro (fun h => nomatch h) (fun h => absurd h2 h.2.1)
  rw [if_neg h2]
  exact ⟨fun h => ⟨Nat.lt_of_not_le h1, h2, by cases h; rfl⟩, fun h => by rw [h.2.2]⟩

/-- what `validateDoscmint` establishes before it looks at the proof: the coin spent, the header that seeds the
    puzzle, the stated difficulty -/
structure DoscPre where
  coinId : CoinID
  coin : CoinDataHeight
  seedHdr : Header
  difficulty : Nat

def doscPre (s : State) (rel : Relevant) (tx : Tx) : Outcome DoscPre :=
  match tx.inputs with
  | [] => .crash "applytx.rs: expect(inputs[0])"
  | coinId :: _ =>
    match rel.get coinId with
    | none => .reject .nonexistentCoin
    | some coin =>
      if coin.height > s.height then .crash "applytx.rs: BlockHeight subtraction underflow"
      else if s.height - coin.height < DOSCMINT_MIN_AGE && s.network = .mainnet then .reject .invalidMelPoW
      else match s.history.get coin.height with
        | none => .reject .invalidMelPoW
        | some seedHdr =>
          match tx.powDifficulty with
          | none => .reject .invalidMelPoW
          | some difficulty =>
            if !tx.powProofParses then .reject .malformedTx
            else .ok ⟨coinId, coin, seedHdr, difficulty⟩

/-- … and what it computes once the proof is accepted (`tip910`: with the TIP-910 hash) -/
def doscTail (s : State) (tx : Tx) (coin : CoinDataHeight) (difficulty : Nat) (tip910 : Bool) : Outcome Nat :=
  (computeDoscmintSpeed tip910 difficulty s.height coin.height).bind fun mySpeed =>
  if s.height = 0 then .crash "applytx.rs: height - 1 underflow" else
  match s.history.get (s.height - 1) with
  | none => .reject .invalidMelPoW
  | some prev =>
    (calculateReward mySpeed prev.doscSpeed difficulty tip910).bind fun rewardReal =>
    (doscToErg s.height rewardReal).bind fun rewardNom =>
      let totalErg := (tx.totalOutputs.get .erg).getD 0
      if totalErg > rewardNom then .reject .invalidMelPoW else .ok mySpeed

theorem validateDoscmint_eq (env : Env) (s : State) (rel : Relevant) (tx : Tx) :
    validateDoscmint env s rel tx = (doscPre s rel tx).bind fun p =>
      match env.powOk (env.hdrHash p.seedHdr) p.coinId p.difficulty tx.hash with
      | .panics => .reject .invalidMelPoW
      | .invalid => .reject .invalidMelPoW
      | v => doscTail s tx p.coin p.difficulty (v = .tip910) := by
  unfold validateDoscmint doscPre
  cases tx.inputs with
  | nil => rfl
  | cons coinId _ =>
    dsimp only
    cases rel.get coinId with
    | none => rfl
    | some coin =>
      dsimp only
      by_cases h1 : coin.height > s.height
      · rw [if_pos h1, if_pos h1]; rfl
      rw [if_neg h1, if_neg h1]
      by_cases h2 : (decide (s.height - coin.height < DOSCMINT_MIN_AGE) && decide (s.network = .mainnet)) = true
      · rw [if_pos h2, if_pos h2]; rfl
      rw [if_neg h2, if_neg h2]
      cases s.history.get coin.height with
      | none => rfl
      | some seedHdr =>
        cases tx.powDifficulty with
        | none => rfl
        | some difficulty =>
          dsimp only
          by_cases h3 : (!tx.powProofParses) = true
          · rw [if_pos h3, if_pos h3]; rfl
          rw [if_neg h3, if_neg h3]
          rfl

theorem validateDoscmint_of_pre {env : Env} {s : State} {rel : Relevant} {tx : Tx} {id : CoinID}
    {coin : CoinDataHeight} {hdr : Header} {d : Nat} (hp : doscPre s rel tx = .ok ⟨id, coin, hdr, d⟩) :
    validateDoscmint env s rel tx =
      match env.powOk (env.hdrHash hdr) id d tx.hash with
      | .panics => .reject .invalidMelPoW
      | .invalid => .reject .invalidMelPoW
      | v => doscTail s tx coin d (v = .tip910) := by
  rw [validateDoscmint_eq, hp]
  rfl

theorem doscPre_ok {s : State} {rel : Relevant} {tx : Tx} {p : DoscPre}
    (h : doscPre s rel tx = .ok p) :
    tx.inputs.head? = some p.coinId ∧ rel.get p.coinId = some p.coin ∧ p.coin.height ≤ s.height ∧
    (s.network = .mainnet → DOSCMINT_MIN_AGE ≤ s.height - p.coin.height) ∧
    s.history.get p.coin.height = some p.seedHdr ∧ tx.powDifficulty = some p.difficulty ∧ tx.powProofParses = true := by
  unfold doscPre at h
  cases hin : tx.inputs with
  | nil => rw [hin] at h; cases h
  | cons coinId rest =>
    rw [hin] at h
    dsimp only at h
    cases hrel : rel.get coinId with
    | none => rw [hrel] at h; cases h
    | some coin =>
      rw [hrel] at h
      dsimp only at h
      by_cases hgt : coin.height > s.height
      · rw [if_pos hgt] at h; cases h
      rw [if_neg hgt] at h
      by_cases hage : (decide (s.height - coin.height < DOSCMINT_MIN_AGE) && decide (s.network = .mainnet)) = true
      · rw [if_pos hage] at h; cases h
      rw [if_neg hage] at h
      cases hseed : s.history.get coin.height with
      | none => rw [hseed] at h; cases h
      | some seedHdr =>
        rw [hseed] at h
        dsimp only at h
        cases hd : tx.powDifficulty with
        | none => rw [hd] at h; cases h
        | some difficulty =>
          rw [hd] at h
          dsimp only at h
          by_cases hpp : (!tx.powProofParses) = true
          · rw [if_pos hpp] at h; cases h
          rw [if_neg hpp] at h
          cases h
          refine ⟨rfl, hrel, Nat.le_of_not_lt hgt, fun hn => Nat.le_of_not_lt fun hlt => hage ?_, hseed, rfl,
            by simpa using hpp⟩
          simp [hlt, hn]

theorem doscPre_eq_of {s : State} {rel : Relevant} {tx : Tx} {id : CoinID} {coin : CoinDataHeight} {hdr : Header}
    {d : Nat} (hi : tx.inputs.head? = some id) (hc : rel.get id = some coin) (hle : coin.height ≤ s.height)
    (hs : s.history.get coin.height = some hdr) (hd : tx.powDifficulty = some d)
    (hparse : tx.powProofParses = true) :
    doscPre s rel tx =
      if s.height - coin.height < DOSCMINT_MIN_AGE && s.network = .mainnet then .reject .invalidMelPoW
      else .ok ⟨id, coin, hdr, d⟩ := by
  unfold doscPre
  cases hin : tx.inputs with
  | nil => rw [hin] at hi; cases hi
  | cons c rest =>
    rw [hin] at hi
    cases hi
    simp only [hc, hs, hd, hparse]
    rw [if_neg (Nat.not_lt.mpr hle)]
    rfl

theorem doscPre_ne_crash {s : State} {rel : Relevant} {tx : Tx} (hin : tx.inputs ≠ [])
    (hh : ∀ id c, rel.get id = some c → c.height ≤ s.height) (c : String) : doscPre s rel tx ≠ .crash c := by
  intro h
  unfold doscPre at h
  cases hinp : tx.inputs with
  | nil => exact hin hinp
  | cons coinId rest =>
    rw [hinp] at h
    dsimp only at h
    cases hrel : rel.get coinId with
    | none => rw [hrel] at h; cases h
    | some coin =>
      rw [hrel] at h
      dsimp only at h
      rw [if_neg (Nat.not_lt.mpr (hh coinId coin hrel))] at h
      split at h
      · cases h
      · split at h
        · cases h
        · split at h
          · cases h
          · split at h <;> cases h

theorem validateDoscmint_congr (env : Env) (s s' : State) (tx : Tx) {rel rel' : Relevant}
    (hr : ∀ id ∈ tx.inputs, rel'.get id = rel.get id) (hh : s'.height = s.height)
    (hn : s'.network = s.network) (hist : s'.history = s.history) :
    validateDoscmint env s' rel' tx = validateDoscmint env s rel tx := by
  have e1 : doscPre s' rel' tx = doscPre s rel tx := by
    unfold doscPre
    cases hi : tx.inputs with
    | nil => rfl
    | cons c cs => simp only [hr c (by simp [hi]), hh, hn, hist]
  have e2 : ∀ coin d b, doscTail s' tx coin d b = doscTail s tx coin d b := by
    intro coin d b
    simp only [doscTail, hh, hist]
  rw [validateDoscmint_eq, validateDoscmint_eq, e1]
  simp only [e2]

theorem doscTail_ok {s : State} {tx : Tx} {coin : CoinDataHeight} {d sp : Nat} {b : Bool}
    (h : doscTail s tx coin d b = .ok sp) :
    coin.height < s.height ∧ sp = (if b then TIP910_SPEED_FACTOR else 1) * 2 ^ d / (s.height - coin.height) ∧
    ∃ prev erg, s.history.get (s.height - 1) = some prev ∧
      doscToErg s.height (satU128 ((if b then satMul128 (2 ^ d) TIP910_WORK_FACTOR else 2 ^ d) * sp *
        MICRO_CONVERTER / (prev.doscSpeed ^ 2 * REWARD_DIVISOR))) = .ok erg ∧
      (tx.totalOutputs.get .erg).getD 0 ≤ erg := by
  unfold doscTail at h
  obtain ⟨mySpeed, hcs, h⟩ := Outcome.bind_eq_ok.mp h
  obtain ⟨-, hlt, -, hms⟩ := computeDoscmintSpeed_iff.mp hcs
  by_cases hz : s.height = 0
  · rw [if_pos hz] at h; cases h
  rw [if_neg hz] at h
  cases hprev : s.history.get (s.height - 1) with
  | none => rw [hprev] at h; cases h
  | some prev =>
    rw [hprev] at h
    dsimp only at h
    obtain ⟨rr, hrr, h⟩ := Outcome.bind_eq_ok.mp h
    obtain ⟨rn, hrn, h⟩ := Outcome.bind_eq_ok.mp h
    by_cases hex : (tx.totalOutputs.get .erg).getD 0 > rn
    · rw [if_pos hex] at h; cases h
    rw [if_neg hex] at h
    cases h
    rw [(calculateReward_iff.mp hrr).2.2] at hrn
    exact ⟨hlt, hms, prev, rn, rfl, hrn, Nat.le_of_not_lt hex⟩

end Mel

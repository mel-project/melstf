/-
  What the pending `tips` of a state can and cannot influence (for Props/C08Reach.lean and Lemmas/FeeHistL.lean).
  `W s t` is the state `s` with its tips replaced by `t`. Sealing up to the proposer action neither reads nor writes
  the tips (an instance of `SealCongL.sealPre_sim`), and a batch commutes with `W` up to the tips themselves (as an
  equation between outcomes: the same rejection, the same crash), which accumulate the same increments from a
  different start.
-/
import MelModel.Chain
import MelModel.Props.C03
import MelModel.Props.C08
import MelModel.Lemmas.Faucet
import MelModel.Lemmas.Batch
import MelModel.Lemmas.TotalSeal
import MelModel.Lemmas.ChainL
import MelModel.Lemmas.ReachL
import MelModel.Lemmas.Perm
import MelModel.Lemmas.BlockHistL
import MelModel.Lemmas.SealCongL
import MelModel.Props.C13Life
import MelModel.Lemmas.OutcomeL
import MelModel.Lemmas.MapL
namespace Mel
open Mel.Gen

/-- all fields equal except the pending `tips` -/
structure EqUpToTips (s₁ s₂ : State) : Prop where
  network : s₁.network = s₂.network
  height : s₁.height = s₂.height
  history : s₁.history = s₂.history
  coins : s₁.coins = s₂.coins
  txs : s₁.txs = s₂.txs
  feePool : s₁.feePool = s₂.feePool
  feeMultiplier : s₁.feeMultiplier = s₂.feeMultiplier
  doscSpeed : s₁.doscSpeed = s₂.doscSpeed
  pools : s₁.pools = s₂.pools
  stakes : s₁.stakes = s₂.stakes

namespace RestartL

def W (a : State) (t : Nat) : State := { a with tips := t }

@[simp] theorem W_tips (a : State) (t : Nat) : (W a t).tips = t := rfl
@[simp] theorem W_coins (a : State) (t : Nat) : (W a t).coins = a.coins := rfl
@[simp] theorem W_stakes (a : State) (t : Nat) : (W a t).stakes = a.stakes := rfl
@[simp] theorem W_pools (a : State) (t : Nat) : (W a t).pools = a.pools := rfl
@[simp] theorem W_height (a : State) (t : Nat) : (W a t).height = a.height := rfl
@[simp] theorem W_network (a : State) (t : Nat) : (W a t).network = a.network := rfl
@[simp] theorem W_txs (a : State) (t : Nat) : (W a t).txs = a.txs := rfl
@[simp] theorem W_feePool (a : State) (t : Nat) : (W a t).feePool = a.feePool := rfl
@[simp] theorem W_feeMultiplier (a : State) (t : Nat) : (W a t).feeMultiplier = a.feeMultiplier := rfl
@[simp] theorem W_history (a : State) (t : Nat) : (W a t).history = a.history := rfl
@[simp] theorem W_doscSpeed (a : State) (t : Nat) : (W a t).doscSpeed = a.doscSpeed := rfl
@[simp] theorem W_tip901 (a : State) (t : Nat) : (W a t).tip901 = a.tip901 := rfl
@[simp] theorem W_tip902 (a : State) (t : Nat) : (W a t).tip902 = a.tip902 := rfl
@[simp] theorem W_tip906 (a : State) (t : Nat) : (W a t).tip906 = a.tip906 := rfl
@[simp] theorem W_tip908 (a : State) (t : Nat) : (W a t).tip908 = a.tip908 := rfl
@[simp] theorem W_tip909 (a : State) (t : Nat) : (W a t).tip909 = a.tip909 := rfl
@[simp] theorem W_tip909a (a : State) (t : Nat) : (W a t).tip909a = a.tip909a := rfl
@[simp] theorem W_legacyDeposit (a : State) (t : Nat) : legacyDeposit (W a t) = legacyDeposit a := rfl
@[simp] theorem W_W (a : State) (t u : Nat) : W (W a t) u = W a u := rfl
@[simp] theorem W_self (a : State) : W a a.tips = a := rfl

theorem eqUpToTips_W (a : State) (t : Nat) : EqUpToTips a (W a t) :=
  ⟨rfl, rfl, rfl, rfl, rfl, rfl, rfl, rfl, rfl, rfl⟩

theorem eqUpToTips_form {a b : State} (e : EqUpToTips a b) : b = W a b.tips :=
  BlockHistL.state_ext e.network.symm e.height.symm e.history.symm (congrArg CoinMap.coins e.coins.symm)
    (congrArg CoinMap.counts e.coins.symm) e.txs.symm e.feePool.symm e.feeMultiplier.symm rfl e.doscSpeed.symm
    e.pools.symm e.stakes.symm

theorem eqUpToTips_iff {a b : State} : EqUpToTips a b ↔ b = W a b.tips :=
  ⟨eqUpToTips_form, fun h => h ▸ eqUpToTips_W a b.tips⟩

theorem _root_.Mel.EqUpToTips.refl (a : State) : EqUpToTips a a := eqUpToTips_W a a.tips

theorem _root_.Mel.EqUpToTips.symm {a b : State} (e : EqUpToTips a b) : EqUpToTips b a := by
  rw [eqUpToTips_form e]; exact eqUpToTips_W (W a b.tips) a.tips

theorem _root_.Mel.EqUpToTips.trans {a b c : State} (e1 : EqUpToTips a b) (e2 : EqUpToTips b c) : EqUpToTips a c := by
  rw [eqUpToTips_form e2, eqUpToTips_form e1]; exact eqUpToTips_W a c.tips

def mapW (t : Nat) (o : Outcome State) : Outcome State := o.bind fun x => .ok (W x t)

@[simp] theorem mapW_ok (t : Nat) (x : State) : mapW t (.ok x) = .ok (W x t) := rfl
@[simp] theorem mapW_reject (t : Nat) (e : StateError) : mapW t (.reject e) = .reject e := rfl
@[simp] theorem mapW_crash (t : Nat) (c : String) : mapW t (.crash c) = .crash c := rfl

theorem ok_bind' {α β} (a : α) (f : α → Outcome β) : (Outcome.ok a).bind f = f a := Outcome.bind_ok a f

theorem isSwapRequest_W (s : State) (t : Nat) : isSwapRequest (W s t) = isSwapRequest s := rfl
theorem isDepositRequest_W (s : State) (t : Nat) : isDepositRequest (W s t) = isDepositRequest s := rfl
theorem isWithdrawRequest_W (env : Env) (s : State) (t : Nat) :
    isWithdrawRequest env (W s t) = isWithdrawRequest env s := rfl

theorem sealPre_W {env : Env} {s p : State} (t : Nat) (h : sealPre env s = .ok p) :
    sealPre env (W s t) = .ok (W p t) := by
  obtain ⟨q, hq, hr⟩ :=
    SealCongL.sealPre_sim SealCongL.coinSim_eq (x := s) (y := W s t) ⟨rfl, rfl, rfl, rfl, rfl, rfl⟩ h
  have f := sealPre_frame h
  have g := sealPre_frame hq
  have e : EqUpToTips p q :=
    ⟨hr.network.symm, hr.height.symm, f.history.trans g.history.symm, hr.coins, hr.txs.symm, hr.feePool.symm,
      f.feeMultiplier.trans g.feeMultiplier.symm, f.doscSpeed.trans g.doscSpeed.symm, hr.pools.symm,
      f.stakes.trans g.stakes.symm⟩
  rw [hq, eqUpToTips_form e, g.tips]
  rfl

theorem sealState_none_W {env : Env} {s : State} {ss : Sealed} (t : Nat) (h : sealState env s none = .ok ss) :
    sealState env (W s t) none = .ok { st := W ss.st t, action := none } := by
  obtain ⟨p, hp, _, e⟩ := sealState_eq_ok_iff.mp h
  exact sealState_eq_ok_iff.mpr ⟨W p t, sealPre_W t hp, rfl, congrArg (W · t) e⟩

theorem headerOf_W (env : Env) (x : State) (t : Nat) (a a' : Option ProposerAction) :
    headerOf env { st := W x t, action := a } = headerOf env { st := x, action := a' } := rfl

/-- the state after the proposer action: the fee multiplier moved, a 65536th of the fee pool and all tips paid out
    into the reward coin of value `v` -/
def payout (env : Env) (p : State) (a : ProposerAction) (v : Nat) : State :=
  { p with feeMultiplier := moveFeeMultiplier p.feeMultiplier a.feeMultiplierDelta p.tip901,
           feePool := p.feePool - p.feePool / 2 ^ REWARD_SHIFT, tips := 0,
           coins := p.coins.insertCoin { txhash := env.rewardId p.height, index := 0 }
             { coinData := { covhash := a.rewardDest, value := v, denom := .mel, additionalData := [] },
               height := p.height } p.tip906 }

theorem payout_W (env : Env) (p : State) (t : Nat) (a : ProposerAction) (v : Nat) :
    payout env (W p t) a v = payout env p a v := rfl

theorem sealState_some_ok {env : Env} {s : State} {a : ProposerAction} {ss : Sealed} :
    sealState env s (some a) = .ok ss ↔
      ∃ p, sealPre env s = .ok p ∧ p.feePool / 2 ^ REWARD_SHIFT + s.tips ≤ U128_MAX ∧
        ss = { st := payout env p a (p.feePool / 2 ^ REWARD_SHIFT + s.tips), action := some a } := by
  rw [sealState_eq_ok_iff]
  refine exists_congr fun p => and_congr_right fun hp => ?_
  show _ ∧ applyProposerAction env p a = .ok ss.st ↔ _
  rw [applyProposerAction_eq_ok_iff, (sealPre_frame hp).tips]
  obtain ⟨st, act⟩ := ss
  constructor
  · rintro ⟨rfl, hle, rfl⟩; exact ⟨hle, rfl⟩
  · rintro ⟨hle, h⟩; cases h; exact ⟨rfl, hle, rfl⟩

theorem payout_getCoin_self (env : Env) (p : State) (a : ProposerAction) (v : Nat) :
    (payout env p a v).coins.getCoin { txhash := env.rewardId p.height, index := 0 } =
      some { coinData := { covhash := a.rewardDest, value := v, denom := .mel, additionalData := [] },
             height := p.height } := by
  show (CoinMap.insertCoin _ _ _ _).getCoin _ = _
  rw [CoinMap.getCoin_insertCoin, if_pos rfl]

theorem payout_getCoin_ne (env : Env) (p : State) (a : ProposerAction) (v : Nat) {id : CoinID}
    (h : id ≠ { txhash := env.rewardId p.height, index := 0 }) :
    (payout env p a v).coins.getCoin id = p.coins.getCoin id := by
  show (CoinMap.insertCoin _ _ _ _).getCoin _ = _
  rw [CoinMap.getCoin_insertCoin, if_neg h]

theorem payout_counts (env : Env) (p : State) (a : ProposerAction) (v w : Nat) :
    (payout env p a v).coins.counts = (payout env p a w).coins.counts := by
  show (CoinMap.insertCoin _ _ _ _).counts = (CoinMap.insertCoin _ _ _ _).counts
  unfold CoinMap.insertCoin
  dsimp only
  split <;> rfl

/-- what a transaction adds to the tips at fee multiplier `m`: its fee above the minimum fee -/
def tipIncr (m : Nat) (tx : Tx) : Nat :=
  match tx.baseFee m with
  | .ok f => tx.fee - f
  | _ => 0

/-- the tips after a batch, starting from `t`: the increments are added one by one, saturating at u128::MAX -/
def tipsAfter (t m : Nat) (txs : List Tx) : Nat := (txs.map (tipIncr m)).foldl satAdd128 t

theorem handleFaucetTx_W (env : Env) (x : State) (tx : Tx) (t : Nat) :
    handleFaucetTx env (W x t) tx = mapW t (handleFaucetTx env x tx) := by
  unfold handleFaucetTx
  rw [apply_ite (mapW t), apply_ite (mapW t), apply_ite (mapW t)]
  rfl

theorem faucetStep_W (env : Env) (x : State) (tx : Tx) (t : Nat) :
    faucetStep env (W x t) tx = mapW t (faucetStep env x tx) := by
  unfold faucetStep
  rw [apply_ite (mapW t), handleFaucetTx_W]
  rfl

theorem nextStep_W (env : Env) (b : Bool) (x : State) (tx : Tx) (t : Nat) :
    nextStep env b (W x t) tx =
      (nextStep env b x tx).bind fun x' => .ok (W x' (satAdd128 t (tipIncr x.feeMultiplier tx))) := by
  unfold nextStep
  by_cases hdup : (x.txs.any fun u => decide (u.hash = tx.hash)) = true
  · rw [W_txs, if_pos hdup, if_pos hdup]
    rfl
  rw [W_txs, if_neg hdup, if_neg hdup]
  show (faucetStep env (W x t) tx).bind _ = ((faucetStep env x tx).bind _).bind _
  rw [faucetStep_W]
  cases h1 : faucetStep env x tx with
  | reject e => rfl
  | crash c => rfl
  | ok x1 =>
    -- the faucet step changes the coins only, so the minimum fee is still taken at `x.feeMultiplier`
    obtain ⟨-, rfl⟩ := faucetStep_iff.mp h1
    show (removeFold b (faucetCoins env x tx) tx.inputs).bind _ = ((removeFold b (faucetCoins env x tx) tx.inputs).bind _).bind _
    cases removeFold b (faucetCoins env x tx) tx.inputs with
    | reject e => rfl
    | crash c => rfl
    | ok coins2 =>
      show (tx.baseFee x.feeMultiplier).bind _ = ((tx.baseFee x.feeMultiplier).bind _).bind _
      unfold tipIncr
      cases tx.baseFee x.feeMultiplier with
      | reject e => rfl
      | crash c => rfl
      | ok minFee =>
        show ite _ _ _ = Outcome.bind (ite _ _ _) _
        by_cases hlt : tx.fee < minFee
        · rw [if_pos hlt, if_pos hlt]; rfl
        · rw [if_neg hlt, if_neg hlt]; rfl

theorem nextStep_fm {env : Env} {b : Bool} {x x' : State} {tx : Tx} (h : nextStep env b x tx = .ok x') :
    x'.feeMultiplier = x.feeMultiplier := by
  obtain ⟨-, -, coins2, mf, -, -, -, rfl⟩ := nextStep_iff.mp h
  rfl

theorem nextFold_W (env : Env) (b : Bool) :
    ∀ (l : List Tx) (x : State) (t : Nat),
      Outcome.foldlM' (nextStep env b) (W x t) l =
        (Outcome.foldlM' (nextStep env b) x l).bind fun n => .ok (W n (tipsAfter t x.feeMultiplier l)) := by
  intro l
  induction l with
  | nil => intro x t; rfl
  | cons tx rest ih =>
    intro x t
    rw [Outcome.foldlM'_cons, Outcome.foldlM'_cons, nextStep_W]
    cases h : nextStep env b x tx with
    | reject e => rfl
    | crash c => rfl
    | ok x' =>
      dsimp only [Outcome.bind]
      rw [ih x' _, nextStep_fm h]
      rfl

theorem createNextState_W (env : Env) (s : State) (txs : List Tx) (rel : Relevant) (b : Bool) (t : Nat) :
    createNextState env (W s t) txs rel b =
      (createNextState env s txs rel b).bind fun n => .ok (W n (tipsAfter t s.feeMultiplier txs)) := by
  rw [createNextState_eq, createNextState_eq]
  exact nextFold_W env b txs { s with coins := (outputIds txs).foldl (insStep rel b) s.coins } t

/-- the checks of `apply_tx_batch_impl` that come before `create_next_state`; none of them looks at the tips -/
def batchPre (env : Env) (s : State) (txs : List Tx) (fb : Header) :
    Outcome (Relevant × AList Hash StakeDoc × Nat) :=
  (loadRelevantCoins s txs).bind fun rel =>
  (loadStakeInfo s txs).bind fun newStakes =>
  (Outcome.forM' (fun tx => checkTxValidity env s (lastHeaderOf s fb) tx rel newStakes) txs).bind fun _ =>
  (Outcome.foldlM' (fun (speed : Nat) (tx : Tx) =>
      if tx.kind = .doscMint then (validateDoscmint env s rel tx).bind fun sp => .ok (max speed sp)
      else .ok speed) s.doscSpeed txs).bind fun newSpeed => .ok (rel, newStakes, newSpeed)

theorem applyBatch_eq (env : Env) (s : State) (txs : List Tx) (fb : Header) :
    applyBatch env s txs fb = (batchPre env s txs fb).bind fun r =>
      (createNextState env s txs r.1 s.tip906).bind fun next => .ok (finishBatch next r.2.2 r.2.1) := by
  unfold applyBatch batchPre
  simp only [Outcome.bind_assoc, Outcome.bind_ok]
  rfl

theorem batchPre_W (env : Env) (s : State) (txs : List Tx) (fb : Header) (t : Nat) :
    batchPre env (W s t) txs fb = batchPre env s txs fb := rfl

theorem applyBatch_W (env : Env) (s : State) (txs : List Tx) (fb : Header) (t : Nat) :
    applyBatch env (W s t) txs fb =
      (applyBatch env s txs fb).bind fun s' => .ok (W s' (tipsAfter t s.feeMultiplier txs)) := by
  rw [applyBatch_eq, applyBatch_eq, batchPre_W, Outcome.bind_assoc]
  congr 1
  funext r
  rw [W_tip906, createNextState_W, Outcome.bind_assoc, Outcome.bind_assoc]
  rfl

theorem applyBatch_tips {env : Env} {s s' : State} {txs : List Tx} {fb : Header}
    (h : applyBatch env s txs fb = .ok s') : s'.tips = tipsAfter s.tips s.feeMultiplier txs := by
  have := applyBatch_W env s txs fb s.tips
  rw [W_self, h] at this
  exact congrArg State.tips (Outcome.ok.inj this)

theorem tipsAfter_diff (t₁ t₂ m : Nat) (txs : List Tx) (h1 : tipsAfter t₁ m txs < U128_MAX)
    (h2 : tipsAfter t₂ m txs < U128_MAX) : tipsAfter t₁ m txs + t₂ = tipsAfter t₂ m txs + t₁ := by
  unfold tipsAfter at *
  rw [foldl_satAdd128_lt _ _ h1, foldl_satAdd128_lt _ _ h2]
  omega

theorem tipsAfter_mono (t₁ t₂ m : Nat) (txs : List Tx) (h : t₁ ≤ t₂) : tipsAfter t₁ m txs ≤ tipsAfter t₂ m txs :=
  foldl_satAdd128_mono _ _ _ h

theorem nextUnsealed_W (env : Env) (x : State) (t : Nat) (a a' : Option ProposerAction) :
    nextUnsealed env { st := W x t, action := a } = mapW t (nextUnsealed env { st := x, action := a' }) := by
  unfold nextUnsealed
  rw [headerOf_W env x t a a']
  cases headerOf env { st := x, action := a' } with
  | reject e => rfl
  | crash c => rfl
  | ok hdr =>
    dsimp only [Outcome.bind]
    rw [apply_ite (mapW t)]
    rfl

theorem sealState_some_W {env : Env} {s : State} {a : ProposerAction} {ss : Sealed}
    (h : sealState env s (some a) = .ok ss) :
    ∃ p, p.height = s.height ∧ p.feePool / 2 ^ REWARD_SHIFT + s.tips ≤ U128_MAX ∧
      ss = { st := payout env p a (p.feePool / 2 ^ REWARD_SHIFT + s.tips), action := some a } ∧
      ∀ t, p.feePool / 2 ^ REWARD_SHIFT + t ≤ U128_MAX →
        sealState env (W s t) (some a) =
          .ok { st := payout env p a (p.feePool / 2 ^ REWARD_SHIFT + t), action := some a } := by
  obtain ⟨p, hp, hle, rfl⟩ := sealState_some_ok.mp h
  have hh : p.height = s.height := (sealState_hhn env s (some a) _ h).2.1
  refine ⟨p, hh, hle, rfl, fun t ht => ?_⟩
  rw [sealState_some_ok]
  refine ⟨W p t, ?_, ht, ?_⟩
  · exact sealPre_W t hp
  · rfl

theorem foldl_insertTx_sorted : ∀ (txs acc : List Tx), TxsSorted acc → TxsSorted (txs.foldl State.insertTx acc)
  | [], _, h => h
  | tx :: rest, acc, h => foldl_insertTx_sorted rest _ (C08_insert_sorted acc tx h)

/-- the block's transactions are sorted and the history holds exactly the headers of the earlier blocks; kept along any
    run of the chain, with no freshness assumption (`runInv_run`) -/
structure RunInv (s : State) : Prop where
  sorted : TxsSorted s.txs
  below : ∀ h x, s.history.get h = some x → h < s.height
  full : ∀ h, h < s.height → ∃ x, s.history.get h = some x
  heights : ∀ h x, s.history.get h = some x → x.height = h

theorem runInv_genesis (cfg : GenesisConfig) : RunInv (genesisState cfg) where
  sorted := trivial
  below := fun h x hg => by simp [genesisState, AList.get] at hg
  full := fun h hlt => by simp [genesisState] at hlt
  heights := fun h x hg => by simp [genesisState, AList.get] at hg

theorem runInv_batch {env : Env} {s s' : State} {txs : List Tx} {fb : Header} (hi : RunInv s)
    (hb : applyBatch env s txs fb = .ok s') : RunInv s' := by
  obtain ⟨e1, e2, -⟩ := applyBatch_hhn _ _ _ _ _ hb
  refine ⟨?_, ?_, ?_, ?_⟩
  · rw [(applyBatch_frame hb).txsEq]; exact foldl_insertTx_sorted _ _ hi.sorted
  · rw [e1, e2]; exact hi.below
  · rw [e1, e2]; exact hi.full
  · rw [e1]; exact hi.heights

theorem runInv_seal {env : Env} {s : State} {a : Option ProposerAction} {ss : Sealed} (hi : RunInv s)
    (hs : sealState env s a = .ok ss) : RunInv ss.st := by
  obtain ⟨e1, e2, -⟩ := sealState_hhn _ _ _ _ hs
  refine ⟨?_, ?_, ?_, ?_⟩
  · rw [(sealState_keeps hs).txs]; exact hi.sorted
  · rw [e1, e2]; exact hi.below
  · rw [e1, e2]; exact hi.full
  · rw [e1]; exact hi.heights

theorem runInv_next {env : Env} {ss : Sealed} {s' : State} (hi : RunInv ss.st)
    (hn : nextUnsealed env ss = .ok s') : RunInv s' := by
  obtain ⟨hdr, hh, f1, f2, -⟩ := nextUnsealed_ok _ _ _ hn
  obtain ⟨p, -, hhdr⟩ := headerOf_ok _ _ hdr hh
  have hdrh : hdr.height = ss.st.height := by rw [hhdr]
  obtain ⟨g1, g2, g3, -⟩ := ReachL.history_next (P := fun _ => True) hi.below hi.full hi.heights
    (fun _ _ _ => trivial) hdrh trivial
  refine ⟨?_, ?_, ?_, ?_⟩
  · rw [nextUnsealed_txs hn]; trivial
  · rw [f1, f2]; exact g1
  · rw [f1, f2]; exact g2
  · rw [f1]; exact g3

theorem runInv_run {env : Env} {s s' : State} (hrun : ChainRun env s s') (hi : RunInv s) : RunInv s' :=
  hrun.invariant runInv_batch (fun ih hs hn => runInv_next (runInv_seal ih hs) hn) hi

theorem toBlock_total {env : Env} {s : State} {a : Option ProposerAction} {ss : Sealed} (hi : RunInv s)
    (hs : sealState env s a = .ok ss) : TxsSorted ss.st.txs ∧ ∃ blk, toBlock env ss = .ok blk := by
  have hi' := runInv_seal hi hs
  obtain ⟨hdr, hh⟩ := headerOf_total env ss (fun h0 => hi'.full _ (Nat.sub_one_lt h0))
  refine ⟨hi'.sorted, ⟨{ header := hdr, transactions := ss.st.txs, action := ss.action }, ?_⟩⟩
  unfold toBlock
  rw [hh]
  rfl

end RestartL
end Mel

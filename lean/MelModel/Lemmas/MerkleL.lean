/- the sparse Merkle tree (MelModel/Merkle.lean): zero rules, a tree seen level by level (`child`), the verifier's
   fold, and injectivity of the two hash functions lifted over the zero rules; used by MelModel/Props/C07.lean.
   The dense tree is in MelModel/Lemmas/DenseL.lean. -/
import MelModel.Merkle
namespace Mel.Merkle

@[simp] theorem hashData_nil (H : Hashers) : hashData H [] = Z := by simp [hashData]
@[simp] theorem hashNode_ZZ (H : Hashers) : hashNode H Z Z = Z := by simp [hashNode]

theorem rootOf_empty (H : Hashers) (n : Nat) : rootOf H n (fun _ => []) = Z := by
  induction n with
  | zero => simp [rootOf]
  | succ n ih => simp [rootOf, ih]

theorem rootOf_congr (H : Hashers) (n : Nat) (c₁ c₂ : List Bool → Bytes)
    (hc : ∀ k, k.length = n → c₁ k = c₂ k) : rootOf H n c₁ = rootOf H n c₂ := by
  induction n generalizing c₁ c₂ with
  | zero => simp [rootOf, hc [] rfl]
  | succ n ih =>
    simp only [rootOf]
    rw [ih (fun k => c₁ (false :: k)) (fun k => c₂ (false :: k)) (fun k hk => hc _ (by simp [hk])),
      ih (fun k => c₁ (true :: k)) (fun k => c₂ (true :: k)) (fun k hk => hc _ (by simp [hk]))]

@[simp] theorem Tree.get_empty (k : List Bool) : Tree.empty.get k = [] := by
  cases k <;> rfl

/-- the fold performed by `verify` -/
def vfold (H : Hashers) (proof : List Hash) (key : List Bool) (v : Bytes) : Hash :=
  (List.zip proof key).foldr (fun e acc => if e.2 then hashNode H e.1 acc else hashNode H acc e.1) (hashData H v)

theorem verify_eq (H : Hashers) (root : Hash) (key : List Bool) (v : Bytes) (proof : List Hash) :
    verify H root key v proof = (root == vfold H proof key v) := rfl

theorem verify_iff (H : Hashers) (root : Hash) (key : List Bool) (v : Bytes) (proof : List Hash) :
    verify H root key v proof = true ↔ root = vfold H proof key v := by
  rw [verify_eq]; exact beq_iff_eq

@[simp] theorem vfold_nil (H : Hashers) (v : Bytes) : vfold H [] [] v = hashData H v := rfl

@[simp] theorem vfold_cons (H : Hashers) (s : Hash) (p : List Hash) (b : Bool) (k : List Bool) (v : Bytes) :
    vfold H (s :: p) (b :: k) v = if b then hashNode H s (vfold H p k v) else hashNode H (vfold H p k v) s := rfl

/-- left / right subtree, viewing `.empty` as a node of two empties -/
def Tree.left : Tree → Tree
  | .node l _ => l
  | _ => .empty
def Tree.right : Tree → Tree
  | .node _ r => r
  | _ => .empty
def Tree.child (t : Tree) (b : Bool) : Tree := if b then t.right else t.left

namespace Tree

theorem child_wf (n : Nat) (t : Tree) (b : Bool) (h : t.WF (n + 1)) : (t.child b).WF n := by
  cases t with
  | empty => cases b <;> simp [child, left, right, WF]
  | leaf _ => simp [WF] at h
  | node l r => simp only [WF] at h; cases b <;> simp [child, left, right, h.1, h.2]

theorem hash_succ (H : Hashers) (n : Nat) (t : Tree) (h : t.WF (n + 1)) :
    t.hash H = hashNode H (t.left.hash H) (t.right.hash H) := by
  cases t with
  | empty => simp [left, right, hash]
  | leaf _ => simp [WF] at h
  | node l r => simp [left, right, hash]

theorem get_cons (n : Nat) (t : Tree) (b : Bool) (k : List Bool) (h : t.WF (n + 1)) :
    t.get (b :: k) = (t.child b).get k := by
  cases t with
  | empty => cases b <;> simp [child, left, right]
  | leaf _ => simp [WF] at h
  | node l r => cases b <;> simp [child, left, right, get]

theorem prove_cons (H : Hashers) (n : Nat) (t : Tree) (b : Bool) (k : List Bool) (h : t.WF (n + 1)) :
    t.prove H (b :: k) = (t.child (!b)).hash H :: (t.child b).prove H k := by
  cases t with
  | empty => cases b <;> simp [child, left, right, prove, hash]
  | leaf _ => simp [WF] at h
  | node l r => cases b <;> simp [child, left, right, prove]

theorem insert_nil (t : Tree) (v : Bytes) : t.insert [] v = if v = [] then .empty else .leaf v := by
  cases t <;> rfl

theorem insert_cons (n : Nat) (t : Tree) (b : Bool) (k : List Bool) (v : Bytes) (h : t.WF (n + 1)) :
    t.insert (b :: k) v = if b then .node t.left (t.right.insert k v) else .node (t.left.insert k v) t.right := by
  cases t with
  | empty => cases b <;> rfl
  | leaf _ => simp [WF] at h
  | node l r => cases b <;> rfl

theorem prove_length (H : Hashers) (t : Tree) (k : List Bool) : (t.prove H k).length = k.length := by
  induction k generalizing t with
  | nil => simp [prove]
  | cons b k ih => cases t <;> cases b <;> simp [prove, ih]

end Tree

end Mel.Merkle

namespace Mel
open Mel.Merkle

/-- the hash functions are injective away from the two zero rules -/
structure Injective (H : Hashers) : Prop where
  data_inj : ∀ a b, a ≠ [] → b ≠ [] → H.hData a = H.hData b → a = b
  data_nz : ∀ a, a ≠ [] → H.hData a ≠ Z
  node_inj : ∀ l r l' r', ¬(l = Z ∧ r = Z) → ¬(l' = Z ∧ r' = Z) → H.hNode l r = H.hNode l' r' → l = l' ∧ r = r'
  node_nz : ∀ l r, ¬(l = Z ∧ r = Z) → H.hNode l r ≠ Z

end Mel

namespace Mel.Merkle

theorem hashData_inj (H : Hashers) (hi : Injective H) (a b : Bytes) (h : hashData H a = hashData H b) : a = b := by
  unfold hashData at h
  by_cases ha : a = [] <;> by_cases hb : b = []
  · rw [ha, hb]
  · simp only [ha, hb, if_true, if_false] at h; exact absurd h.symm (hi.data_nz b hb)
  · simp only [ha, hb, if_true, if_false] at h; exact absurd h (hi.data_nz a ha)
  · simp only [ha, hb, if_false] at h; exact hi.data_inj a b ha hb h

theorem hashNode_inj (H : Hashers) (hi : Injective H) (l r l' r' : Hash) (h : hashNode H l r = hashNode H l' r') :
    l = l' ∧ r = r' := by
  unfold hashNode at h
  by_cases ha : (l = Z ∧ r = Z) <;> by_cases hb : (l' = Z ∧ r' = Z)
  · exact ⟨ha.1.trans hb.1.symm, ha.2.trans hb.2.symm⟩
  · rw [if_pos ha, if_neg hb] at h; exact absurd h.symm (hi.node_nz l' r' hb)
  · rw [if_neg ha, if_pos hb] at h; exact absurd h (hi.node_nz l r ha)
  · rw [if_neg ha, if_neg hb] at h; exact hi.node_inj l r l' r' ha hb h

theorem hashData_ne_Z (H : Hashers) (hi : Injective H) (b : Bytes) (hb : b ≠ []) : hashData H b ≠ Z := by
  unfold hashData
  rw [if_neg hb]
  exact hi.data_nz b hb

end Mel.Merkle

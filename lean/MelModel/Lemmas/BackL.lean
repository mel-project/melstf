/-
  Settlement, step by step, for an arbitrary denomination together with the liquidity a pool records (`Step`): what
  C01 (conservation) and C16 (liquidity tokens are backed) both rest on; and how the other steps of sealing treat
  recorded liquidity.
-/
import MelModel.Seal
import MelModel.SupplyDefs
import MelModel.Lemmas.Supply
import MelModel.Lemmas.SupplySeal
import MelModel.Lemmas.Pools
namespace Mel
namespace BackL
open Mel.Gen Mel.BatchL Mel.SupplySealL Mel.SettleBlockL

def liqsAt (pools : AList PoolKey PoolState) (k : PoolKey) : Nat := ((pools.get k).map (·.liqs)).getD 0

theorem liqsAt_some {pools : AList PoolKey PoolState} {k : PoolKey} {p : PoolState} (h : pools.get k = some p) :
    liqsAt pools k = p.liqs := by simp [liqsAt, h]

theorem liqsAt_none {pools : AList PoolKey PoolState} {k : PoolKey} (h : pools.get k = none) :
    liqsAt pools k = 0 := by simp [liqsAt, h]

theorem liqsAt_set_self (pools : AList PoolKey PoolState) (k : PoolKey) (p : PoolState) :
    liqsAt (pools.set k p) k = p.liqs := liqsAt_some (AList.get_set_self _ _ _)

theorem liqsAt_set_ne (pools : AList PoolKey PoolState) {k k' : PoolKey} (p : PoolState) (h : k ≠ k') :
    liqsAt (pools.set k' p) k = liqsAt pools k := by
  unfold liqsAt
  rw [AList.get_set_ne _ _ h]

theorem supply_custom (s : State) (h : Hash) :
    supply s (.custom h) = coinsTotal s.coins (.custom h) + poolsTotal s.pools (.custom h) := by
  simp [supply]

theorem supply_liq (env : Env) (s : State) (k : PoolKey) :
    supply s (liqTokenDenom env k) = cp s (liqTokenDenom env k) := supply_custom s _

theorem applyBatch_pools {env : Env} {s s' : State} {txs : List Tx} {fb : Header}
    (h : applyBatch env s txs fb = .ok s') : s'.pools = s.pools :=
  (applyBatch_frame h).pools

theorem pc_builtin (h : Hash) (k : PoolKey) (hk : k ∈ [poolMelSym, poolMelErg, poolErgSym]) (p : PoolState) :
    pc (.custom h) (k, p) = 0 := by
  simp only [List.mem_cons, List.not_mem_nil, or_false] at hk
  rcases hk with rfl | rfl | rfl
  · simp [pc, poolMelSym_eq]
  · simp [pc, poolMelErg_eq]
  · simp [pc, poolErgSym_eq]

theorem poolsTotal_set_zero {pools : AList PoolKey PoolState} (hn : (pools.map (·.1)).Nodup) (d : Denom)
    (k : PoolKey) (p : PoolState) (hz : ∀ q, pc d (k, q) = 0) :
    poolsTotal (pools.set k p) d = poolsTotal pools d := by
  have h1 := poolsTotal_set hn d k p
  have h2 : AList.at? pools (pc d) k = 0 := by
    unfold AList.at?
    cases pools.get k with
    | none => rfl
    | some q => exact hz q
  rw [h2, hz p] at h1
  omega

theorem fixBuiltin_back {pools : AList PoolKey PoolState} (hn : (pools.map (·.1)).Nodup) (k : PoolKey) (d : Denom)
    (hz : ∀ q, pc d (k, q) = 0) :
    poolsTotal (fixBuiltin pools k) d = poolsTotal pools d ∧
    ∀ k0, liqsAt pools k0 ≤ liqsAt (fixBuiltin pools k) k0 := by
  unfold fixBuiltin
  split
  · next hc =>
    refine ⟨poolsTotal_set_zero hn d k _ hz, fun k0 => ?_⟩
    by_cases e : k0 = k
    · rw [e, liqsAt, builtinMissing_true hc]
      exact Nat.zero_le _
    · rw [liqsAt_set_ne _ _ e]
      exact Nat.le_refl _
  · exact ⟨rfl, fun _ => Nat.le_refl _⟩

theorem createBuiltins_back (s : State) (h : Hash) (hk : (s.pools.map (·.1)).Nodup) :
    ((createBuiltins s).pools.map (·.1)).Nodup ∧
    poolsTotal (createBuiltins s).pools (.custom h) = poolsTotal s.pools (.custom h) ∧
    ∀ k0, liqsAt s.pools k0 ≤ liqsAt (createBuiltins s).pools k0 := by
  refine ⟨createBuiltins_keys_nodup s hk, ?_⟩
  have n1 := fixBuiltin_keys_nodup poolMelSym hk
  have n2 := fixBuiltin_keys_nodup poolMelErg n1
  obtain ⟨t1, l1⟩ := fixBuiltin_back hk poolMelSym _ (pc_builtin h _ (by simp))
  obtain ⟨t2, l2⟩ := fixBuiltin_back n1 poolMelErg _ (pc_builtin h _ (by simp))
  obtain ⟨t3, l3⟩ := fixBuiltin_back n2 poolErgSym _ (pc_builtin h _ (by simp))
  rw [createBuiltins_pools]
  split
  · exact ⟨t3.trans (t2.trans t1), fun k0 => Nat.le_trans (l1 k0) (Nat.le_trans (l2 k0) (l3 k0))⟩
  · exact ⟨t2.trans t1, fun k0 => Nat.le_trans (l1 k0) (l2 k0)⟩

theorem swapMany_liqs {p p' : PoolState} {l r lw rw : Nat} (h : p.swapMany l r = .ok (p', lw, rw)) :
    p'.liqs = p.liqs := by
  obtain ⟨_, _, _, _, _, e⟩ := PoolState.swapMany_eq_ok_iff.mp h
  rw [(Prod.mk.inj e).1]
  exact PoolState.swapped_liqs p l r

theorem liqsAt_set_same {pools : AList PoolKey PoolState} {k' : PoolKey} {p p' : PoolState}
    (hg : pools.get k' = some p) (hl : p'.liqs = p.liqs) (k : PoolKey) :
    liqsAt (pools.set k' p') k = liqsAt pools k := by
  by_cases e : k = k'
  · subst e; rw [liqsAt_set_self, liqsAt_some hg, hl]
  · exact liqsAt_set_ne _ _ e

structure LiqNeutral (h : Hash) (s s' : State) : Prop where
  coins : s'.coins = s.coins
  poolKeys : (s'.pools.map (·.1)).Nodup
  total : poolsTotal s'.pools (.custom h) = poolsTotal s.pools (.custom h)
  liqs : ∀ k, liqsAt s'.pools k = liqsAt s.pools k

theorem LiqNeutral.set {h : Hash} {s : State} {k : PoolKey} {p p' : PoolState}
    (hn : (s.pools.map (·.1)).Nodup) (hk : k ∈ [poolMelSym, poolMelErg, poolErgSym])
    (hg : s.pools.get k = some p) (hl : p'.liqs = p.liqs) : LiqNeutral h s { s with pools := s.pools.set k p' } :=
  ⟨rfl, pools_nodup_set hn _ _, poolsTotal_set_zero hn _ _ _ (pc_builtin h k hk), liqsAt_set_same hg hl⟩

theorem processPegging_back {s s' : State} (h : processPegging s = .ok s') (hk : (s.pools.map (·.1)).Nodup)
    (hh : Hash) : LiqNeutral hh s s' := by
  obtain ⟨sm, sm1, sm2, _, _, hg, _, _, h1, h2, rfl⟩ := processPegging_inv h
  refine .set hk (by simp) hg ?_
  have e1 : sm1.liqs = sm.liqs := by
    rcases pegStep1_inv h1 with rfl | ⟨_, _, hs⟩
    · rfl
    · exact swapMany_liqs hs
  rcases pegStep2_inv h2 with rfl | ⟨_, _, hs⟩
  · exact e1
  · exact (swapMany_liqs hs).trans e1

theorem applyTip909_back {s s' : State} (h : applyTip909 s = .ok s') (hk : (s.pools.map (·.1)).Nodup)
    (hh : Hash) : LiqNeutral hh s s' := by
  obtain ⟨sm, es, _, hsm, h1, _, hes, h2, rfl⟩ := applyTip909_inv h
  have n1 := LiqNeutral.set (h := hh) hk (k := poolMelSym) (by simp) hsm (swapMany_liqs h1)
  have n2 := LiqNeutral.set (h := hh) n1.poolKeys (k := poolErgSym) (by simp)
    ((AList.get_set_ne _ _ poolMelSym_ne_poolErgSym.symm).trans hes) (swapMany_liqs h2)
  exact ⟨rfl, n2.poolKeys, n2.total.trans n1.total, fun k => (n2.liqs k).trans (n1.liqs k)⟩

/-! ### arithmetic: the depositors' weights fit a u128 whenever the deposited amounts do -/

theorem two_mtsqrt_le (a b : Nat) : mtsqrt a b + mtsqrt a b ≤ a + b := by
  have h1 : mtsqrt a b ≤ Nat.sqrt a * Nat.sqrt b := by unfold mtsqrt satMul128; omega
  have h2 := two_mul_le_sq (Nat.sqrt a) (Nat.sqrt b)
  have h3 := Nat.sqrt_le a
  have h4 := Nat.sqrt_le b
  omega

/-- under the guard of `processDepositsForPool` (`pool.liqs + issued ≤ u128::MAX`) the saturating addition
    in `deposit` is exact: the record grows by precisely what is issued -/
theorem deposit_liqs {p p' : PoolState} {l r q : Nat} (h : p.deposit l r = .ok (p', q))
    (hfit : p.liqs + q ≤ U128_MAX) : p'.liqs = p.liqs + q := by
  rcases PoolState.deposit_eq_ok_iff.mp h with ⟨h0, e⟩ | ⟨_, _, e⟩ <;> cases e
  · show l = _; omega
  · exact satAdd128_of_le hfit

theorem withdraw_liqs {p p' : PoolState} {q tl tr : Nat} (h : p.withdraw q = .ok (p', tl, tr)) :
    p'.liqs + q = p.liqs := by
  obtain ⟨hq, _, ⟨e, e'⟩ | ⟨_, e'⟩⟩ := PoolState.withdraw_eq_ok_iff.mp h <;> cases e'
  · exact (Nat.zero_add q).trans e
  · exact Nat.sub_add_cancel hq

theorem liqsAt_getD (pools : AList PoolKey PoolState) (k : PoolKey) :
    liqsAt pools k = ((pools.get k).getD PoolState.newEmpty).liqs := by
  unfold liqsAt
  cases pools.get k <;> rfl

theorem swapRequest_backed {m : CoinMap} {st : State} {tx : Tx} (hf : FaithfulTx m tx)
    (hc : st.coins.getCoin ⟨tx.hash, 0⟩ = m.getCoin ⟨tx.hash, 0⟩) (h : isSwapRequest st tx = true) :
    tx.kind = .swap ∧ ∃ k o rest c, canonicalPoolKey tx.data = some k ∧ tx.outputs = o :: rest ∧
      m.getCoin ⟨tx.hash, 0⟩ = some c ∧ c.coinData.value = o.value ∧ c.coinData.denom = o.denom ∧
      (o.denom = k.left ∨ o.denom = k.right) := by
  obtain ⟨hk, o, rest, k, _, ho, hc0, _, hck, _, _, _, hside⟩ := isSwapRequest_iff.mp h
  obtain ⟨c, hc0⟩ := Option.isSome_iff_exists.mp hc0
  rw [outCoinID_eq, hc] at hc0
  obtain ⟨_, h2, h3⟩ := canonical_sides hck
  have hne : o.denom ≠ .newCustom := by
    rcases hside with e | e <;> rw [e] <;> assumption
  have := hf 0 o c (by rw [ho]; rfl) hc0
  rw [createdDenom_of_ne hne] at this
  exact ⟨hk, k, o, rest, c, hck, ho, hc0, this.1, this.2, hside⟩

theorem depositRequest_backed {m : CoinMap} {st : State} {tx : Tx} (hf : FaithfulTx m tx)
    (hc : ∀ i, st.coins.getCoin ⟨tx.hash, i⟩ = m.getCoin ⟨tx.hash, i⟩) (h : isDepositRequest st tx = true) :
    tx.kind = .liqDeposit ∧ ∃ k o0 o1 rest c0 c1, canonicalPoolKey tx.data = some k ∧
      tx.outputs = o0 :: o1 :: rest ∧
      m.getCoin ⟨tx.hash, 0⟩ = some c0 ∧ c0.coinData.value = o0.value ∧ c0.coinData.denom = k.left ∧
      m.getCoin ⟨tx.hash, 1⟩ = some c1 ∧ c1.coinData.value = o1.value ∧ c1.coinData.denom = k.right := by
  obtain ⟨hk, o0, o1, rest, k, ho, _, _, hc0, hc1, hck, hd0, hd1⟩ := isDepositRequest_iff.mp h
  obtain ⟨c0, hc0⟩ := Option.isSome_iff_exists.mp hc0
  obtain ⟨c1, hc1⟩ := Option.isSome_iff_exists.mp hc1
  rw [outCoinID_eq, hc] at hc0 hc1
  obtain ⟨_, h2, h3⟩ := canonical_sides hck
  have f0 := hf 0 o0 c0 (by rw [ho]; rfl) hc0
  have f1 := hf 1 o1 c1 (by rw [ho]; rfl) hc1
  rw [createdDenom_of_ne (by rw [hd0]; exact h2)] at f0
  rw [createdDenom_of_ne (by rw [hd1]; exact h3)] at f1
  exact ⟨hk, k, o0, o1, rest, c0, c1, hck, ho, hc0, f0.1, f0.2.trans hd0, hc1, f1.1, f1.2.trans hd1⟩

theorem withdrawRequest_backed {env : Env} {m : CoinMap} {st : State} {tx : Tx} (hf : FaithfulTx m tx)
    (hc : st.coins.getCoin ⟨tx.hash, 0⟩ = m.getCoin ⟨tx.hash, 0⟩) (h : isWithdrawRequest env st tx = true) :
    tx.kind = .liqWithdraw ∧ ∃ k o0 c0, canonicalPoolKey tx.data = some k ∧ tx.outputs = [o0] ∧
      m.getCoin ⟨tx.hash, 0⟩ = some c0 ∧ c0.coinData.value = o0.value ∧
      c0.coinData.denom = liqTokenDenom env k := by
  obtain ⟨hk, o0, k, ho, _, hc0, hck, _, hd0⟩ := isWithdrawRequest_iff.mp h
  obtain ⟨c0, hc0⟩ := Option.isSome_iff_exists.mp hc0
  rw [outCoinID_eq, hc] at hc0
  have f0 := hf 0 o0 c0 (by rw [ho]; rfl) hc0
  rw [createdDenom_of_ne (by rw [hd0]; intro e; cases e)] at f0
  exact ⟨hk, k, o0, c0, hck, ho, hc0, f0.1, f0.2.trans hd0⟩

/-- what exists of `d` in coins and reserves, less the liquidity pool `k` records when `d` is `k`'s token, has not
    grown. For a `d` that is no pool's token this says that `cp · d` has not grown (C01); for `k`'s token, that
    the tokens in existence grew by no more than the record (C16) -/
def Step (env : Env) (d : Denom) (k : PoolKey) (st st' : State) : Prop :=
  cp st' d + (if liqTokenDenom env k = d then liqsAt st.pools k else 0) ≤
    cp st d + (if liqTokenDenom env k = d then liqsAt st'.pools k else 0)

theorem Step.refl (env : Env) (d : Denom) (k : PoolKey) (st : State) : Step env d k st st := Nat.le_refl _

theorem Step.trans {env : Env} {d : Denom} {k : PoolKey} {a b c : State} (h1 : Step env d k a b)
    (h2 : Step env d k b c) : Step env d k a c := by
  unfold Step at *; omega

/-- one pool of one phase: `f` rewrites the coins of the requests one by one (request `tx` gives up `dec tx` of
    `d` and receives at most `inc tx`), then pool `k`, until now `po`, becomes `p'`. What the pool gains covers
    what the requests gave up, the record of `k` counted in (`h1`) or left aside (`h2`) -/
theorem step_of_fold (env : Env) (d : Denom) (k0 : PoolKey) {k : PoolKey} {st : State} {reqs : List Tx}
    {coins : CoinMap} {po p' : PoolState} {f : CoinMap → Tx → Outcome CoinMap} (dec inc : Tx → Nat)
    (hc : st.coins.Nodup) (hp : (st.pools.map (·.1)).Nodup) (hh : (reqs.map (·.hash)).Nodup)
    (hfold : Outcome.foldlM' f st.coins reqs = .ok coins)
    (hpo : (st.pools.get k).getD PoolState.newEmpty = po)
    (hf : ∀ c tx c', tx ∈ reqs → c.Nodup → (∀ i, c.getCoin ⟨tx.hash, i⟩ = st.coins.getCoin ⟨tx.hash, i⟩) →
      f c tx = .ok c' → c'.Nodup ∧ coinsTotal c' d + dec tx ≤ coinsTotal c d + inc tx ∧
        (∀ id : CoinID, id.txhash ≠ tx.hash → c'.getCoin id = c.getCoin id))
    (h1 : pc d (k, p') + (reqs.map inc).sum + (if liqTokenDenom env k = d then po.liqs else 0) ≤
      pc d (k, po) + (reqs.map dec).sum + (if liqTokenDenom env k = d then p'.liqs else 0))
    (h2 : k0 ≠ k → pc d (k, p') + (reqs.map inc).sum ≤ pc d (k, po) + (reqs.map dec).sum) :
    Good st { st with coins := coins, pools := st.pools.set k p' } ∧
      Step env d k0 st { st with coins := coins, pools := st.pools.set k p' } := by
  obtain ⟨hn', htot⟩ := coinFold f d dec inc st.coins reqs hf hh st.coins coins hc (fun _ _ _ => rfl) hfold
  refine ⟨⟨hn', pools_nodup_set hp _ _, rfl, rfl, rfl, rfl, rfl⟩, ?_⟩
  have hpt := poolsTotal_set hp d k p'
  rw [at?_getD_newEmpty, hpo] at hpt
  have hle : ∀ {q q' : Nat}, pc d (k, p') + (reqs.map inc).sum + q ≤ pc d (k, po) + (reqs.map dec).sum + q' →
      coinsTotal coins d + poolsTotal (st.pools.set k p') d + q ≤
        coinsTotal st.coins d + poolsTotal st.pools d + q' := by
    omega
  show _ + (if _ then liqsAt st.pools k0 else 0) ≤ _ + (if _ then liqsAt (st.pools.set k p') k0 else 0)
  by_cases e0 : k0 = k
  · subst e0
    rw [liqsAt_set_self, liqsAt_getD, hpo]
    exact hle h1
  · rw [liqsAt_set_ne _ _ e0]
    exact hle (Nat.add_le_add_right (h2 e0) _)

/-- the coin a swap request is rewritten to is worth at most the request's pro-rata share of what the pool pays
    out on the other side -/
theorem swapCoin_cval {k : PoolKey} {lw rw tl tr : Nat} {tx : Tx} {cd : CoinData}
    (h : swapCoin k lw rw tl tr tx = .ok cd) (hside : (out0 tx).denom = k.left ∨ (out0 tx).denom = k.right)
    (d : Denom) (ht : Nat) :
    cval d { coinData := cd, height := ht } ≤
      (if k.right = d then rw * (if (out0 tx).denom = k.left then (out0 tx).value else 0) / tl else 0) +
      (if k.left = d then lw * (if (out0 tx).denom = k.right then (out0 tx).value else 0) / tr else 0) := by
  unfold swapCoin at h
  split at h
  · next hl =>
    obtain ⟨v, hv, h⟩ := Outcome.bind_eq_ok.mp h
    cases h
    rw [if_pos hl]
    exact Nat.le_trans (ite_le_ite (Nat.le_trans (Nat.min_le_left _ _) (multiplyFrac_le hv))) (Nat.le_add_right _ _)
  · next hl =>
    obtain ⟨v, hv, h⟩ := Outcome.bind_eq_ok.mp h
    cases h
    rw [if_pos (hside.resolve_left hl)]
    exact Nat.le_trans (ite_le_ite (Nat.le_trans (Nat.min_le_left _ _) (multiplyFrac_le hv))) (Nat.le_add_left _ _)

theorem processSwapsForPool_step (env : Env) (d : Denom) (k0 : PoolKey) {k : PoolKey} {st st' : State}
    {reqs : List Tx} (h : processSwapsForPool k st reqs = .ok st')
    (hlr : k.left ≠ k.right) (hc : st.coins.Nodup) (hp : (st.pools.map (·.1)).Nodup)
    (hh : (reqs.map (·.hash)).Nodup)
    (hreq : ∀ tx ∈ reqs, ∃ c, st.coins.getCoin ⟨tx.hash, 0⟩ = some c ∧
      c.coinData.value = (out0 tx).value ∧ c.coinData.denom = (out0 tx).denom ∧
      ((out0 tx).denom = k.left ∨ (out0 tx).denom = k.right))
    (hbL : (reqs.map fun tx => if (out0 tx).denom = k.left then (out0 tx).value else 0).sum ≤ U128_MAX)
    (hbR : (reqs.map fun tx => if (out0 tx).denom = k.right then (out0 tx).value else 0).sum ≤ U128_MAX) :
    Good st st' ∧ Step env d k0 st st' := by
  obtain ⟨p, p', lw, rw, coins, hpool, hsm, hfold, rfl⟩ := processSwapsForPool_inv h
  rw [show swapTL k reqs = _ from satSum_eq_sum _ hbL, show swapTR k reqs = _ from satSum_eq_sum _ hbR] at hsm hfold
  generalize hlv : (fun tx : Tx => if (out0 tx).denom = k.left then (out0 tx).value else 0) = lv at *
  generalize hrv : (fun tx : Tx => if (out0 tx).denom = k.right then (out0 tx).value else 0) = rv at *
  have key : pc d (k, p') + (reqs.map fun tx => (if k.right = d then rw * lv tx / (reqs.map lv).sum else 0) +
      (if k.left = d then lw * rv tx / (reqs.map rv).sum else 0)).sum ≤ pc d (k, p) +
      (reqs.map fun tx => (if k.left = d then lv tx else 0) + (if k.right = d then rv tx else 0)).sum := by
    rw [sum_ite_add, sum_ite_add]
    have pL := ite_le_ite (P := k.left = d) (pro_rata_map_le lw rv reqs)
    have pR := ite_le_ite (P := k.right = d) (pro_rata_map_le rw lv reqs)
    obtain ⟨sl, sr⟩ := swapMany_le hsm
    have a1 := ite_le_ite (P := k.left = d) sl
    have a2 := ite_le_ite (P := k.right = d) sr
    rw [ite_add, ite_add] at a1 a2
    simp only [pc]
    omega
  refine step_of_fold env d k0 _ _ hc hp hh hfold (by rw [hpool]; rfl) ?_
    (by rw [swapMany_liqs hsm]; exact Nat.add_le_add_right key _) (fun _ => key)
  intro c tx c' htx hn hsame hf
  have hget := fun (id : CoinID) (hid : id.txhash ≠ tx.hash) => swapStep_writes c tx c' id hf (fun i _ => outCoinID_ne i hid.symm)
  obtain ⟨cd, hcd, hf⟩ := Outcome.bind_eq_ok.mp hf
  cases hf
  obtain ⟨c0, hc0, hv, hdn, hside⟩ := hreq tx htx
  refine ⟨CoinMap.Nodup_insertCoin hn _ _ _, ?_, hget⟩
  have ht := coinsTotal_insertCoin hn d (outCoinID tx 0) { coinData := cd, height := st.height } st.tip906
  have e0 : cval d c0 = if (out0 tx).denom = d then (out0 tx).value else 0 := by rw [cval, hdn, hv]
  rw [cwAt_some (id := outCoinID tx 0) ((hsame 0).trans hc0), e0] at ht
  have hnew := swapCoin_cval hcd hside d st.height
  have hsp := side_split (d := d) (δ := (out0 tx).denom) hlr (out0 tx).value
  have elv : lv tx = if (out0 tx).denom = k.left then (out0 tx).value else 0 := by rw [← hlv]
  have erv : rv tx = if (out0 tx).denom = k.right then (out0 tx).value else 0 := by rw [← hrv]
  rw [← elv, ← erv] at hnew hsp
  show coinsTotal _ d + ((if k.left = d then lv tx else 0) + (if k.right = d then rv tx else 0)) ≤
    coinsTotal c d + ((if k.right = d then rw * lv tx / (reqs.map lv).sum else 0) +
      (if k.left = d then lw * rv tx / (reqs.map rv).sum else 0))
  omega

theorem processDepositsForPool_step (d : Denom) (k0 : PoolKey) {env : Env} {k : PoolKey} {st st' : State}
    {reqs : List Tx} (h : processDepositsForPool env k st reqs = .ok st') (hleg : legacyDeposit st = false)
    (hdk : liqTokenDenom env k = d → k = k0)
    (hc : st.coins.Nodup) (hp : (st.pools.map (·.1)).Nodup) (hh : (reqs.map (·.hash)).Nodup)
    (hreq : ∀ tx ∈ reqs, ∃ c0 c1, st.coins.getCoin ⟨tx.hash, 0⟩ = some c0 ∧
      st.coins.getCoin ⟨tx.hash, 1⟩ = some c1 ∧
      c0.coinData.value = (out0 tx).value ∧ c0.coinData.denom = k.left ∧
      c1.coinData.value = (out1 tx).value ∧ c1.coinData.denom = k.right)
    (hm : liqTokenDenom env k = d → (reqs.map depW).sum ≤ U128_MAX) :
    Good st st' ∧ Step env d k0 st st' := by
  obtain ⟨p', minted, hdep, ⟨_, rfl⟩ | ⟨hfit, coins, hfold, rfl⟩⟩ := processDepositsForPool_inv h
  · exact ⟨Good.refl hc hp, Step.refl _ _ _ _⟩
  rw [hleg] at hfold
  have hinc : (reqs.map fun tx => if liqTokenDenom env k = d then minted * depW tx / depTW reqs else 0).sum ≤
      if liqTokenDenom env k = d then minted else 0 := by
    rw [sum_ite_const]
    split
    · next e =>
      rw [depTW, satSum_eq_sum _ (hm e)]
      exact pro_rata_map_le minted depW reqs
    · exact Nat.le_refl 0
  have key : pc d (k, p') ≤ pc d (k, (st.pools.get k).getD PoolState.newEmpty) +
      (reqs.map fun tx => (if k.left = d then (out0 tx).value else 0) +
        (if k.right = d then (out1 tx).value else 0)).sum := by
    rw [sum_ite_add]
    obtain ⟨dl, dr⟩ := deposit_le hdep
    have a1 := ite_le_ite (P := k.left = d) (Nat.le_trans dl (Nat.add_le_add_left (satSum_le_sum (reqs.map fun tx => (out0 tx).value)) _))
    have a2 := ite_le_ite (P := k.right = d) (Nat.le_trans dr (Nat.add_le_add_left (satSum_le_sum (reqs.map fun tx => (out1 tx).value)) _))
    rw [ite_add] at a1 a2
    simp only [pc]
    omega
  refine step_of_fold env d k0
    (fun tx => (if k.left = d then (out0 tx).value else 0) + (if k.right = d then (out1 tx).value else 0))
    (fun tx => if liqTokenDenom env k = d then minted * depW tx / depTW reqs else 0) hc hp hh hfold rfl ?_ ?_ ?_
  · intro c tx c' htx hn hsame hf
    have hget := fun (id : CoinID) (hid : id.txhash ≠ tx.hash) => depStep_writes c tx c' id hf (fun i _ => outCoinID_ne i hid.symm)
    obtain ⟨v, hv, hf⟩ := Outcome.bind_eq_ok.mp hf
    dsimp only at hf
    rw [if_neg Bool.false_ne_true] at hf
    obtain ⟨c0, c1, hc0, hc1, hv0, hd0, hv1, hd1⟩ := hreq tx htx
    have hn1 := CoinMap.Nodup_insertCoin hn (outCoinID tx 0)
      { coinData := { out0 tx with denom := liqTokenDenom env k, value := v }, height := st.height } st.tip906
    refine ⟨CoinMap.Nodup_removeCoin hn1 hf, ?_, hget⟩
    have ht1 := coinsTotal_insertCoin hn d (outCoinID tx 0)
      { coinData := { out0 tx with denom := liqTokenDenom env k, value := v }, height := st.height } st.tip906
    have ht2 := coinsTotal_removeCoin hn1 d hf
    rw [cwAt_some (id := outCoinID tx 0) ((hsame 0).trans hc0)] at ht1
    rw [cwAt_some (id := outCoinID tx 1) ((CoinMap.getCoin_insertCoin_ne _ _ _ (by intro e; cases e)).trans
      ((hsame 1).trans hc1))] at ht2
    simp only [cval, hv0, hd0, hv1, hd1] at ht1 ht2
    have hnew := ite_le_ite (P := liqTokenDenom env k = d) (multiplyFrac_le hv)
    omega
  · have hq := congrArg (fun n => if liqTokenDenom env k = d then n else 0) (deposit_liqs hdep (Nat.le_of_not_gt hfit))
    rw [ite_add] at hq
    omega
  · intro e0
    rw [if_neg fun e => e0 (hdk e).symm] at hinc
    omega

theorem processWithdrawalsForPool_step (d : Denom) (k0 : PoolKey) {env : Env} {k : PoolKey} {st st' : State}
    {reqs : List Tx} (h : processWithdrawalsForPool k st reqs = .ok st')
    (hc : st.coins.Nodup) (hp : (st.pools.map (·.1)).Nodup) (hh : (reqs.map (·.hash)).Nodup)
    (hreq : ∀ tx ∈ reqs, ∃ c0, st.coins.getCoin ⟨tx.hash, 0⟩ = some c0 ∧
      c0.coinData.denom = liqTokenDenom env k ∧ c0.coinData.value = (out0 tx).value)
    (hb : (reqs.map fun tx => (out0 tx).value).sum ≤ U128_MAX) :
    Good st st' ∧ Step env d k0 st st' := by
  obtain ⟨p, hpool, ⟨_, rfl⟩ | ⟨_, p', tl, tr, coins, hw, hfold, rfl⟩⟩ := processWithdrawalsForPool_inv h
  · exact ⟨Good.refl hc hp, Step.refl _ _ _ _⟩
  rw [show wdT reqs = _ from satSum_eq_sum _ hb] at hw hfold
  generalize hmy : (fun tx : Tx => (out0 tx).value) = my at *
  have key : pc d (k, p') + (reqs.map fun tx => (if k.left = d then tl * my tx / (reqs.map my).sum else 0) +
      (if k.right = d then tr * my tx / (reqs.map my).sum else 0)).sum ≤ pc d (k, p) := by
    rw [sum_ite_add]
    have pL := ite_le_ite (P := k.left = d) (pro_rata_map_le tl my reqs)
    have pR := ite_le_ite (P := k.right = d) (pro_rata_map_le tr my reqs)
    obtain ⟨wl, wr⟩ := withdraw_eq hw
    have a1 := congrArg (fun n => if k.left = d then n else 0) wl
    have a2 := congrArg (fun n => if k.right = d then n else 0) wr
    rw [ite_add] at a1 a2
    simp only [pc]
    omega
  refine step_of_fold env d k0 (fun tx => if liqTokenDenom env k = d then my tx else 0) _ hc hp hh hfold
    (by rw [hpool]; rfl) ?_ ?_ (fun _ => Nat.le_trans key (Nat.le_add_right _ _))
  · intro c tx c' htx hn hsame hf
    have hget := fun (id : CoinID) (hid : id.txhash ≠ tx.hash) => wdStep_writes c tx c' id hf (fun i _ => outCoinID_ne i hid.symm)
    obtain ⟨vl, hvl, hf⟩ := Outcome.bind_eq_ok.mp hf
    obtain ⟨vr, hvr, hf⟩ := Outcome.bind_eq_ok.mp hf
    cases hf
    obtain ⟨c0, hc0, hd0, hv0⟩ := hreq tx htx
    have emy : my tx = (out0 tx).value := by rw [← hmy]
    rw [← emy] at hvl hvr hv0
    have hn1 := CoinMap.Nodup_insertCoin hn (outCoinID tx 0)
      { coinData := { out0 tx with denom := k.left, value := vl }, height := st.height } st.tip906
    refine ⟨CoinMap.Nodup_insertCoin hn1 _ _ _, ?_, hget⟩
    have ht1 := coinsTotal_insertCoin hn d (outCoinID tx 0)
      { coinData := { out0 tx with denom := k.left, value := vl }, height := st.height } st.tip906
    have ht2 := coinsTotal_insertCoin hn1 d (outCoinID tx 1)
      { coinData := { out0 tx with denom := k.right, value := vr }, height := st.height } st.tip906
    have e0 : cval d c0 = if liqTokenDenom env k = d then my tx else 0 := by rw [cval, hd0, hv0]
    rw [cwAt_some (id := outCoinID tx 0) ((hsame 0).trans hc0), e0] at ht1
    change _ = _ + (if k.left = d then vl else 0) at ht1
    change _ = _ + (if k.right = d then vr else 0) at ht2
    have hl := ite_le_ite (P := k.left = d) (multiplyFrac_le hvl)
    have hr := ite_le_ite (P := k.right = d) (multiplyFrac_le hvr)
    show coinsTotal _ d + (if liqTokenDenom env k = d then my tx else 0) ≤
      coinsTotal c d + ((if k.left = d then tl * my tx / (reqs.map my).sum else 0) +
        (if k.right = d then tr * my tx / (reqs.map my).sum else 0))
    omega
  · have hq := congrArg (fun n => if liqTokenDenom env k = d then n else 0) (withdraw_liqs hw)
    rw [ite_add] at hq
    rw [sum_ite_const]
    omega

/-- a reflexive transitive relation `R` kept by every per-pool step is kept by the fold over the keys. The step
    for `k` may assume that the coins of `k`'s requests are still those of the start `s0`: the steps for earlier
    keys touch the coins of their own requests only, and a request names one pool -/
theorem phase_invR (s0 : State) (reqs : List Tx) (step : PoolKey → State → List Tx → Outcome State)
    (R : State → State → Prop) (hrefl : ∀ st, R st st) (htrans : ∀ {a b c}, R a b → R b c → R a c)
    (P : PoolKey → Prop)
    (hstep : ∀ k st st', P k → step k st (transactionsForPool reqs k) = .ok st' → Good s0 st →
       (∀ tx ∈ transactionsForPool reqs k, ∀ i,
          st.coins.getCoin ⟨tx.hash, i⟩ = s0.coins.getCoin ⟨tx.hash, i⟩) →
       Good st st' ∧ R st st' ∧
       (∀ id : CoinID, (∀ tx ∈ transactionsForPool reqs k, tx.hash ≠ id.txhash) →
          st'.coins.getCoin id = st.coins.getCoin id))
    (hh : (reqs.map (·.hash)).Nodup) :
    ∀ ks : List PoolKey, ks.Nodup → (∀ k ∈ ks, P k) → ∀ st st', Good s0 st →
      (∀ tx ∈ reqs, ∀ k ∈ ks, canonicalPoolKey tx.data = some k → ∀ i,
          st.coins.getCoin ⟨tx.hash, i⟩ = s0.coins.getCoin ⟨tx.hash, i⟩) →
      Outcome.foldlM' (fun st k => step k st (transactionsForPool reqs k)) st ks = .ok st' →
      Good st st' ∧ R st st' := by
  intro ks
  induction ks with
  | nil =>
    intro _ _ st st' hg _ h
    cases h
    exact ⟨Good.refl hg.coinKeys hg.poolKeys, hrefl _⟩
  | cons k ks ih =>
    intro hks hP st st' hg hsame h
    obtain ⟨st1, hst1, h⟩ := (Outcome.foldlM'_cons_ok _ _ _ _ _).mp h
    obtain ⟨hk, hks⟩ := List.nodup_cons.mp hks
    obtain ⟨g1, le1, u1⟩ := hstep k st st1 (hP k List.mem_cons_self) hst1 hg (by
      intro tx htx i
      obtain ⟨hin, hck⟩ := mem_transactionsForPool_iff.mp htx
      exact hsame tx hin k List.mem_cons_self hck i)
    obtain ⟨g2, le2⟩ := ih hks (fun k' hk' => hP k' (List.mem_cons_of_mem _ hk')) st1 st' (hg.trans g1) (by
      intro tx htx k' hk' hck i
      rw [u1 ⟨tx.hash, i⟩ (by
        intro tx2 htx2 e
        have h2 := mem_transactionsForPool_iff.mp htx2
        have : tx2 = tx := eq_of_nodup_map _ hh h2.1 htx e
        rw [this, hck] at h2
        cases h2.2
        exact hk hk')]
      exact hsame tx htx k' (List.mem_cons_of_mem _ hk') hck i) h
    exact ⟨g1.trans g2, htrans le1 le2⟩

theorem phase_fold {s0 st' : State} (sel : Tx → Bool) (step : PoolKey → State → List Tx → Outcome State)
    {R : State → State → Prop} (hrefl : ∀ st, R st st) (htrans : ∀ {a b c}, R a b → R b c → R a c)
    (hc : s0.coins.Nodup) (hp : (s0.pools.map (·.1)).Nodup) (hh : (s0.txs.map (·.hash)).Nodup)
    (hstep : ∀ k st st1, canonicalPoolKey k.toBytes = some k → Good s0 st →
      ((transactionsForPool (s0.txs.filter sel) k).map (·.hash)).Nodup →
      (∀ tx ∈ transactionsForPool (s0.txs.filter sel) k, tx ∈ s0.txs ∧ sel tx = true ∧
        canonicalPoolKey tx.data = some k ∧
        ∀ i, st.coins.getCoin ⟨tx.hash, i⟩ = s0.coins.getCoin ⟨tx.hash, i⟩) →
      step k st (transactionsForPool (s0.txs.filter sel) k) = .ok st1 →
      Good st st1 ∧ R st st1 ∧
      (∀ id : CoinID, (∀ tx ∈ transactionsForPool (s0.txs.filter sel) k, tx.hash ≠ id.txhash) →
        st1.coins.getCoin id = st.coins.getCoin id))
    (h : Outcome.foldlM' (fun st k => step k st (transactionsForPool (s0.txs.filter sel) k)) s0
      (extractPoolKeysSorted (s0.txs.filter sel)) = .ok st') :
    Good s0 st' ∧ R s0 st' := by
  have hhr : ((s0.txs.filter sel).map (·.hash)).Nodup := nodup_map_filter _ _ hh
  refine phase_invR s0 _ step R hrefl htrans (fun k => canonicalPoolKey k.toBytes = some k) ?_ hhr _
    (extractPoolKeysSorted_nodup _) ?_ s0 st' (Good.refl hc hp) (fun _ _ _ _ _ _ => rfl) h
  · intro k st st1 hk hst1 hg hsame
    refine hstep k st st1 hk hg (transactionsForPool_nodup hhr k) (fun tx htx => ?_) hst1
    obtain ⟨hin, hck⟩ := mem_transactionsForPool_iff.mp htx
    obtain ⟨h1, h2⟩ := List.mem_filter.mp hin
    exact ⟨h1, h2, hck, hsame tx htx⟩
  · intro k hk
    obtain ⟨tx, _, hck⟩ := mem_extractPoolKeysSorted hk
    rw [(canonicalPoolKey_some hck).2.2.2]
    exact hck

/-! ### the three settlement phases

  `m` is the coin map the block's transactions were applied to give (`FaithfulTx`); the coins of the requests of the
  phase are still as in `m`. `d` is either no canonical pool's token, or the token of `k` only. -/

theorem swaps_phase (env : Env) (d : Denom) (k : PoolKey) {s0 st' : State} {m : CoinMap}
    (h : processSwaps s0 = .ok st')
    (hc : s0.coins.Nodup) (hp : (s0.pools.map (·.1)).Nodup) (hh : (s0.txs.map (·.hash)).Nodup)
    (hm : m.Nodup) (hb : ∀ d, coinsTotal m d ≤ U128_MAX)
    (hsame0 : ∀ tx ∈ s0.txs, tx.kind = .swap → ∀ i, s0.coins.getCoin ⟨tx.hash, i⟩ = m.getCoin ⟨tx.hash, i⟩)
    (hf : ∀ tx ∈ s0.txs, tx.kind = .swap → FaithfulTx m tx) :
    Good s0 st' ∧ Step env d k s0 st' := by
  refine phase_fold (isSwapRequest s0) (fun k st l => processSwapsForPool k st l) (Step.refl env d k) Step.trans
    hc hp hh ?_ h
  intro k' st st1 hk' hg hhk hreqs hst1
  have hfacts : ∀ tx ∈ transactionsForPool (s0.txs.filter (isSwapRequest s0)) k', ∃ c,
      st.coins.getCoin ⟨tx.hash, 0⟩ = some c ∧ m.getCoin ⟨tx.hash, 0⟩ = some c ∧
      c.coinData.value = (out0 tx).value ∧ c.coinData.denom = (out0 tx).denom ∧
      ((out0 tx).denom = k'.left ∨ (out0 tx).denom = k'.right) := by
    intro tx htx
    obtain ⟨htxs, hsel, hck, hsame⟩ := hreqs tx htx
    have hkind := (isSwapRequest_iff.mp hsel).1
    obtain ⟨_, k'', o, rest, c, hck', ho, hm0, hv, hdn, hside⟩ :=
      swapRequest_backed (hf tx htxs hkind) (hsame0 tx htxs hkind 0) hsel
    cases hck.symm.trans hck'
    have e : out0 tx = o := by rw [out0, ho]; rfl
    rw [e]
    exact ⟨c, (hsame 0).trans ((hsame0 tx htxs hkind 0).trans hm0), hm0, hv, hdn, hside⟩
  have hbound : ∀ side : Denom, ((transactionsForPool (s0.txs.filter (isSwapRequest s0)) k').map fun tx =>
      if (out0 tx).denom = side then (out0 tx).value else 0).sum ≤ U128_MAX := by
    intro side
    refine Nat.le_trans (sum_values_le m hm side _ 0 _ hhk ?_) (hb side)
    intro tx htx
    obtain ⟨c, _, hm0, hv, hdn, _⟩ := hfacts tx htx
    rw [cwAt_some hm0, cval, hv, hdn]
    exact Nat.le_refl _
  obtain ⟨g1, l1⟩ := processSwapsForPool_step env d k hst1 (canonical_sides hk').1 hg.coinKeys hg.poolKeys hhk
    (fun tx htx => by
      obtain ⟨c, h1, _, r⟩ := hfacts tx htx
      exact ⟨c, h1, r⟩)
    (hbound _) (hbound _)
  exact ⟨g1, l1, fun id hne => (processSwapsForPool_coins id k' st _ st1 hst1 hne).1⟩

theorem deposits_phase (env : Env) (d : Denom) (k : PoolKey) {s0 st' : State} {m : CoinMap}
    (h : processDeposits env s0 = .ok st') (hleg : legacyDeposit s0 = false)
    (hdk : ∀ k', canonicalPoolKey k'.toBytes = some k' → liqTokenDenom env k' = d → k' = k)
    (hc : s0.coins.Nodup) (hp : (s0.pools.map (·.1)).Nodup) (hh : (s0.txs.map (·.hash)).Nodup)
    (hm : m.Nodup) (hb : ∀ d, coinsTotal m d ≤ U128_MAX)
    (hsame0 : ∀ tx ∈ s0.txs, tx.kind = .liqDeposit → ∀ i,
      s0.coins.getCoin ⟨tx.hash, i⟩ = m.getCoin ⟨tx.hash, i⟩)
    (hf : ∀ tx ∈ s0.txs, tx.kind = .liqDeposit → FaithfulTx m tx) :
    Good s0 st' ∧ Step env d k s0 st' := by
  refine phase_fold (isDepositRequest s0) (fun k st l => processDepositsForPool env k st l) (Step.refl env d k)
    Step.trans hc hp hh ?_ h
  intro k' st st1 hk' hg hhk hreqs hst1
  have hfacts : ∀ tx ∈ transactionsForPool (s0.txs.filter (isDepositRequest s0)) k', ∃ c0 c1,
      st.coins.getCoin ⟨tx.hash, 0⟩ = some c0 ∧ st.coins.getCoin ⟨tx.hash, 1⟩ = some c1 ∧
      m.getCoin ⟨tx.hash, 0⟩ = some c0 ∧ m.getCoin ⟨tx.hash, 1⟩ = some c1 ∧
      c0.coinData.value = (out0 tx).value ∧ c0.coinData.denom = k'.left ∧
      c1.coinData.value = (out1 tx).value ∧ c1.coinData.denom = k'.right := by
    intro tx htx
    obtain ⟨htxs, hsel, hck, hsame⟩ := hreqs tx htx
    have hkind := (isDepositRequest_iff.mp hsel).1
    obtain ⟨_, k'', o0, o1, rest, c0, c1, hck', ho, hm0, hv0, hd0, hm1, hv1, hd1⟩ :=
      depositRequest_backed (hf tx htxs hkind) (hsame0 tx htxs hkind) hsel
    cases hck.symm.trans hck'
    have e0 : out0 tx = o0 := by rw [out0, ho]; rfl
    have e1 : out1 tx = o1 := by rw [out1, ho]; rfl
    rw [e0, e1]
    exact ⟨c0, c1, (hsame 0).trans ((hsame0 tx htxs hkind 0).trans hm0),
      (hsame 1).trans ((hsame0 tx htxs hkind 1).trans hm1), hm0, hm1, hv0, hd0, hv1, hd1⟩
  have hbL := sum_values_le m hm k'.left _ 0 (fun tx => (out0 tx).value) hhk (by
    intro tx htx
    obtain ⟨c0, c1, _, _, hm0, _, hv0, hd0, _, _⟩ := hfacts tx htx
    rw [cwAt_some hm0, cval, hv0, hd0, if_pos rfl]
    exact Nat.le_refl _)
  have hbR := sum_values_le m hm k'.right _ 1 (fun tx => (out1 tx).value) hhk (by
    intro tx htx
    obtain ⟨c0, c1, _, _, _, hm1, _, _, hv1, hd1⟩ := hfacts tx htx
    rw [cwAt_some hm1, cval, hv1, hd1, if_pos rfl]
    exact Nat.le_refl _)
  have hbM : ((transactionsForPool (s0.txs.filter (isDepositRequest s0)) k').map depW).sum ≤ U128_MAX := by
    have h2 := sum_map_le_combine depW depW (fun tx => (out0 tx).value) (fun tx => (out1 tx).value)
      (transactionsForPool (s0.txs.filter (isDepositRequest s0)) k') (fun tx _ => two_mtsqrt_le _ _)
    have := hb k'.left
    have := hb k'.right
    omega
  obtain ⟨g1, l1⟩ := processDepositsForPool_step d k hst1
    ((legacyDeposit_congr hg.height hg.network).trans hleg) (hdk k' hk') hg.coinKeys hg.poolKeys hhk
    (fun tx htx => by
      obtain ⟨c0, c1, h0, h1, _, _, r⟩ := hfacts tx htx
      exact ⟨c0, c1, h0, h1, r⟩) (fun _ => hbM)
  exact ⟨g1, l1, fun id hne => (processDepositsForPool_coins id env k' st _ st1 hst1 hne).1⟩

theorem withdrawals_phase (env : Env) (d : Denom) (k : PoolKey) {s0 st' : State} {m : CoinMap}
    (h : processWithdrawals env s0 = .ok st')
    (hc : s0.coins.Nodup) (hp : (s0.pools.map (·.1)).Nodup) (hh : (s0.txs.map (·.hash)).Nodup)
    (hm : m.Nodup) (hb : ∀ d, coinsTotal m d ≤ U128_MAX)
    (hsame0 : ∀ tx ∈ s0.txs, tx.kind = .liqWithdraw → ∀ i,
      s0.coins.getCoin ⟨tx.hash, i⟩ = m.getCoin ⟨tx.hash, i⟩)
    (hf : ∀ tx ∈ s0.txs, tx.kind = .liqWithdraw → FaithfulTx m tx) :
    Good s0 st' ∧ Step env d k s0 st' := by
  refine phase_fold (isWithdrawRequest env s0) (fun k st l => processWithdrawalsForPool k st l) (Step.refl env d k)
    Step.trans hc hp hh ?_ h
  intro k' st st1 hk' hg hhk hreqs hst1
  have hfacts : ∀ tx ∈ transactionsForPool (s0.txs.filter (isWithdrawRequest env s0)) k', ∃ c,
      st.coins.getCoin ⟨tx.hash, 0⟩ = some c ∧ m.getCoin ⟨tx.hash, 0⟩ = some c ∧
      c.coinData.denom = liqTokenDenom env k' ∧ c.coinData.value = (out0 tx).value := by
    intro tx htx
    obtain ⟨htxs, hsel, hck, hsame⟩ := hreqs tx htx
    have hkind := (isWithdrawRequest_iff.mp hsel).1
    obtain ⟨_, k'', o, c, hck', ho, hm0, hv, hdn⟩ :=
      withdrawRequest_backed (hf tx htxs hkind) (hsame0 tx htxs hkind 0) hsel
    cases hck.symm.trans hck'
    have e : out0 tx = o := by rw [out0, ho]; rfl
    rw [e]
    exact ⟨c, (hsame 0).trans ((hsame0 tx htxs hkind 0).trans hm0), hm0, hdn, hv⟩
  have hbL := sum_values_le m hm (liqTokenDenom env k') _ 0 (fun tx => (out0 tx).value) hhk (by
    intro tx htx
    obtain ⟨c, _, hm0, hdn, hv⟩ := hfacts tx htx
    rw [cwAt_some hm0, cval, hv, hdn, if_pos rfl]
    exact Nat.le_refl _)
  obtain ⟨g1, l1⟩ := processWithdrawalsForPool_step d k (env := env) hst1 hg.coinKeys hg.poolKeys hhk
    (fun tx htx => by
      obtain ⟨c, h1, _, r⟩ := hfacts tx htx
      exact ⟨c, h1, r⟩)
    (Nat.le_trans hbL (hb _))
  exact ⟨g1, l1, fun id hne => (processWithdrawalsForPool_coins id k' st _ st1 hst1 hne).1⟩

end BackL
end Mel

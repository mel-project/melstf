/- splitting an accepted batch at its head and joining it again: batch = one at a time in a
   dependency-respecting order (C03Seq); the header covenants see is the same after every accepted batch -/
import MelModel.ApplyTx
import MelModel.Lemmas.Perm
import MelModel.Lemmas.OutcomeL
import MelModel.Lemmas.MapL
namespace Mel

/-- a dependency-respecting order: no transaction spends an output of a later one -/
def DepOrder : List Tx → Prop
  | [] => True
  | t :: rest => (∀ u ∈ rest, ∀ id ∈ t.inputs, id.txhash ≠ u.hash) ∧ DepOrder rest

namespace SeqL
open Mel.Gen Mel.BatchL Mel.C3

theorem mem_zipIdx_fst {α} {l : List α} {e : α × Nat} (h : e ∈ l.zipIdx) : e.1 ∈ l := by
  obtain ⟨x, i⟩ := e
  rw [List.mem_zipIdx_iff_getElem?] at h
  exact List.mem_of_getElem? h

theorem checkTx_congr (env : Env) (s s' : State) (lh : Header) (tx : Tx) {rel rel' : Relevant}
    {ns ns' : AList Hash StakeDoc}
    (h1 : ∀ id ∈ tx.inputs, rel'.get id = rel.get id)
    (h2 : ∀ id ∈ tx.inputs, (ns'.contains id.txhash || (s'.stakes.getStake id.txhash).isSome) =
      (ns.contains id.txhash || (s.stakes.getStake id.txhash).isSome))
    (h3 : legacyStakeLock s' = legacyStakeLock s) :
    checkTxValidity env s' lh tx rel' ns' = checkTxValidity env s lh tx rel ns := by
  simp only [checkTxValidity]
  congr 1
  apply Outcome.foldlM'_congr
  intro acc e he
  have hm := mem_zipIdx_fst he
  simp only [h1 _ hm, h2 _ hm, h3]

theorem stakeRes_congr {s s' : State} (hn : s'.network = s.network) (hh : s'.height = s.height) (tx : Tx) :
    stakeRes s' tx = stakeRes s tx := by
  have e1 : legacyStakeReg s' = legacyStakeReg s := by simp only [legacyStakeReg, hn, hh]
  have e2 : s'.epoch = s.epoch := by simp only [State.epoch, hh]
  unfold stakeRes
  rw [e1, e2]

theorem legacyStakeLock_congr {s s' : State} (hn : s'.network = s.network) (hh : s'.height = s.height) :
    legacyStakeLock s' = legacyStakeLock s := by
  simp only [legacyStakeLock, hn, hh]

theorem stakeMap_congr {s s' : State} (hn : s'.network = s.network) (hh : s'.height = s.height)
    (txs : List Tx) : stakeMap s' txs = stakeMap s txs := by
  simp only [stakeMap, stakeRes_congr hn hh]

theorem stakeMap_cons (s : State) (t : Tx) (rest : List Tx) (k : Hash) :
    (stakeMap s (t :: rest)).get k = ((stakeMap s rest).get k).or ((stakeMap s [t]).get k) := by
  unfold stakeMap
  rw [List.foldl_cons]
  exact AList.get_foldl_extend_or (fun a => stakeEntries (valOf (stakeRes s a)) a) k rest _

theorem createdOf_cons (h : Nat) (t : Tx) (rest : List Tx) (k : CoinID) :
    (createdOf h (t :: rest)).get k = ((createdOf h rest).get k).or ((createdOf h [t]).get k) := by
  unfold createdOf
  rw [List.foldl_cons]
  exact AList.get_foldl_extend_or (fun tx => outputCoinsFromTx tx h) k rest _

theorem speedFold_cons {env : Env} {s : State} {rel : Relevant} {t : Tx} {rest : List Tx} {sp : Nat} :
    speedFold env s rel (t :: rest) = .ok sp ↔
      ∃ b, speedFold env s rel [t] = .ok b ∧ Outcome.foldlM' (speedStep env s rel) b rest = .ok sp := by
  rw [speedFold_def, speedFold_def, Outcome.foldlM'_cons_ok]
  constructor
  · rintro ⟨b, h1, h2⟩
    exact ⟨b, (Outcome.foldlM'_cons_ok _ _ _ _ _).mpr ⟨b, h1, rfl⟩, h2⟩
  · rintro ⟨b, h1, h2⟩
    rw [Outcome.foldlM'_cons_ok] at h1
    obtain ⟨b', h1, h3⟩ := h1
    rw [Outcome.foldlM'_nil_ok] at h3
    subst h3
    exact ⟨b', h1, h2⟩

theorem speedSteps_congr (env : Env) (s s' : State) {rel rel' : Relevant} (l : List Tx) (b : Nat)
    (hr : ∀ u ∈ l, ∀ id ∈ u.inputs, rel'.get id = rel.get id) (hh : s'.height = s.height)
    (hn : s'.network = s.network) (hist : s'.history = s.history) :
    Outcome.foldlM' (speedStep env s' rel') b l = Outcome.foldlM' (speedStep env s rel) b l :=
  Outcome.foldlM'_congr l b fun b u hu => by
    unfold speedStep
    rw [validateDoscmint_congr env s s' u (hr u hu) hh hn hist]

theorem markers_cons {env : Env} {t : Tx} {rest : List Tx} {k : CoinID} :
    k ∈ markerIdsOf env (t :: rest) ↔ k ∈ markerIdsOf env [t] ∨ k ∈ markerIdsOf env rest := by
  simp only [mem_markerIdsOf, List.mem_cons, List.not_mem_nil, or_false, exists_eq_or_imp, exists_eq_left]

theorem markers_single {env : Env} {t : Tx} {k : CoinID} :
    k ∈ markerIdsOf env [t] ↔ insertsMarker env t = true ∧ k = markerOf env t := by
  simp only [mem_markerIdsOf, List.mem_singleton, exists_eq_left]

theorem inputs_cons {t : Tx} {rest : List Tx} {k : CoinID} :
    k ∈ (t :: rest).flatMap (·.inputs) ↔ k ∈ t.inputs ∨ k ∈ rest.flatMap (·.inputs) := by
  simp

theorem inputs_single {t : Tx} {k : CoinID} : k ∈ [t].flatMap (·.inputs) ↔ k ∈ t.inputs := by
  simp

theorem nextStatic_sub {env : Env} {s : State} {l l' : List Tx} (h : NextStatic env s l)
    (hsub : ∀ x ∈ l', x ∈ l) (hnd : l'.Nodup) (hnd' : (l'.map (·.hash)).Nodup) : NextStatic env s l' where
  nodup := hnd
  hnodup := hnd'
  dist := fun x hx f hf => h.dist x (hsub x hx) f (hsub f hf)
  notInp := fun f hf hk u hu => h.notInp f (hsub f hf) hk u (hsub u hu)
  netOk := fun f hf => h.netOk f (hsub f hf)
  fee := fun x hx => h.fee x (hsub x hx)

theorem nextStatic_congr {env : Env} {s s' : State} {l : List Tx} (h : NextStatic env s l)
    (hn : s'.network = s.network) (hf : s'.feeMultiplier = s.feeMultiplier) : NextStatic env s' l where
  nodup := h.nodup
  hnodup := h.hnodup
  dist := h.dist
  notInp := h.notInp
  netOk := fun f hf' hk hm => h.netOk f hf' hk (hn ▸ hm)
  fee := fun x hx => by rw [hf]; exact h.fee x hx

/-- no transaction of `rest` creates an input of `t` -/
def Dep (t : Tx) (rest : List Tx) : Prop := ∀ u ∈ rest, ∀ id ∈ t.inputs, id.txhash ≠ u.hash

theorem Dep.created {t : Tx} {rest : List Tx} (hdep : Dep t rest) (h : Nat) :
    ∀ id ∈ t.inputs, (createdOf h rest).get id = none :=
  fun id hid => createdOf_none_of_hash (fun u hu => hdep u hu id hid)

theorem Dep.stakes {t : Tx} {rest : List Tx} (hdep : Dep t rest) (s : State) :
    ∀ id ∈ t.inputs, (stakeMap s rest).get id.txhash = none := by
  intro id hid
  cases hc : (stakeMap s rest).get id.txhash with
  | none => rfl
  | some v =>
    obtain ⟨a, ha, he⟩ := stakeMap_key hc
    exact absurd he (hdep a ha id hid)

/-! `lastHeaderOf s _` is `history[height-1]`, else `genesisStandIn s`, made of network, height, fee multiplier and DOSC
  speed only (finding F25: before the fix the fallback was the header of the block sealed as it stood, which changes with
  every transaction).  A batch changes of these only the speed, and only by a DoscMint transaction, which
  `validateDoscmint` rejects when there is no previous header: so the header covenants see is the same at every step of a
  one-at-a-time application, with no assumption on the state. -/

theorem doscmint_ok_prev {env : Env} {s : State} {rel : Relevant} {tx : Tx} {sp : Nat}
    (h : validateDoscmint env s rel tx = .ok sp) : ∃ prev, s.history.get (s.height - 1) = some prev := by
  rw [validateDoscmint_eq] at h
  obtain ⟨p, -, h⟩ := Outcome.bind_eq_ok.mp h
  split at h
  · cases h
  · cases h
  · obtain ⟨-, -, prev, -, hp, -⟩ := doscTail_ok h
    exact ⟨prev, hp⟩

theorem speedFold_first {env : Env} {s : State} {rel : Relevant} (hn : s.history.get (s.height - 1) = none)
    (txs : List Tx) (b sp : Nat) (h : Outcome.foldlM' (speedStep env s rel) b txs = .ok sp) : sp = b := by
  rcases (spFold_spec h).attained with e | ⟨tx, -, -, hv⟩
  · exact e
  · obtain ⟨p, hp⟩ := doscmint_ok_prev hv
    rw [hn] at hp
    cases hp

theorem genesisStandIn_congr {s s' : State} (e2 : s'.height = s.height) (e3 : s'.network = s.network)
    (e4 : s'.feeMultiplier = s.feeMultiplier) (e5 : s'.doscSpeed = s.doscSpeed) :
    genesisStandIn s' = genesisStandIn s := by
  simp only [genesisStandIn, e2, e3, e4, e5]

theorem lastHeader_eq {s s' : State} (fb fb' : Header) (e1 : s'.history = s.history) (e2 : s'.height = s.height)
    (e3 : s'.network = s.network) (e4 : s'.feeMultiplier = s.feeMultiplier)
    (e5 : s.history.get (s.height - 1) = none → s'.doscSpeed = s.doscSpeed) :
    lastHeaderOf s' fb' = lastHeaderOf s fb := by
  unfold lastHeaderOf
  rw [e1, e2]
  cases hp : s.history.get (s.height - 1) with
  | some hdr => rfl
  | none => simp only [Option.getD_none, genesisStandIn_congr e2 e3 e4 (e5 hp)]

section split
variable {env : Env} {s sm : State} {t : Tx} {rest : List Tx} {fb' : Header}
  {rel relt relr : Relevant} {spt : Nat}

theorem rel_head (hdep : Dep t rest) (h : loadRelevantCoins s (t :: rest) = .ok rel)
    (ht : loadRelevantCoins s [t] = .ok relt) (id : CoinID) (hid : id ∈ t.inputs) :
    relt.get id = rel.get id := by
  rw [loadRel_get h, loadRel_get ht]
  unfold relSpec
  rw [createdOf_cons _ t rest, hdep.created _ id hid]
  have m1 : id ∈ (t :: rest).flatMap (·.inputs) := inputs_cons.mpr (Or.inl hid)
  have m2 : id ∈ [t].flatMap (·.inputs) := inputs_single.mpr hid
  simp only [Option.none_or, m1, m2, if_true]

theorem rel_tail (hpre : SPre env s (t :: rest)) (Ft : Facts env s [t] fb' relt spt sm)
    (h : loadRelevantCoins s (t :: rest) = .ok rel) (hr : loadRelevantCoins sm rest = .ok relr)
    (id : CoinID) (hid : id ∈ rest.flatMap (·.inputs)) (hnt : id ∉ t.inputs) :
    relr.get id = rel.get id := by
  rw [loadRel_get h, loadRel_get hr, Ft.height]
  unfold relSpec
  rw [createdOf_cons _ t rest, Ft.coins]
  have m1 : id ∈ (t :: rest).flatMap (·.inputs) := inputs_cons.mpr (Or.inr hid)
  have m2 : id ∉ [t].flatMap (·.inputs) := fun h => hnt (inputs_single.mp h)
  have m3 : id ∉ markerIdsOf env [t] := fun hm => hpre.hm1 id (markers_cons.mpr (Or.inl hm)) m1
  simp only [hid, m1, m2, m3, if_true, if_false, Option.or_assoc]
  cases (createdOf s.height [t]).get id <;> rfl

theorem speed_head (hdep : Dep t rest) (h : loadRelevantCoins s (t :: rest) = .ok rel)
    (ht : loadRelevantCoins s [t] = .ok relt) : speedFold env s relt [t] = speedFold env s rel [t] := by
  rw [speedFold_def, speedFold_def]
  exact speedSteps_congr env s s [t] _ (List.forall_mem_singleton.mpr (rel_head hdep h ht)) rfl rfl rfl

/-- the inputs of the head and of the rest are apart, since those of the whole batch are pairwise distinct -/
theorem inputs_apart (h : loadRelevantCoins s (t :: rest) = .ok rel) :
    (rest.flatMap (·.inputs)).Nodup ∧ ∀ id ∈ rest.flatMap (·.inputs), id ∉ t.inputs := by
  have hnd := (loadRelevantCoins_ok h).nodup
  rw [List.flatMap_cons, List.nodup_append] at hnd
  exact ⟨hnd.2.1, fun id h1 h2 => hnd.2.2 id h2 id h1 rfl⟩

theorem stake_head (hdep : Dep t rest) (id : CoinID) (hid : id ∈ t.inputs) :
    (stakeMap s [t]).contains id.txhash = (stakeMap s (t :: rest)).contains id.txhash := by
  simp only [AList.contains]
  rw [stakeMap_cons s t rest, hdep.stakes s id hid, Option.none_or]

theorem stake_tail (Ft : Facts env s [t] fb' relt spt sm) (k : Hash) :
    ((stakeMap sm rest).contains k || (sm.stakes.getStake k).isSome) =
      ((stakeMap s (t :: rest)).contains k || (s.stakes.getStake k).isSome) := by
  rw [stakeMap_congr Ft.network Ft.height, Ft.stakes]
  simp only [AList.contains]
  rw [stakeMap_cons s t rest]
  simp only [Option.isSome_or, Bool.or_assoc]

theorem val_head (hdep : Dep t rest) (fb : Header)
    (h : loadRelevantCoins s (t :: rest) = .ok rel) (ht : loadRelevantCoins s [t] = .ok relt) :
    checkTxValidity env s (lastHeaderOf s fb') t relt (stakeMap s [t]) =
      checkTxValidity env s (lastHeaderOf s fb) t rel (stakeMap s (t :: rest)) := by
  rw [lastHeader_eq fb fb' rfl rfl rfl rfl (fun _ => rfl)]
  apply checkTx_congr
  · exact rel_head hdep h ht
  · intro id hid
    rw [stake_head hdep id hid]
  · rfl

theorem val_tail (hpre : SPre env s (t :: rest)) (Ft : Facts env s [t] fb' relt spt sm) (fb : Header)
    (h : loadRelevantCoins s (t :: rest) = .ok rel) (hr : loadRelevantCoins sm rest = .ok relr)
    (hdisj : ∀ id ∈ rest.flatMap (·.inputs), id ∉ t.inputs) (u : Tx) (hu : u ∈ rest) :
    checkTxValidity env sm (lastHeaderOf sm fb') u relr (stakeMap sm rest) =
      checkTxValidity env s (lastHeaderOf s fb) u rel (stakeMap s (t :: rest)) := by
  rw [lastHeader_eq fb fb' Ft.history Ft.height Ft.network Ft.feeMultiplier
    (fun hn => Ft.doscSpeed.trans (speedFold_first hn [t] s.doscSpeed spt Ft.hsp))]
  apply checkTx_congr
  · intro id hid
    have : id ∈ rest.flatMap (·.inputs) := List.mem_flatMap.mpr ⟨u, hu, hid⟩
    exact rel_tail hpre Ft h hr id this (hdisj id this)
  · intro id _
    exact stake_tail Ft _
  · exact legacyStakeLock_congr Ft.network Ft.height

theorem speed_iff (hpre : SPre env s (t :: rest)) (hdep : Dep t rest) (Ft : Facts env s [t] fb' relt spt sm)
    (h : loadRelevantCoins s (t :: rest) = .ok rel) (hr : loadRelevantCoins sm rest = .ok relr)
    (hdisj : ∀ id ∈ rest.flatMap (·.inputs), id ∉ t.inputs) (sp : Nat) :
    speedFold env s rel (t :: rest) = .ok sp ↔ speedFold env sm relr rest = .ok sp := by
  have e1 : speedFold env s rel [t] = .ok spt := (speed_head hdep h Ft.hrel).symm.trans Ft.hsp
  have e2 : ∀ b, Outcome.foldlM' (speedStep env sm relr) b rest = Outcome.foldlM' (speedStep env s rel) b rest :=
    fun b => speedSteps_congr env s sm rest b (fun u hu id hid =>
      have : id ∈ rest.flatMap (·.inputs) := List.mem_flatMap.mpr ⟨u, hu, hid⟩
      rel_tail hpre Ft h hr id this (hdisj id this)) Ft.height Ft.network Ft.history
  rw [speedFold_cons, speedFold_def env sm, Ft.doscSpeed, e2]
  constructor
  · rintro ⟨b, h1, h2⟩
    rw [e1] at h1
    cases h1
    exact h2
  · intro h2
    exact ⟨spt, e1, h2⟩

theorem step_pre (hpre : SPre env s (t :: rest)) (Ft : Facts env s [t] fb' relt spt sm) :
    SPre env sm rest := by
  have hnd := hpre.hashes
  simp only [List.map_cons, List.nodup_cons] at hnd
  refine ⟨hpre.tail.hashes, hpre.tail.markers, hpre.tail.gfMarkers, ?_, ?_, ?_⟩
  · intro u hu i
    have hne : u.hash ≠ t.hash := fun e => hnd.1 (List.mem_map.mpr ⟨u, hu, e⟩)
    have c1 : (createdOf s.height [t]).get ⟨u.hash, i⟩ = none :=
      createdOf_none_of_hash (List.forall_mem_singleton.mpr hne)
    have c2 : (⟨u.hash, i⟩ : CoinID) ∉ markerIdsOf env [t] := by
      rw [markers_single]
      rintro ⟨hins, he⟩
      simp only [insertsMarker, Bool.and_eq_true, decide_eq_true_eq, Bool.not_eq_true'] at hins
      have := ((hpre.markers t List.mem_cons_self hins.1 hins.2).1 u (List.mem_cons_of_mem _ hu)).2
      simp only [markerOf, CoinID.mk.injEq] at he
      exact this he.1.symm
    rw [Ft.coins, c1]
    simp only [c2, if_false, hpre.fresh u (List.mem_cons_of_mem _ hu) i, ite_self]
  · intro ht
    rw [tip906_eq Ft.network Ft.height] at ht
    exact Ft.countsT ht
  · rw [Ft.txsEq]
    exact insertTx_sorted t hpre.sorted

theorem abs_head (habs : Absent env s (t :: rest)) : Absent env s [t] := by
  refine List.forall_mem_singleton.mpr fun hk => ?_
  obtain ⟨a1, a2⟩ := habs t List.mem_cons_self hk
  rw [createdOf_cons _ t rest, Option.or_eq_none_iff] at a2
  exact ⟨a1, a2.2⟩

theorem abs_tail (hpre : SPre env s (t :: rest)) (Ft : Facts env s [t] fb' relt spt sm)
    (habs : Absent env s (t :: rest)) : Absent env sm rest := by
  intro f hf hk
  obtain ⟨a1, a2⟩ := habs f (List.mem_cons_of_mem _ hf) hk
  rw [createdOf_cons _ t rest, Option.or_eq_none_iff] at a2
  refine ⟨?_, by rw [Ft.height]; exact a2.1⟩
  have m3 : markerOf env f ∉ markerIdsOf env [t] := by
    rw [markers_single]
    rintro ⟨hins, he⟩
    have e := hpre.dist t List.mem_cons_self f (List.mem_cons_of_mem _ hf) hins hk he.symm
    have hnd := nodup_of_hashes hpre.hashes
    rw [List.nodup_cons] at hnd
    exact hnd.1 (e ▸ hf)
  rw [Ft.coins, a2.2]
  simp only [m3, if_false, a1, ite_self]

/-- the pseudo-coin of a grandfathered faucet transaction is not a coin the batch creates (for the
    non-grandfathered ones this follows from `SPre.markers`) -/
def GfOk (env : Env) (s : State) (txs : List Tx) : Prop :=
  ∀ f ∈ txs, f.kind = .faucet → env.isGrandfathered f.hash = true →
    (createdOf s.height txs).get (markerOf env f) = none

theorem GfOk.tail (hgf : GfOk env s (t :: rest)) (hh : sm.height = s.height) : GfOk env sm rest := by
  intro f hf hk hb
  have := hgf f (List.mem_cons_of_mem _ hf) hk hb
  rw [createdOf_cons _ t rest, Option.or_eq_none_iff] at this
  rw [hh]
  exact this.1

theorem abs_join (hpre : SPre env s (t :: rest)) (Ft : Facts env s [t] fb' relt spt sm)
    (hgf : GfOk env s (t :: rest)) (ha : Absent env s [t]) (hb : Absent env sm rest) :
    Absent env s (t :: rest) := by
  have hcr : ∀ f ∈ t :: rest, f.kind = .faucet → (createdOf s.height (t :: rest)).get (markerOf env f) = none := by
    intro f hf hk
    by_cases hg : env.isGrandfathered f.hash = true
    · exact hgf f hf hk hg
    · exact createdOf_none_of_hash (fun u hu => ((hpre.markers f hf hk (by simpa using hg)).1 u hu).2)
  intro f hf hk
  refine ⟨?_, hcr f hf hk⟩
  rcases List.mem_cons.mp hf with rfl | hf'
  · exact (ha f List.mem_cons_self hk).1
  · have b1 := (hb f hf' hk).1
    have c := hcr f hf hk
    rw [createdOf_cons _ t rest, Option.or_eq_none_iff] at c
    have m2 : markerOf env f ∉ [t].flatMap (·.inputs) := fun h =>
      hpre.notInp f hf hk t List.mem_cons_self (inputs_single.mp h)
    rw [Ft.coins, c.2] at b1
    simp only [m2, if_false] at b1
    split at b1
    · cases b1
    · exact b1

end split

section main
variable {env : Env} {s sm s₁ s₂ : State} {t : Tx} {rest : List Tx} {fb fb' : Header}
  {rel relt relr : Relevant} {sp spt spr : Nat}

theorem head_accept (hpre : SPre env s (t :: rest)) (hdep : Dep t rest)
    (F : Facts env s (t :: rest) fb rel sp s₁)
    (fb' : Header) : ∃ sm, applyBatch env s [t] fb' = .ok sm := by
  obtain ⟨hwf, hnd, hin, -, -⟩ := loadRelevantCoins_ok F.hrel
  rw [List.flatMap_cons, List.nodup_append] at hnd
  obtain ⟨relt, hrt⟩ := loadRel_ok_of (s := s) (txs := [t])
    (List.forall_mem_singleton.mpr (hwf t List.mem_cons_self))
    (by simpa using hnd.1)
    (fun inp hi => by
      have hi' := inputs_single.mp hi
      rcases hin inp (inputs_cons.mpr (Or.inl hi')) with h | h
      · exact Or.inl h
      · rw [createdOf_cons _ t rest, hdep.created _ inp hi', Option.none_or] at h
        exact Or.inr h)
  obtain ⟨spt, h1, -⟩ := speedFold_cons.mp F.hsp
  -- each condition on the batch `[t]` is the one on `t :: rest` at its head
  refine batch_accept hpre.head hrt (List.forall_mem_singleton.mpr (F.hstk t List.mem_cons_self))
    (List.forall_mem_singleton.mpr ?_) ((speed_head hdep F.hrel hrt).trans h1)
    (nextStatic_sub F.stat (List.forall_mem_singleton.mpr List.mem_cons_self) (by simp) (by simp)) (abs_head F.abs)
    (List.forall_mem_singleton.mpr (F.freshTx t List.mem_cons_self))
  rw [val_head hdep fb F.hrel hrt]
  exact F.hval t List.mem_cons_self

theorem tail_accept (hpre : SPre env s (t :: rest)) (hdep : Dep t rest)
    (F : Facts env s (t :: rest) fb rel sp s₁)
    (Ft : Facts env s [t] fb' relt spt sm) : ∃ s₂, applyBatch env sm rest fb' = .ok s₂ := by
  obtain ⟨hwf, -, hin, -, -⟩ := loadRelevantCoins_ok F.hrel
  obtain ⟨nd2, hdisj⟩ := inputs_apart F.hrel
  obtain ⟨relr, hrr⟩ := loadRel_ok_of (s := sm) (txs := rest)
    (fun tx htx => hwf tx (List.mem_cons_of_mem _ htx)) nd2
    (fun inp hi => by
      rw [Ft.height, Ft.coins]
      have m2 : inp ∉ [t].flatMap (·.inputs) := fun h => hdisj inp hi (inputs_single.mp h)
      simp only [m2, if_false]
      have := hin inp (inputs_cons.mpr (Or.inr hi))
      rw [createdOf_cons _ t rest] at this
      cases h1 : (createdOf s.height rest).get inp with
      | some c => exact Or.inr rfl
      | none =>
        rw [h1, Option.none_or] at this
        left
        cases h2 : (createdOf s.height [t]).get inp with
        | some c => rfl
        | none =>
          rw [h2] at this
          simp only [Option.isSome_none, Bool.false_eq_true, or_false] at this
          simp only
          split
          · rfl
          · exact this)
  refine batch_accept (step_pre hpre Ft) hrr ?_ ?_ ((speed_iff hpre hdep Ft F.hrel hrr hdisj sp).mp F.hsp)
    (nextStatic_congr (nextStatic_sub F.stat (fun x hx => List.mem_cons_of_mem _ hx)
      (List.nodup_cons.mp F.stat.nodup).2 hpre.tail.hashes) Ft.network Ft.feeMultiplier) (abs_tail hpre Ft F.abs)
    (fun a ha => by
      rw [Ft.txsEq, List.foldl_cons, List.foldl_nil, any_hash_insertTx,
        F.freshTx a (List.mem_cons_of_mem _ ha), Bool.false_or]
      have hn := hpre.hashes
      rw [List.map_cons, List.nodup_cons] at hn
      have : t.hash ≠ a.hash := fun e => hn.1 (List.mem_map.mpr ⟨a, ha, e.symm⟩)
      simpa using this)
  · intro a ha
    rw [stakeRes_congr Ft.network Ft.height]
    exact F.hstk a (List.mem_cons_of_mem _ ha)
  · intro u hu
    rw [val_tail hpre Ft fb F.hrel hrr hdisj u hu]
    exact F.hval u (List.mem_cons_of_mem _ hu)

theorem join_accept (hpre : SPre env s (t :: rest)) (hdep : Dep t rest)
    (hgf : GfOk env s (t :: rest))
    (Ft : Facts env s [t] fb' relt spt sm) (Fr : Facts env sm rest fb' relr spr s₂) (fb : Header) :
    ∃ s₁, applyBatch env s (t :: rest) fb = .ok s₁ := by
  have Rt := loadRelevantCoins_ok Ft.hrel
  have Rr := loadRelevantCoins_ok Fr.hrel
  have hdisj : ∀ id ∈ rest.flatMap (·.inputs), id ∉ t.inputs := by
    intro id h1 h2
    rcases Rr.inputs id h1 with h | h
    · rw [Ft.coins, if_pos (inputs_single.mpr h2)] at h
      cases h
    · rw [Ft.height, hdep.created _ id h2] at h
      cases h
  obtain ⟨rel, hr⟩ := loadRel_ok_of (s := s) (txs := t :: rest)
    (List.forall_mem_cons.mpr ⟨Rt.wf t List.mem_cons_self, Rr.wf⟩)
    (by
      rw [List.flatMap_cons, List.nodup_append]
      exact ⟨by simpa using Rt.nodup, Rr.nodup, fun a ha b hb e => hdisj b hb (e ▸ ha)⟩)
    (fun inp hi => by
      rw [createdOf_cons _ t rest]
      rcases inputs_cons.mp hi with h | h
      · rcases Rt.inputs inp (inputs_single.mpr h) with h' | h'
        · exact Or.inl h'
        · right
          rw [hdep.created _ inp h, Option.none_or]
          exact h'
      · have m2 : inp ∉ [t].flatMap (·.inputs) := fun h' => hdisj inp h (inputs_single.mp h')
        have m3 : inp ∉ markerIdsOf env [t] := fun hm => hpre.hm1 inp (markers_cons.mpr (Or.inl hm)) hi
        rcases Rr.inputs inp h with h' | h'
        · rw [Ft.coins] at h'
          simp only [m2, m3, if_false] at h'
          cases h2 : (createdOf s.height [t]).get inp with
          | some c => right; simp
          | none => rw [h2] at h'; left; exact h'
        · rw [Ft.height] at h'
          right
          simp [h'])
  -- each condition on `t :: rest` is the one on `[t]` at the head and the one on `rest` elsewhere
  refine batch_accept hpre hr (List.forall_mem_cons.mpr ⟨Ft.hstk t List.mem_cons_self, fun a h => ?_⟩)
    (List.forall_mem_cons.mpr ⟨?_, fun u h => ?_⟩) ((speed_iff hpre hdep Ft hr Fr.hrel hdisj spr).mpr Fr.hsp)
    ⟨nodup_of_hashes hpre.hashes, hpre.hashes, hpre.dist, hpre.notInp,
      List.forall_mem_cons.mpr ⟨Ft.stat.netOk t List.mem_cons_self, fun f h hk hm => Fr.stat.netOk f h hk (Ft.network ▸ hm)⟩,
      List.forall_mem_cons.mpr ⟨Ft.stat.fee t List.mem_cons_self, fun a h => ?_⟩⟩
    (abs_join hpre Ft hgf Ft.abs Fr.abs) (List.forall_mem_cons.mpr ⟨Ft.freshTx t List.mem_cons_self, fun a h => ?_⟩)
  · rw [← stakeRes_congr Ft.network Ft.height]
    exact Fr.hstk a h
  · rw [← val_head hdep fb hr Ft.hrel]
    exact Ft.hval t List.mem_cons_self
  · rw [← val_tail hpre Ft fb hr Fr.hrel hdisj u h]
    exact Fr.hval u h
  · rw [← Ft.feeMultiplier]
    exact Fr.stat.fee a h
  · have := Fr.freshTx a h
    rw [Ft.txsEq, List.foldl_cons, List.foldl_nil, any_hash_insertTx, Bool.or_eq_false_iff] at this
    exact this.1

theorem equiv_trans {a b c : State} (h1 : Equiv a b) (h2 : Equiv b c) : Equiv a c :=
  ⟨fun id => (h1.coins id).trans (h2.coins id), fun h => (h1.counts h).trans (h2.counts h),
   fun k => (h1.stakes k).trans (h2.stakes k), h1.txs.trans h2.txs, h1.feePool.trans h2.feePool,
   h1.tips.trans h2.tips, h1.feeMultiplier.trans h2.feeMultiplier, h1.doscSpeed.trans h2.doscSpeed,
   h1.pools.trans h2.pools, h1.history.trans h2.history, h1.height.trans h2.height,
   h1.network.trans h2.network⟩

theorem equiv_refl (a : State) : Equiv a a :=
  ⟨fun _ => rfl, fun _ => rfl, fun _ => rfl, rfl, rfl, rfl, rfl, rfl, rfl, rfl, rfl, rfl⟩

theorem split_coins (hpre : SPre env s (t :: rest)) (hdep : Dep t rest)
    (F : Facts env s (t :: rest) fb rel sp s₁) (Ft : Facts env s [t] fb' relt spt sm)
    (Fr : Facts env sm rest fb' relr spr s₂) (id : CoinID) :
    s₁.coins.getCoin id = s₂.coins.getCoin id := by
  rw [F.coins, Fr.coins, Ft.coins, Ft.height, createdOf_cons _ t rest]
  have a1 : id ∈ t.inputs → (createdOf s.height rest).get id = none := hdep.created _ id
  have a2 : id ∈ t.inputs → id ∉ markerIdsOf env rest := fun h hm =>
    hpre.hm1 id (markers_cons.mpr (Or.inr hm)) (inputs_cons.mpr (Or.inl h))
  have a3 : id ∈ markerIdsOf env rest → (createdOf s.height [t]).get id = none := by
    intro hm
    have := hpre.hm2 s.height id (markers_cons.mpr (Or.inr hm))
    rw [createdOf_cons _ t rest, Option.or_eq_none_iff] at this
    exact this.2
  have e1 := @inputs_cons t rest id
  have e2 := @markers_cons env t rest id
  simp only [e1, e2, inputs_single]
  by_cases c1 : id ∈ rest.flatMap (·.inputs)
  · simp [c1]
  · by_cases c2 : id ∈ t.inputs
    · simp [c1, c2, a1 c2, a2 c2]
    · cases c3 : (createdOf s.height rest).get id with
      | some c => simp [c1, c2]
      | none =>
        by_cases c4 : id ∈ markerIdsOf env rest
        · simp [c1, c2, c4, a3 c4]
        · cases c5 : (createdOf s.height [t]).get id <;> simp [c1, c2, c4]

theorem split_equiv (hpre : SPre env s (t :: rest)) (hdep : Dep t rest)
    (F : Facts env s (t :: rest) fb rel sp s₁) (Ft : Facts env s [t] fb' relt spt sm)
    (Fr : Facts env sm rest fb' relr spr s₂) : Equiv s₁ s₂ := by
  have htip : sm.tip906 = s.tip906 := tip906_eq Ft.network Ft.height
  have hcoins := split_coins hpre hdep F Ft Fr
  refine ⟨hcoins, ?_, ?_, ?_, ?_, ?_, F.feeMultiplier.trans (Fr.feeMultiplier.trans Ft.feeMultiplier).symm, ?_,
    F.pools.trans (Fr.pools.trans Ft.pools).symm, F.history.trans (Fr.history.trans Ft.history).symm,
    F.height.trans (Fr.height.trans Ft.height).symm, F.network.trans (Fr.network.trans Ft.network).symm⟩
  · intro a
    cases ht : s.tip906 with
    | true => exact C20_counts_determined _ _ (F.countsT ht) (Fr.countsT (htip.trans ht)) hcoins a
    | false =>
      simp only [CoinMap.coinCount]
      rw [F.countsF ht, Fr.countsF (htip.trans ht), Ft.countsF ht]
  · intro k
    rw [F.stakes, Fr.stakes, Ft.stakes, stakeMap_congr Ft.network Ft.height, stakeMap_cons s t rest,
      Option.or_assoc]
  · rw [F.txsEq, Fr.txsEq, Ft.txsEq]
    rfl
  · rw [F.feePool, Fr.feePool, Ft.feePool, Ft.feeMultiplier]
    rfl
  · rw [F.tips, Fr.tips, Ft.tips, Ft.feeMultiplier]
    rfl
  · rw [F.doscSpeed, Fr.doscSpeed]
    exact Outcome.ok.inj (((speed_iff hpre hdep Ft F.hrel Fr.hrel (inputs_apart F.hrel).2 sp).mp F.hsp).symm.trans Fr.hsp)

end main

theorem equiv_symm {a b : State} (h : Equiv a b) : Equiv b a :=
  ⟨fun id => (h.coins id).symm, fun k => (h.counts k).symm, fun k => (h.stakes k).symm, h.txs.symm,
   h.feePool.symm, h.tips.symm, h.feeMultiplier.symm, h.doscSpeed.symm, h.pools.symm, h.history.symm,
   h.height.symm, h.network.symm⟩

theorem split_main {env : Env} {s s₁ : State} {t : Tx} {rest : List Tx} {fb : Header}
    (hpre : SPre env s (t :: rest)) (hdep : Dep t rest)
    (h : applyBatch env s (t :: rest) fb = .ok s₁) (fb' : Header) :
    ∃ sm s₂, applyBatch env s [t] fb' = .ok sm ∧ applyBatch env sm rest fb' = .ok s₂ ∧ Equiv s₁ s₂ ∧
      SPre env sm rest ∧ sm.height = s.height ∧ sm.history = s.history := by
  obtain ⟨rel, sp, F⟩ := batch_facts hpre h
  obtain ⟨sm, hm⟩ := head_accept hpre hdep F fb'
  obtain ⟨relt, spt, Ft⟩ := batch_facts hpre.head hm
  obtain ⟨s₂, h2⟩ := tail_accept hpre hdep F Ft
  obtain ⟨relr, spr, Fr⟩ := batch_facts (step_pre hpre Ft) h2
  exact ⟨sm, s₂, hm, h2, split_equiv hpre hdep F Ft Fr, step_pre hpre Ft, Ft.height, Ft.history⟩

theorem join_main {env : Env} {s sm s₂ : State} {t : Tx} {rest : List Tx} {fb' : Header}
    (hpre : SPre env s (t :: rest)) (hdep : Dep t rest)
    (hgf : GfOk env s (t :: rest))
    (hm : applyBatch env s [t] fb' = .ok sm) (h2 : applyBatch env sm rest fb' = .ok s₂) (fb : Header) :
    ∃ s₁, applyBatch env s (t :: rest) fb = .ok s₁ ∧ Equiv s₁ s₂ := by
  obtain ⟨relt, spt, Ft⟩ := batch_facts hpre.head hm
  obtain ⟨relr, spr, Fr⟩ := batch_facts (step_pre hpre Ft) h2
  obtain ⟨s₁, h⟩ := join_accept hpre hdep hgf Ft Fr fb
  obtain ⟨rel, sp, F⟩ := batch_facts hpre h
  exact ⟨s₁, h, split_equiv hpre hdep F Ft Fr⟩

theorem step_main {env : Env} {s sm : State} {t : Tx} {rest : List Tx} {fb' : Header}
    (hpre : SPre env s (t :: rest)) (hm : applyBatch env s [t] fb' = .ok sm) :
    SPre env sm rest ∧ sm.height = s.height ∧ sm.history = s.history := by
  obtain ⟨relt, spt, Ft⟩ := batch_facts hpre.head hm
  exact ⟨step_pre hpre Ft, Ft.height, Ft.history⟩

theorem applyBatch_nil (env : Env) (s : State) (fb : Header) : applyBatch env s [] fb = .ok s := by
  rfl

def seqApply (env : Env) (s : State) (txs : List Tx) (fb : Header) : Outcome State :=
  Outcome.foldlM' (fun st tx => applyBatch env st [tx] fb) s txs

theorem seq_of_batch (env : Env) (fb' : Header) : ∀ (txs : List Tx) (s s₁ : State) (fb : Header),
    SPre env s txs → DepOrder txs →
    applyBatch env s txs fb = .ok s₁ → ∃ s₂, seqApply env s txs fb' = .ok s₂ ∧ Equiv s₁ s₂ := by
  intro txs
  induction txs with
  | nil =>
    intro s s₁ fb _ _ h
    rw [applyBatch_nil] at h
    cases h
    exact ⟨s, rfl, equiv_refl s⟩
  | cons t rest ih =>
    intro s s₁ fb hpre hdep h
    obtain ⟨sm, s₂, hm, h2, e, hpre', -, -⟩ := split_main hpre hdep.1 h fb'
    obtain ⟨s₃, hs, e'⟩ := ih sm s₂ fb' hpre' hdep.2 h2
    exact ⟨s₃, (Outcome.foldlM'_cons_ok _ _ _ _ _).mpr ⟨sm, hm, hs⟩, equiv_trans e e'⟩

theorem batch_of_seq (env : Env) (fb' : Header) : ∀ (txs : List Tx) (s s₂ : State) (fb : Header),
    SPre env s txs → DepOrder txs → GfOk env s txs →
    seqApply env s txs fb' = .ok s₂ → ∃ s₁, applyBatch env s txs fb = .ok s₁ ∧ Equiv s₁ s₂ := by
  intro txs
  induction txs with
  | nil =>
    intro s s₂ fb _ _ _ h
    cases h
    exact ⟨s, applyBatch_nil env s fb, equiv_refl s⟩
  | cons t rest ih =>
    intro s s₂ fb hpre hdep hgf h
    obtain ⟨sm, hm, hs⟩ := (Outcome.foldlM'_cons_ok _ _ _ _ _).mp h
    obtain ⟨hpre', e1, -⟩ := step_main hpre hm
    obtain ⟨s₁', h2, e'⟩ := ih sm s₂ fb' hpre' hdep.2 (hgf.tail e1) hs
    obtain ⟨s₁, h1, e⟩ := join_main hpre hdep.1 hgf hm h2 fb
    exact ⟨s₁, h1, equiv_trans e e'⟩

theorem batch_keeps {env : Env} {s s' : State} {txs : List Tx} {fb : Header}
    (h : applyBatch env s txs fb = .ok s') :
    s'.network = s.network ∧ s'.height = s.height ∧ s'.feeMultiplier = s.feeMultiplier ∧
    s'.history = s.history ∧ ∃ rel, loadRelevantCoins s txs = .ok rel ∧ speedFold env s rel txs = .ok s'.doscSpeed := by
  have F := applyBatch_frame h
  exact ⟨F.network, F.height, F.feeMultiplier, F.history, applyBatch_speed h⟩

theorem batch_speed_noMint {env : Env} {s s' : State} {txs : List Tx} {fb : Header}
    (h : applyBatch env s txs fb = .ok s') (hk : ∀ tx ∈ txs, tx.kind ≠ .doscMint) : s'.doscSpeed = s.doscSpeed := by
  obtain ⟨rel, -, hsp⟩ := applyBatch_speed h
  exact (spFold_spec hsp).noMint hk

theorem batch_speed_first {env : Env} {s s' : State} {txs : List Tx} {fb : Header}
    (h : applyBatch env s txs fb = .ok s') (hn : s.history.get (s.height - 1) = none) :
    s'.doscSpeed = s.doscSpeed := by
  obtain ⟨rel, -, hsp⟩ := applyBatch_speed h
  exact speedFold_first hn txs _ _ hsp

theorem batch_standIn {env : Env} {s s' : State} {txs : List Tx} {fb : Header}
    (h : applyBatch env s txs fb = .ok s') (hd : s'.doscSpeed = s.doscSpeed) :
    genesisStandIn s' = genesisStandIn s := by
  have F := applyBatch_frame h
  exact genesisStandIn_congr F.height F.network F.feeMultiplier hd

theorem batch_lastHeader {env : Env} {s s' : State} {txs : List Tx} {fb : Header}
    (h : applyBatch env s txs fb = .ok s') (fb₁ fb₂ : Header) : lastHeaderOf s' fb₁ = lastHeaderOf s fb₂ := by
  have F := applyBatch_frame h
  exact lastHeader_eq fb₂ fb₁ F.history F.height F.network F.feeMultiplier (batch_speed_first h)

end SeqL
end Mel

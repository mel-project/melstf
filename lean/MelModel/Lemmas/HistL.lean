/-
  For C01 and C18 along a run (Props/C01Hist.lean, Props/C18Hist.lean): the coins of the block's own transactions
  stay as declared (`Faithful`, Props/C01Seal.lean) along every accepted batch; the supply of the genesis state;
  `SpeedHist`, the DOSC speeds recorded in the history.
-/
import MelModel.Genesis
import MelModel.Chain
import MelModel.SupplyDefs
import MelModel.Lemmas.ReachL
import MelModel.Lemmas.WholeL
import MelModel.Props.C01Seal
namespace Mel
namespace HistL
open Mel.Gen

/-- `ReachL.applyBatch_source`, keeping the value and the denomination of a created coin (not only its covenant) -/
theorem applyBatch_source_full {env : Env} {s s' : State} {txs : List Tx} {fb : Header}
    (h : applyBatch env s txs fb = .ok s') (k : CoinID) (c : CoinDataHeight) (hk : s'.coins.getCoin k = some c) :
    s.coins.getCoin k = some c ∨
    (∃ tx ∈ txs, ∃ o, k.txhash = tx.hash ∧ tx.outputs[k.index]? = some o ∧ c.coinData.value = o.value ∧
      c.coinData.denom = createdDenom tx o) ∨
    (∃ f ∈ txs, insertsMarker env f = true ∧ k = BatchL.markerOf env f) := by
  obtain ⟨rel, newStakes, next, h1, -, -, h4, h5⟩ := applyBatch_ok h
  obtain ⟨hwf, -, -, r1, r2⟩ := loadRelevantCoins_ok h1
  rw [createNextState_eq] at h4
  rw [h5] at hk
  rcases ReachL.nextFold_source env _ txs _ _ h4 k c hk with h6 | h6
  · simp only at h6
    rw [getCoin_insFold] at h6
    have hrel : rel.get k = some c → s.coins.getCoin k = some c ∨
        (∃ tx ∈ txs, ∃ o, k.txhash = tx.hash ∧ tx.outputs[k.index]? = some o ∧ c.coinData.value = o.value ∧
          c.coinData.denom = createdDenom tx o) := by
      intro hr
      cases hcr : (createdOf s.height txs).get k with
      | none => exact Or.inl (r2 k c hcr hr)
      | some c' =>
        have := r1 k c' hcr
        rw [hr] at this; cases this
        obtain ⟨-, -, -, tx, htx, o, -, e1, e2, e3, -, -, e4⟩ :=
          createdOf_content (fun tx htx => ReachL.wellFormed_length (hwf tx htx).1) hcr
        exact Or.inr ⟨tx, htx, o, e1, e2, e3, e4⟩
    split at h6
    · cases hr : rel.get k with
      | none => rw [hr] at h6; exact Or.inl h6
      | some c' =>
        rw [hr] at h6
        simp only [Option.some.injEq] at h6; subst h6
        rcases hrel hr with h7 | h7
        · exact Or.inl h7
        · exact Or.inr (Or.inl h7)
    · exact Or.inl h6
  · exact Or.inr (Or.inr h6)

/-- `hsep`: the faucet markers the batch inserts keep clear of the transaction hashes of the block (the side
    conditions are those of `ReachL.applyBatch_slots`) -/
theorem applyBatch_faithful {env : Env} {s s' : State} {txs : List Tx} {fb : Header}
    (h : applyBatch env s txs fb = .ok s') (hsorted : s.txs.Pairwise C3.TxLt)
    (hhash : (txs.map (·.hash)).Nodup) (hfresh : ∀ t ∈ txs, ∀ i, s.coins.getCoin ⟨t.hash, i⟩ = none)
    (hfaith : Faithful s)
    (hsep : ∀ f ∈ txs, f.kind = .faucet → env.isGrandfathered f.hash = false →
      ∀ u, u ∈ txs ∨ u ∈ s.txs → env.fdp f.hash ≠ u.hash) : Faithful s' := by
  intro w hw i o' c ho' hc
  rw [(applyBatch_frame h).txsEq, (C3.foldl_insertTx_spec txs s.txs hsorted hhash).2 w] at hw
  rcases applyBatch_source_full h _ c hc with h1 | ⟨tx, htx, o, e1, e2, e3, e4⟩ | ⟨f, hf, hm, e⟩
  · rcases hw with hw | ⟨hw, -⟩
    · rw [hfresh w hw i] at h1; cases h1
    · exact hfaith w hw i o' c ho' h1
  · simp only at e1 e2
    rcases hw with hw | ⟨-, hall⟩
    · have : w = tx := eq_of_nodup_map (·.hash) hhash hw htx e1
      subst this
      rw [ho'] at e2
      cases e2
      exact ⟨e3, e4⟩
    · exact absurd e1.symm (hall tx htx)
  · simp only [insertsMarker, Bool.and_eq_true, decide_eq_true_eq, Bool.not_eq_true'] at hm
    injection e with e1 _
    have hu : w ∈ txs ∨ w ∈ s.txs := hw.elim Or.inl (fun x => Or.inr x.1)
    exact absurd e1.symm (hsep f hf hm.1 hm.2 w hu)

theorem faithful_of_txs_nil {s : State} (h : s.txs = []) : Faithful s := by
  intro tx htx
  rw [h] at htx
  cases htx

theorem genesis_supply (cfg : GenesisConfig) (d : Denom) :
    supply (genesisState cfg) d =
      (if cfg.initCoindata.denom = d then cfg.initCoindata.value else 0) +
      (if d = .mel then cfg.initFeePool else 0) := by
  have hc : (genesisState cfg).coins.coins = [(⟨zeroHash, 0⟩, ⟨cfg.initCoindata, 0⟩)] := by
    unfold genesisState
    simp only [CoinMap.coins_insertCoin]
    rfl
  unfold supply coinsTotal
  rw [hc]
  have hp : (genesisState cfg).pools = [] := rfl
  have hf : (genesisState cfg).feePool = cfg.initFeePool := rfl
  have ht : (genesisState cfg).tips = 0 := rfl
  rw [hp, hf, ht]
  by_cases h : cfg.initCoindata.denom = d <;> simp [h, poolsTotal]

theorem nextUnsealed_speed {env : Env} {ss : Sealed} {s' : State} (h : nextUnsealed env ss = .ok s') :
    s'.doscSpeed = ss.st.doscSpeed := by
  obtain ⟨hdr, c, -, e, -⟩ := nextUnsealed_shape h
  exact (congrArg State.doscSpeed e :)

theorem headerOf_speed {env : Env} {ss : Sealed} {hdr : Header} (h : headerOf env ss = .ok hdr) :
    hdr.doscSpeed = ss.st.doscSpeed := by
  obtain ⟨p, -, e⟩ := headerOf_ok env ss hdr h
  rw [e]

/-- the recorded headers lie below the current height, none records a speed above the current one, and the
    recorded speeds are sorted by height -/
structure SpeedHist (s : State) : Prop where
  below : ∀ h x, s.history.get h = some x → h < s.height
  le : ∀ h x, s.history.get h = some x → x.doscSpeed ≤ s.doscSpeed
  sorted : ∀ h₁ h₂ x₁ x₂, h₁ ≤ h₂ → s.history.get h₁ = some x₁ → s.history.get h₂ = some x₂ →
    x₁.doscSpeed ≤ x₂.doscSpeed

theorem speedHist_genesis (cfg : GenesisConfig) : SpeedHist (genesisState cfg) where
  below := fun h x hg => by simp [genesisState, AList.get] at hg
  le := fun h x hg => by simp [genesisState, AList.get] at hg
  sorted := fun h₁ h₂ x₁ x₂ _ hg => by simp [genesisState, AList.get] at hg

theorem speedHist_same {s s' : State} (hi : SpeedHist s) (e1 : s'.history = s.history) (e2 : s'.height = s.height)
    (e3 : s.doscSpeed ≤ s'.doscSpeed) : SpeedHist s' where
  below := fun h x hg => by rw [e1] at hg; rw [e2]; exact hi.below h x hg
  le := fun h x hg => by rw [e1] at hg; exact Nat.le_trans (hi.le h x hg) e3
  sorted := fun h₁ h₂ x₁ x₂ hle g1 g2 => by rw [e1] at g1 g2; exact hi.sorted h₁ h₂ x₁ x₂ hle g1 g2

theorem speedHist_next {s s' : State} {hdr : Header} (hi : SpeedHist s) (hsp : hdr.doscSpeed = s.doscSpeed)
    (e1 : s'.history = s.history.set s.height hdr) (e2 : s'.height = s.height + 1)
    (e3 : s'.doscSpeed = s.doscSpeed) : SpeedHist s' where
  below := by
    intro h x hg
    rw [e1] at hg; rw [e2]
    rcases (ReachL.get_set_top hi.below).mp hg with ⟨rfl, -⟩ | ⟨hlt, -⟩
    · exact Nat.lt_succ_self _
    · exact Nat.lt_succ_of_lt hlt
  le := by
    intro h x hg
    rw [e1] at hg; rw [e3]
    rcases (ReachL.get_set_top hi.below).mp hg with ⟨-, rfl⟩ | ⟨-, hg⟩
    · exact Nat.le_of_eq hsp
    · exact hi.le h x hg
  sorted := by
    intro h₁ h₂ x₁ x₂ hle g1 g2
    rw [e1] at g1 g2
    rcases (ReachL.get_set_top hi.below).mp g2 with ⟨-, rfl⟩ | ⟨hlt, g2⟩
    · -- the new header carries the current speed, which bounds every recorded one
      rcases (ReachL.get_set_top hi.below).mp g1 with ⟨-, rfl⟩ | ⟨-, g1⟩
      · exact Nat.le_refl _
      · rw [hsp]; exact hi.le h₁ x₁ g1
    · rcases (ReachL.get_set_top hi.below).mp g1 with ⟨c1, -⟩ | ⟨-, g1⟩
      · omega
      · exact hi.sorted h₁ h₂ x₁ x₂ hle g1 g2

end HistL
end Mel

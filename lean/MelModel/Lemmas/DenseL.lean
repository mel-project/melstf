/- the dense Merkle tree (MelModel/Merkle.lean): one level of the tree (`pairUp`) against one step of the verifier
   (`dstep`), then both directions by induction on the levels, and the padded leaves; used by MelModel/Props/C07.lean
   (completeness) and MelModel/Props/C07Dense.lean (soundness) -/
import MelModel.Merkle
import MelModel.Lemmas.MerkleL
namespace Mel.Merkle

theorem pairUp_length (H : Hashers) : ∀ lvl : List Hash, (pairUp H lvl).length = lvl.length / 2
  | [] => rfl
  | [_] => show 0 = 1 / 2 from rfl
  | _ :: _ :: rest => by
    show (pairUp H rest).length + 1 = (rest.length + 2) / 2
    rw [pairUp_length H rest, Nat.add_div_right _ (by decide : 0 < 2)]

theorem pairUp_getD (H : Hashers) : ∀ (lvl : List Hash) (j : Nat), 2 * j + 1 < lvl.length →
    (pairUp H lvl).getD j Z = hashNode H (lvl.getD (2 * j) Z) (lvl.getD (2 * j + 1) Z)
  | a :: b :: rest, 0, _ => rfl
  | a :: b :: rest, j + 1, hj =>
    pairUp_getD H rest j (Nat.lt_of_add_lt_add_right (Nat.lt_of_add_lt_add_right
      (show 2 * j + 1 + 1 + 1 < rest.length + 1 + 1 from hj)))

theorem xor_one_eq (i : Nat) : i ^^^ 1 = if i % 2 = 1 then 2 * (i / 2) else 2 * (i / 2) + 1 := by
  have h2 := Nat.div_add_mod (i ^^^ 1) 2
  rw [Nat.xor_div_two, show 1 / 2 = 0 from rfl, Nat.xor_zero] at h2
  have hx := @Nat.xor_mod_two_eq_one i 1
  rcases Nat.mod_two_eq_zero_or_one i with h | h
  · rw [hx.mpr fun hh => absurd (h ▸ hh.mpr rfl) (by decide)] at h2
    rw [h, if_neg (by decide)]; exact h2.symm
  · rcases Nat.mod_two_eq_zero_or_one (i ^^^ 1) with h' | h'
    · rw [h'] at h2; rw [if_pos h]; exact h2.symm
    · exact absurd ⟨fun _ => rfl, fun _ => h⟩ (hx.mp h')

/-- the step of `verifyDense` -/
def dstep (H : Hashers) (acc : Hash × Nat) (elem : Hash) : Hash × Nat :=
  (if acc.2 % 2 = 1 then hashNode H elem acc.1 else hashNode H acc.1 elem, acc.2 / 2)

theorem verifyDense_iff (H : Hashers) (proof : List Hash) (root : Hash) (i : Nat) (leaf : Hash) :
    verifyDense H proof root i leaf = true ↔ (proof.foldl (dstep H) (leaf, i)).1 = root :=
  beq_iff_eq

theorem dstep_sibling (H : Hashers) (lvl : List Hash) (i : Nat) (hi : 2 * (i / 2) + 1 < lvl.length) :
    dstep H (lvl.getD i Z, i) (lvl.getD (i ^^^ 1) Z) = ((pairUp H lvl).getD (i / 2) Z, i / 2) := by
  have hdm := Nat.div_add_mod i 2
  rw [pairUp_getD H lvl (i / 2) hi, xor_one_eq]
  unfold dstep
  by_cases hodd : i % 2 = 1
  · rw [hodd] at hdm
    simp only [if_pos hodd, hdm]
  · rw [(Nat.mod_two_eq_zero_or_one i).resolve_right hodd] at hdm
    simp only [if_neg hodd]
    rw [show 2 * (i / 2) = i from hdm]

theorem dstep_inj (H : Hashers) (hi : Injective H) (a a' s s' : Hash) (i : Nat)
    (h : (dstep H (a, i) s).1 = (dstep H (a', i) s').1) : a = a' ∧ s = s' := by
  unfold dstep at h
  by_cases hodd : i % 2 = 1
  · simp only [if_pos hodd] at h; exact (hashNode_inj H hi _ _ _ _ h).symm
  · simp only [if_neg hodd] at h; exact hashNode_inj H hi _ _ _ _ h

theorem half_lt {d i : Nat} (h : i < 2 ^ (d + 1)) : i / 2 < 2 ^ d ∧ 2 * (i / 2) + 1 < 2 ^ (d + 1) := by
  rw [Nat.pow_succ] at h ⊢
  have h1 : i / 2 < 2 ^ d := Nat.div_lt_of_lt_mul (Nat.mul_comm _ _ ▸ h)
  exact ⟨h1, Nat.mul_comm 2 _ ▸ Nat.mul_le_mul_left 2 h1⟩

theorem pairUp_length_pow (H : Hashers) {d : Nat} {lvl : List Hash} (hl : lvl.length = 2 ^ (d + 1)) :
    (pairUp H lvl).length = 2 ^ d := by
  rw [pairUp_length, hl, Nat.pow_succ, Nat.mul_div_cancel _ (by decide : 0 < 2)]

/-- completeness: the tree's own proof for position `i` folds from the hash at `i` to the root -/
theorem dense_levels (H : Hashers) (d : Nat) (lvl : List Hash) (i : Nat) (hl : lvl.length = 2 ^ d) (hi : i < 2 ^ d) :
    ((denseProofLevels H d lvl i).foldl (dstep H) (lvl.getD i Z, i)).1 = (reduce H d lvl).headD Z := by
  induction d generalizing lvl i with
  | zero =>
    cases Nat.lt_one_iff.mp hi
    match lvl, hl with
    | [a], _ => rfl
  | succ d ih =>
    show ((denseProofLevels H d (pairUp H lvl) (i / 2)).foldl (dstep H)
      (dstep H (lvl.getD i Z, i) (lvl.getD (i ^^^ 1) Z))).1 = (reduce H d (pairUp H lvl)).headD Z
    rw [dstep_sibling H lvl i (hl ▸ (half_lt hi).2)]
    exact ih (pairUp H lvl) (i / 2) (pairUp_length_pow H hl) (half_lt hi).1

/-- soundness: a fold of `d` steps from `(leaf, i)` that ends in the root started from the hash at position `i`, and
    its steps were the tree's own proof -/
theorem dense_levels_sound (H : Hashers) (hi : Injective H) (d : Nat) (lvl : List Hash) (i : Nat) (leaf : Hash)
    (proof : List Hash) (hl : lvl.length = 2 ^ d) (hidx : i < 2 ^ d) (hp : proof.length = d)
    (hv : (proof.foldl (dstep H) (leaf, i)).1 = (reduce H d lvl).headD Z) :
    leaf = lvl.getD i Z ∧ proof = denseProofLevels H d lvl i := by
  induction d generalizing lvl i leaf proof with
  | zero =>
    cases Nat.lt_one_iff.mp hidx
    match proof, hp, lvl, hl with
    | [], _, [a], _ => exact ⟨hv, rfl⟩
  | succ d ih =>
    match proof, hp with
    | s :: p, hp =>
      obtain ⟨hpar, hrest⟩ := ih (pairUp H lvl) (i / 2) (dstep H (leaf, i) s).1 p (pairUp_length_pow H hl)
        (half_lt hidx).1 (Nat.succ.inj hp) hv
      obtain ⟨h1, h2⟩ := dstep_inj H hi _ _ _ _ i
        (hpar.trans (congrArg Prod.fst (dstep_sibling H lvl i (hl ▸ (half_lt hidx).2))).symm)
      exact ⟨h1, by rw [h2, hrest]; rfl⟩

theorem denseProofLevels_length (H : Hashers) (d : Nat) (lvl : List Hash) (i : Nat) :
    (denseProofLevels H d lvl i).length = d := by
  induction d generalizing lvl i with
  | zero => rfl
  | succ d ih => exact congrArg (· + 1) (ih _ _)

theorem reduce_injective (H : Hashers) (hi : Injective H) (d : Nat) (lvl lvl' : List Hash)
    (hl : lvl.length = 2 ^ d) (hl' : lvl'.length = 2 ^ d)
    (hr : (reduce H d lvl).headD Z = (reduce H d lvl').headD Z) : lvl = lvl' := by
  apply List.ext_getElem (by rw [hl, hl'])
  intro i h₁ h₂
  have hidx : i < 2 ^ d := by omega
  have hc := dense_levels H d lvl i hl hidx
  rw [hr] at hc
  have hs := (dense_levels_sound H hi d lvl' i (lvl.getD i Z) (denseProofLevels H d lvl i) hl' hidx
    (denseProofLevels_length H d lvl i) hc).1
  simpa [List.getD_eq_getElem?_getD, h₁, h₂] using hs

theorem nextPow2_spec (m : Nat) : ∃ e, nextPow2 m = 2 ^ e ∧ m ≤ 2 ^ e := by
  unfold nextPow2
  split
  · exact ⟨0, rfl, by omega⟩
  · refine ⟨Nat.log2 (m - 1) + 1, rfl, ?_⟩
    have := @Nat.lt_log2_self (m - 1)
    omega

theorem denseLeaves_length_eq (H : Hashers) (blocks : List Bytes) :
    (denseLeaves H blocks).length = nextPow2 blocks.length := by
  obtain ⟨e, he, hle⟩ := nextPow2_spec blocks.length
  simp [denseLeaves, he]
  omega

theorem denseLeaves_length (H : Hashers) (blocks : List Bytes) :
    ∃ e, (denseLeaves H blocks).length = 2 ^ e ∧ blocks.length ≤ 2 ^ e := by
  obtain ⟨e, he, hle⟩ := nextPow2_spec blocks.length
  exact ⟨e, (denseLeaves_length_eq H blocks).trans he, hle⟩

theorem denseRoot_eq (H : Hashers) (blocks : List Bytes) {e : Nat} (he : (denseLeaves H blocks).length = 2 ^ e) :
    denseRoot H blocks = (reduce H e (denseLeaves H blocks)).headD Z := by
  simp only [denseRoot, he, Nat.log2_two_pow]

theorem denseLeaves_getD (H : Hashers) (blocks : List Bytes) (i : Nat) (hi : i < blocks.length) :
    (denseLeaves H blocks).getD i Z = hashData H (blocks.getD i []) := by
  simp [denseLeaves, List.getD_eq_getElem?_getD, List.getElem?_append_left, hi]

theorem denseLeaves_getD_pad (H : Hashers) (blocks : List Bytes) (i : Nat) (hi : blocks.length ≤ i) :
    (denseLeaves H blocks).getD i Z = Z := by
  simp only [denseLeaves, List.getD_eq_getElem?_getD]
  rw [List.getElem?_append_right (by simpa using hi)]
  simp only [List.getElem?_replicate]
  split <;> rfl

theorem getD_mem_ne (bs : List Bytes) (hne : ∀ x ∈ bs, x ≠ []) (i : Nat) (hi : i < bs.length) :
    bs.getD i [] ≠ [] := by
  rw [List.getD_eq_getElem?_getD, List.getElem?_eq_getElem hi]
  exact hne _ (List.getElem_mem hi)

end Mel.Merkle

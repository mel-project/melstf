/-
  Sealing, phase by phase: each function of `Melmint.lean` / `Seal.lean` that sealing runs is given its loop body
  under a name, one equation that exposes its shape, and from that equation what a successful run looks like
  (`_inv`), how to build one (`_of`), and which fields of the state it leaves alone (`SealFrame`).
-/
import MelModel.Lemmas.OutcomeL
import MelModel.Lemmas.MapL
import MelModel.Seal
namespace Mel
open Mel.Gen

/-! ### pool arithmetic: when `swap_many`, `deposit`, `withdraw` succeed, and with what -/

namespace PoolState

/-- the reserves `swap_many` computes with: the old ones plus what is paid in, saturating -/
def swapL (p : PoolState) (l : Nat) : Nat := satAdd128 p.lefts l
def swapR (p : PoolState) (r : Nat) : Nat := satAdd128 p.rights r
/-- what `swap_many` pays out on either side: the constant-product share less 0.5 % -/
def swapLW (p : PoolState) (l r : Nat) : Nat := satU128 (r * p.swapL l * 995 / (p.swapR r * 1000))
def swapRW (p : PoolState) (l r : Nat) : Nat := satU128 (l * p.swapR r * 995 / (p.swapL l * 1000))

def swapped (p : PoolState) (l r : Nat) : PoolState :=
  { p with lefts := p.swapL l - p.swapLW l r, rights := p.swapR r - p.swapRW l r,
           priceAccum := (p.priceAccum +
             satMul128 (p.swapL l - p.swapLW l r) MICRO_CONVERTER / (p.swapR r - p.swapRW l r)) % 2 ^ 128 }

theorem swapMany_eq (p : PoolState) (l r : Nat) : p.swapMany l r =
    if p.swapR r = 0 then .crash "melswap.rs: Ratio::new(lefts, 0)"
    else if p.swapL l = 0 then .crash "melswap.rs: division by a zero exchange rate"
    else if p.swapLW l r > p.swapL l then .crash "melswap.rs: lefts -= underflow"
    else if p.swapRW l r > p.swapR r then .crash "melswap.rs: rights -= underflow"
    else if p.swapR r - p.swapRW l r = 0 then .crash "melswap.rs: price_accum division by zero"
    else .ok (p.swapped l r, p.swapLW l r, p.swapRW l r) := rfl

theorem swapMany_eq_ok_iff {p : PoolState} {l r : Nat} {x : PoolState × Nat × Nat} :
    p.swapMany l r = .ok x ↔
      p.swapR r ≠ 0 ∧ p.swapL l ≠ 0 ∧ p.swapLW l r ≤ p.swapL l ∧ p.swapRW l r ≤ p.swapR r ∧
      p.swapR r - p.swapRW l r ≠ 0 ∧ x = (p.swapped l r, p.swapLW l r, p.swapRW l r) := by
  rw [swapMany_eq]
  constructor
  · intro e
    by_cases h1 : p.swapR r = 0
    · rw [if_pos h1] at e; cases e
    rw [if_neg h1] at e
    by_cases h2 : p.swapL l = 0
    · rw [if_pos h2] at e; cases e
    rw [if_neg h2] at e
    by_cases h3 : p.swapLW l r > p.swapL l
    · rw [if_pos h3] at e; cases e
    rw [if_neg h3] at e
    by_cases h4 : p.swapRW l r > p.swapR r
    · rw [if_pos h4] at e; cases e
    rw [if_neg h4] at e
    by_cases h5 : p.swapR r - p.swapRW l r = 0
    · rw [if_pos h5] at e; cases e
    rw [if_neg h5] at e
    exact ⟨h1, h2, Nat.le_of_not_gt h3, Nat.le_of_not_gt h4, h5, by cases e; rfl⟩
  · rintro ⟨h1, h2, h3, h4, h5, e⟩
    rw [if_neg h1, if_neg h2, if_neg (Nat.not_lt_of_ge h3), if_neg (Nat.not_lt_of_ge h4), if_neg h5, e]

theorem swapped_liqs (p : PoolState) (l r : Nat) : (p.swapped l r).liqs = p.liqs := by unfold swapped; rfl

/-- what is added to either reserve by a deposit into a pool with liquidity (saturating) -/
def depMels (p : PoolState) (l : Nat) : Nat := satAdd128 l p.lefts - p.lefts
def depTokens (p : PoolState) (r : Nat) : Nat := satAdd128 r p.rights - p.rights
def depLiqs (p : PoolState) (l r : Nat) : Nat :=
  satU128 (Nat.sqrt (p.liqs ^ 2 * (p.depMels l * p.depTokens r) / (p.lefts * p.rights)))

theorem deposit_eq_ok_iff {p : PoolState} {l r : Nat} {x : PoolState × Nat} :
    p.deposit l r = .ok x ↔
      (p.liqs = 0 ∧ x = ({ p with lefts := l, rights := r, liqs := l }, l)) ∨
      (p.liqs ≠ 0 ∧ p.lefts * p.rights ≠ 0 ∧
        x = ({ p with liqs := satAdd128 p.liqs (p.depLiqs l r), lefts := p.lefts + p.depMels l,
                      rights := p.rights + p.depTokens r }, p.depLiqs l r)) := by
  unfold deposit depLiqs depMels depTokens
  split
  · next h =>
    exact ⟨fun e => Or.inl ⟨h, by cases e; rfl⟩, fun e => e.elim (fun e => by rw [e.2]) (fun e => absurd h e.1)⟩
  · next h =>
    dsimp only
    split
    · next hz =>
      exact ⟨fun e => (by cases e), fun e => e.elim (fun e => absurd e.1 h) (fun e => absurd hz e.2.1)⟩
    · next hz =>
      exact ⟨fun e => Or.inr ⟨h, hz, by cases e; rfl⟩,
        fun e => e.elim (fun e => absurd e.1 h) (fun e => by rw [e.2.2])⟩

theorem withdraw_eq_ok_iff {p : PoolState} {q : Nat} {x : PoolState × Nat × Nat} :
    p.withdraw q = .ok x ↔
      q ≤ p.liqs ∧ p.liqs ≠ 0 ∧
      ((q = p.liqs ∧ x = ({ p with liqs := 0, lefts := 0, rights := 0 }, p.lefts, p.rights)) ∨
       (q < p.liqs ∧ x = ({ p with liqs := p.liqs - q, lefts := p.lefts - p.lefts * q / p.liqs,
                                   rights := p.rights - p.rights * q / p.liqs },
                          p.lefts * q / p.liqs, p.rights * q / p.liqs))) := by
  unfold withdraw
  by_cases h1 : p.liqs < q
  · rw [if_pos h1]; exact ⟨fun e => (by cases e), fun e => absurd h1 (Nat.not_lt_of_ge e.1)⟩
  rw [if_neg h1]
  by_cases h2 : p.liqs = 0
  · rw [if_pos h2]; exact ⟨fun e => (by cases e), fun e => absurd h2 e.2.1⟩
  rw [if_neg h2]
  have hle : q ≤ p.liqs := Nat.le_of_not_lt h1
  dsimp only
  by_cases h3 : p.liqs - q = 0
  · have hq : q = p.liqs := Nat.le_antisymm hle (Nat.le_of_sub_eq_zero h3)
    rw [if_pos h3]
    exact ⟨fun e => ⟨hle, h2, Or.inl ⟨hq, by cases e; rfl⟩⟩,
      fun e => e.2.2.elim (fun e => by rw [e.2]) (fun e => absurd hq (Nat.ne_of_lt e.1))⟩
  · have hq : q < p.liqs := Nat.lt_of_le_of_ne hle (fun e => h3 (by rw [e]; exact Nat.sub_self _))
    rw [if_neg h3]
    exact ⟨fun e => ⟨hle, h2, Or.inr ⟨hq, by cases e; rfl⟩⟩,
      fun e => e.2.2.elim (fun e => absurd e.1 (Nat.ne_of_lt hq)) (fun e => by rw [e.2])⟩

end PoolState

/-! ### loop bodies and totals of the three settlement phases -/

namespace SettleBlockL

/-- the first / second output of a transaction as the settlement code reads it -/
abbrev out0 (tx : Tx) : CoinData := tx.outputs.headD default
abbrev out1 (tx : Tx) : CoinData := (tx.outputs.drop 1).headD default

end SettleBlockL
open SettleBlockL

def swapTL (k : PoolKey) (swaps : List Tx) : Nat :=
  satSum (swaps.map fun tx => if (tx.outputs.headD default).denom = k.left then (tx.outputs.headD default).value else 0)
def swapTR (k : PoolKey) (swaps : List Tx) : Nat :=
  satSum (swaps.map fun tx => if (tx.outputs.headD default).denom = k.right then (tx.outputs.headD default).value else 0)

def depTL (deps : List Tx) : Nat := satSum (deps.map fun tx => (tx.outputs.headD default).value)
def depTR (deps : List Tx) : Nat := satSum (deps.map fun tx => ((tx.outputs.drop 1).headD default).value)

def wdT (reqs : List Tx) : Nat := satSum (reqs.map fun tx => (tx.outputs.headD default).value)

namespace SettleBlockL

/-- the coin a swap request is rewritten to (`process_swaps_for_single_pool`, loop body) -/
def swapCoin (k : PoolKey) (lw rw tl tr : Nat) (tx : Tx) : Outcome CoinData :=
  if (out0 tx).denom = k.left then (multiplyFrac rw (out0 tx).value tl).bind fun v =>
      .ok ({ out0 tx with denom := k.right, value := min v MAX_COINVAL } : CoinData)
  else (multiplyFrac lw (out0 tx).value tr).bind fun v =>
      .ok ({ out0 tx with denom := k.left, value := min v MAX_COINVAL } : CoinData)

def swapStep (k : PoolKey) (height : Nat) (tip : Bool) (lw rw tl tr : Nat) (coins : CoinMap) (tx : Tx) :
    Outcome CoinMap :=
  (swapCoin k lw rw tl tr tx).bind fun cd =>
    .ok (coins.insertCoin (outCoinID tx 0) { coinData := cd, height := height } tip)

/-- the weight of a depositor: `mtsqrt(lefts, rights)` of the two amounts paid in -/
def depW (tx : Tx) : Nat := mtsqrt (out0 tx).value (out1 tx).value
def depTW (deps : List Tx) : Nat := satSum (deps.map depW)

def depStep (env : Env) (k : PoolKey) (height : Nat) (tip legacy : Bool) (minted tw : Nat) (coins : CoinMap)
    (tx : Tx) : Outcome CoinMap :=
  (multiplyFrac minted (depW tx) tw).bind fun v =>
    let cd : CoinData := { out0 tx with denom := liqTokenDenom env k, value := v }
    let coins1 := coins.insertCoin (outCoinID tx 0) { coinData := cd, height := height } tip
    if legacy then .ok coins1 else coins1.removeCoin (outCoinID tx 1) tip

def wdStep (k : PoolKey) (height : Nat) (tip : Bool) (tl tr total : Nat) (coins : CoinMap) (tx : Tx) :
    Outcome CoinMap :=
  (multiplyFrac tl (out0 tx).value total).bind fun vl =>
  (multiplyFrac tr (out0 tx).value total).bind fun vr =>
    let c0 : CoinData := { out0 tx with denom := k.left, value := vl }
    let c1 : CoinData := { out0 tx with denom := k.right, value := vr }
    .ok ((coins.insertCoin (outCoinID tx 0) { coinData := c0, height := height } tip).insertCoin
           (outCoinID tx 1) { coinData := c1, height := height } tip)

/-- the swap requests of the block that name pool `k`, as `process_swaps` selects them -/
def swapReqs (s : State) (k : PoolKey) : List Tx := transactionsForPool (s.txs.filter (isSwapRequest s)) k

def depReqs (s : State) (k : PoolKey) : List Tx := transactionsForPool (s.txs.filter (isDepositRequest s)) k

def wdReqs (env : Env) (s : State) (k : PoolKey) : List Tx :=
  transactionsForPool (s.txs.filter (isWithdrawRequest env s)) k

end SettleBlockL

/-! ### one pool of one phase: the equation, its inversion, its construction -/

theorem processSwapsForPool_eq (k : PoolKey) (s : State) (l : List Tx) :
    processSwapsForPool k s l =
      match s.pools.get k with
      | none => .crash "melmint.rs: pools.get(pool).unwrap()"
      | some p => (p.swapMany (swapTL k l) (swapTR k l)).bind fun (p', lw, rw) =>
          (Outcome.foldlM' (swapStep k s.height s.tip906 lw rw (swapTL k l) (swapTR k l)) s.coins l).bind fun c =>
            .ok { s with coins := c, pools := s.pools.set k p' } := by
  unfold processSwapsForPool
  cases s.pools.get k with
  | none => rfl
  | some p =>
    dsimp only [swapTL, swapTR]
    generalize p.swapMany _ _ = x
    cases x <;> rfl

theorem processSwapsForPool_inv {k : PoolKey} {s s' : State} {swaps : List Tx}
    (h : processSwapsForPool k s swaps = .ok s') :
    ∃ p p' lw rw coins, s.pools.get k = some p ∧
      p.swapMany (swapTL k swaps) (swapTR k swaps) = .ok (p', lw, rw) ∧
      Outcome.foldlM' (swapStep k s.height s.tip906 lw rw (swapTL k swaps) (swapTR k swaps)) s.coins swaps
        = .ok coins ∧
      s' = { s with coins := coins, pools := s.pools.set k p' } := by
  rw [processSwapsForPool_eq] at h
  cases hp : s.pools.get k with
  | none => rw [hp] at h; cases h
  | some p =>
    rw [hp] at h
    obtain ⟨⟨p', lw, rw⟩, hsm, h⟩ := Outcome.bind_eq_ok.mp h
    obtain ⟨coins, hc, h⟩ := Outcome.bind_eq_ok.mp h
    cases h
    exact ⟨p, p', lw, rw, coins, rfl, hsm, hc, rfl⟩

theorem processSwapsForPool_of {k : PoolKey} {s : State} {swaps : List Tx} {p p' : PoolState} {lw rw : Nat}
    {coins : CoinMap} (hp : s.pools.get k = some p)
    (hsm : p.swapMany (swapTL k swaps) (swapTR k swaps) = .ok (p', lw, rw))
    (hc : Outcome.foldlM' (swapStep k s.height s.tip906 lw rw (swapTL k swaps) (swapTR k swaps)) s.coins swaps
        = .ok coins) :
    processSwapsForPool k s swaps = .ok { s with coins := coins, pools := s.pools.set k p' } := by
  rw [processSwapsForPool_eq, hp]
  show (p.swapMany _ _).bind _ = _
  rw [hsm]
  show (Outcome.foldlM' _ _ _).bind _ = _
  rw [hc]
  rfl

theorem processDepositsForPool_eq (env : Env) (k : PoolKey) (s : State) (l : List Tx) :
    processDepositsForPool env k s l =
      (((s.pools.get k).getD PoolState.newEmpty).deposit (depTL l) (depTR l)).bind fun (p', minted) =>
        if ((s.pools.get k).getD PoolState.newEmpty).liqs + minted > U128_MAX then .ok s else
        (Outcome.foldlM' (depStep env k s.height s.tip906 (legacyDeposit s) minted (depTW l)) s.coins l).bind fun c =>
          .ok { s with coins := c, pools := s.pools.set k p' } := by
  unfold processDepositsForPool
  dsimp only [depTL, depTR]
  generalize PoolState.deposit _ _ _ = x
  cases x <;> rfl

theorem processDepositsForPool_inv {env : Env} {k : PoolKey} {s s' : State} {deps : List Tx}
    (h : processDepositsForPool env k s deps = .ok s') :
    ∃ p' minted, ((s.pools.get k).getD PoolState.newEmpty).deposit (depTL deps) (depTR deps) = .ok (p', minted) ∧
      ((((s.pools.get k).getD PoolState.newEmpty).liqs + minted > U128_MAX ∧ s' = s) ∨
       (¬ ((s.pools.get k).getD PoolState.newEmpty).liqs + minted > U128_MAX ∧ ∃ coins,
          Outcome.foldlM' (depStep env k s.height s.tip906 (legacyDeposit s) minted (depTW deps)) s.coins deps
            = .ok coins ∧
          s' = { s with coins := coins, pools := s.pools.set k p' })) := by
  rw [processDepositsForPool_eq] at h
  obtain ⟨⟨p', minted⟩, hdep, h⟩ := Outcome.bind_eq_ok.mp h
  refine ⟨p', minted, hdep, ?_⟩
  dsimp only at h
  split at h
  · next hsat => cases h; exact Or.inl ⟨hsat, rfl⟩
  · next hsat =>
    obtain ⟨coins, hc, h⟩ := Outcome.bind_eq_ok.mp h
    cases h
    exact Or.inr ⟨hsat, coins, hc, rfl⟩

theorem processDepositsForPool_skip {env : Env} {k : PoolKey} {s : State} {deps : List Tx} {p' : PoolState}
    {minted : Nat}
    (hdep : ((s.pools.get k).getD PoolState.newEmpty).deposit (depTL deps) (depTR deps) = .ok (p', minted))
    (hsat : ((s.pools.get k).getD PoolState.newEmpty).liqs + minted > U128_MAX) :
    processDepositsForPool env k s deps = .ok s := by
  rw [processDepositsForPool_eq, hdep]
  exact if_pos hsat

theorem processDepositsForPool_of {env : Env} {k : PoolKey} {s : State} {deps : List Tx} {p' : PoolState}
    {minted : Nat} {coins : CoinMap}
    (hdep : ((s.pools.get k).getD PoolState.newEmpty).deposit (depTL deps) (depTR deps) = .ok (p', minted))
    (hfit : ¬ ((s.pools.get k).getD PoolState.newEmpty).liqs + minted > U128_MAX)
    (hc : Outcome.foldlM' (depStep env k s.height s.tip906 (legacyDeposit s) minted (depTW deps)) s.coins deps
        = .ok coins) :
    processDepositsForPool env k s deps = .ok { s with coins := coins, pools := s.pools.set k p' } := by
  rw [processDepositsForPool_eq, hdep]
  show (if _ then _ else (Outcome.foldlM' _ _ _).bind _) = _
  rw [if_neg hfit, hc]
  rfl

theorem processWithdrawalsForPool_eq (k : PoolKey) (s : State) (l : List Tx) :
    processWithdrawalsForPool k s l =
      match s.pools.get k with
      | none => .crash "melmint.rs: pools.get(pool).unwrap()"
      | some p =>
        if wdT l > p.liqs then .ok s else
        (p.withdraw (wdT l)).bind fun (p', tl, tr) =>
          (Outcome.foldlM' (wdStep k s.height s.tip906 tl tr (wdT l)) s.coins l).bind fun c =>
            .ok { s with coins := c, pools := s.pools.set k p' } := by
  unfold processWithdrawalsForPool
  cases s.pools.get k with
  | none => rfl
  | some p =>
    dsimp only [wdT]
    refine ite_congr rfl (fun _ => rfl) (fun _ => ?_)
    generalize PoolState.withdraw _ _ = x
    cases x <;> rfl

theorem processWithdrawalsForPool_inv {k : PoolKey} {s s' : State} {reqs : List Tx}
    (h : processWithdrawalsForPool k s reqs = .ok s') :
    ∃ p, s.pools.get k = some p ∧
      ((wdT reqs > p.liqs ∧ s' = s) ∨
       (¬ wdT reqs > p.liqs ∧ ∃ p' tl tr coins, p.withdraw (wdT reqs) = .ok (p', tl, tr) ∧
          Outcome.foldlM' (wdStep k s.height s.tip906 tl tr (wdT reqs)) s.coins reqs = .ok coins ∧
          s' = { s with coins := coins, pools := s.pools.set k p' })) := by
  rw [processWithdrawalsForPool_eq] at h
  cases hp : s.pools.get k with
  | none => rw [hp] at h; cases h
  | some p =>
    rw [hp] at h
    refine ⟨p, rfl, ?_⟩
    dsimp only at h
    split at h
    · next hgt => cases h; exact Or.inl ⟨hgt, rfl⟩
    · next hgt =>
      obtain ⟨⟨p', tl, tr⟩, hw, h⟩ := Outcome.bind_eq_ok.mp h
      obtain ⟨coins, hc, h⟩ := Outcome.bind_eq_ok.mp h
      cases h
      exact Or.inr ⟨hgt, p', tl, tr, coins, hw, hc, rfl⟩

theorem processWithdrawalsForPool_skip {k : PoolKey} {s : State} {reqs : List Tx} {p : PoolState}
    (hp : s.pools.get k = some p) (hgt : wdT reqs > p.liqs) :
    processWithdrawalsForPool k s reqs = .ok s := by
  rw [processWithdrawalsForPool_eq, hp]
  exact if_pos hgt

theorem processWithdrawalsForPool_of {k : PoolKey} {s : State} {reqs : List Tx} {p p' : PoolState} {tl tr : Nat}
    {coins : CoinMap} (hp : s.pools.get k = some p) (hle : ¬ wdT reqs > p.liqs)
    (hw : p.withdraw (wdT reqs) = .ok (p', tl, tr))
    (hc : Outcome.foldlM' (wdStep k s.height s.tip906 tl tr (wdT reqs)) s.coins reqs = .ok coins) :
    processWithdrawalsForPool k s reqs = .ok { s with coins := coins, pools := s.pools.set k p' } := by
  rw [processWithdrawalsForPool_eq, hp]
  show (if _ then _ else (p.withdraw _).bind _) = _
  rw [if_neg hle, hw]
  show (Outcome.foldlM' _ _ _).bind _ = _
  rw [hc]
  rfl

/-! ### a whole phase: every pool named by a request, in key order -/

def swapKeys (s : State) : List PoolKey := extractPoolKeysSorted (s.txs.filter (isSwapRequest s))
def depKeys (s : State) : List PoolKey := extractPoolKeysSorted (s.txs.filter (isDepositRequest s))
def wdKeys (env : Env) (s : State) : List PoolKey := extractPoolKeysSorted (s.txs.filter (isWithdrawRequest env s))

theorem processSwaps_eq (s : State) : processSwaps s =
    Outcome.foldlM' (fun st k => processSwapsForPool k st (swapReqs s k)) s (swapKeys s) := rfl

theorem processDeposits_eq (env : Env) (s : State) : processDeposits env s =
    Outcome.foldlM' (fun st k => processDepositsForPool env k st (depReqs s k)) s (depKeys s) := rfl

theorem processWithdrawals_eq (env : Env) (s : State) : processWithdrawals env s =
    Outcome.foldlM' (fun st k => processWithdrawalsForPool k st (wdReqs env s k)) s (wdKeys env s) := rfl

/-! ### pegging, cut into pieces (the pieces are literal copies of the text of `processPegging`) -/

def pegGet (s : State) (k : PoolKey) : Outcome PoolState :=
  match s.pools.get k with
  | some p => .ok p
  | none => .crash "melmint.rs: builtin pool missing (unwrap)"

def pegXsd (s : State) : Outcome (Nat × Nat) :=
  if s.tip902 then
    (pegGet s poolErgSym).bind fun p =>
      if p.rights = 0 then .crash "melswap.rs: implied_price Ratio::new(_, 0)"
      else if p.lefts = 0 then .crash "melmint.rs: recip of zero"
      else .ok (p.rights, p.lefts)
  else
    (pegGet s poolMelSym).bind fun ps =>
    (pegGet s poolMelErg).bind fun pd =>
      if ps.rights = 0 || pd.rights = 0 then .crash "melswap.rs: implied_price Ratio::new(_, 0)"
      else if ps.lefts = 0 || pd.lefts = 0 then .crash "melmint.rs: recip of zero"
      else .ok (ps.rights * pd.lefts, ps.lefts * pd.rights)

def pegStep1 (sm : PoolState) (dm t : Nat) : Outcome PoolState :=
  if dm > sm.lefts then
    (sm.swapMany ((dm - sm.lefts) / t) 0).bind fun (p, _, _) => .ok p
  else .ok sm

def pegStep2 (sm1 : PoolState) (ds t : Nat) : Outcome PoolState :=
  if ds > sm1.rights then
    (sm1.swapMany 0 ((ds - sm1.rights) / t)).bind fun (p, _, _) => .ok p
  else .ok sm1

def pegTail (s : State) (sm : PoolState) (a b : Nat) : Outcome State :=
  let throttler := if s.tip902 then THROTTLER_902 else THROTTLER_PRE
  let konstant := sm.lefts * sm.rights
  let infl := microergsIter s.height
  let num := infl * a
  let den := MICRO_CONVERTER * b
  if num = 0 then .crash "melmint.rs: division by a zero desired exchange rate" else
  let desiredMel := satU128 (Nat.sqrt (konstant * den / num))
  let desiredSym := satU128 (Nat.sqrt (konstant * num / den))
  (pegStep1 sm desiredMel throttler).bind fun sm1 =>
  (pegStep2 sm1 desiredSym throttler).bind fun sm2 => .ok { s with pools := s.pools.set poolMelSym sm2 }

theorem processPegging_eq (s : State) :
    processPegging s = (pegXsd s).bind fun (a, b) => (pegGet s poolMelSym).bind fun sm => pegTail s sm a b := rfl

/-- the divisor that limits how far one block moves the peg -/
def throttlerOf (s : State) : Nat := if s.tip902 then THROTTLER_902 else THROTTLER_PRE

theorem pegGet_inv {s : State} {k : PoolKey} {p : PoolState} (h : pegGet s k = .ok p) : s.pools.get k = some p := by
  unfold pegGet at h
  split at h
  · next hp => cases h; exact hp
  · cases h

theorem pegGet_of {s : State} {k : PoolKey} {p : PoolState} (h : s.pools.get k = some p) : pegGet s k = .ok p := by
  unfold pegGet; rw [h]

theorem pegStep1_inv {sm p : PoolState} {dm t : Nat} (h : pegStep1 sm dm t = .ok p) :
    p = sm ∨ ∃ lw rw, sm.swapMany ((dm - sm.lefts) / t) 0 = .ok (p, lw, rw) := by
  unfold pegStep1 at h
  split at h
  · obtain ⟨⟨p', lw, rw⟩, hs, h⟩ := Outcome.bind_eq_ok.mp h
    cases h
    exact Or.inr ⟨lw, rw, hs⟩
  · cases h; exact Or.inl rfl

theorem pegStep2_inv {sm p : PoolState} {ds t : Nat} (h : pegStep2 sm ds t = .ok p) :
    p = sm ∨ ∃ lw rw, sm.swapMany 0 ((ds - sm.rights) / t) = .ok (p, lw, rw) := by
  unfold pegStep2 at h
  split at h
  · obtain ⟨⟨p', lw, rw⟩, hs, h⟩ := Outcome.bind_eq_ok.mp h
    cases h
    exact Or.inr ⟨lw, rw, hs⟩
  · cases h; exact Or.inl rfl

theorem processPegging_inv {s s' : State} (h : processPegging s = .ok s') :
    ∃ sm sm1 sm2 dm ds, s.pools.get poolMelSym = some sm ∧ dm ≤ U128_MAX ∧ ds ≤ U128_MAX ∧
      pegStep1 sm dm (throttlerOf s) = .ok sm1 ∧ pegStep2 sm1 ds (throttlerOf s) = .ok sm2 ∧
      s' = { s with pools := s.pools.set poolMelSym sm2 } := by
  rw [processPegging_eq] at h
  obtain ⟨⟨a, b⟩, _, h⟩ := Outcome.bind_eq_ok.mp h
  obtain ⟨sm, hsm, h⟩ := Outcome.bind_eq_ok.mp h
  unfold pegTail at h
  dsimp only at h
  split at h
  · cases h
  · obtain ⟨sm1, h1, h⟩ := Outcome.bind_eq_ok.mp h
    obtain ⟨sm2, h2, h⟩ := Outcome.bind_eq_ok.mp h
    cases h
    exact ⟨sm, sm1, sm2, _, _, pegGet_inv hsm, Nat.min_le_right _ _, Nat.min_le_right _ _, h1, h2, rfl⟩

theorem processPegging_state {s s' : State} (h : processPegging s = .ok s') :
    ∃ p, s' = { s with pools := s.pools.set poolMelSym p } := by
  obtain ⟨_, _, p, _, _, _, _, _, _, _, e⟩ := processPegging_inv h
  exact ⟨p, e⟩

/-! ### the TIP-909 subsidy -/

theorem poolMelSym_ne_poolMelErg : poolMelSym ≠ poolMelErg := by decide
theorem poolMelSym_ne_poolErgSym : poolMelSym ≠ poolErgSym := by decide
theorem poolMelErg_ne_poolErgSym : poolMelErg ≠ poolErgSym := by decide

def tip909Reward (height : Nat) : Nat := 2 ^ SUBSIDY_LOG2 / 2 ^ ((height - TIP_909_HEIGHT) / SUBSIDY_HALVING)

/-- the part of the subsidy (in SYM) that is swapped into the fee pool -/
def tip909FeeSubsidy (s : State) : Nat :=
  if s.tip909a then tip909Reward s.height - tip909Reward s.height / 2 ^ SUBSIDY_ERG_SHIFT
  else tip909Reward s.height / 2

/-- the part of the subsidy (in SYM) that is swapped into the ERG/SYM pool and burnt -/
def tip909ErgSubsidy (s : State) : Nat :=
  if s.tip909a then tip909Reward s.height / 2 ^ SUBSIDY_ERG_SHIFT
  else tip909Reward s.height - tip909FeeSubsidy s

theorem tip909_subsidies (s : State) : tip909FeeSubsidy s + tip909ErgSubsidy s = tip909Reward s.height := by
  unfold tip909ErgSubsidy tip909FeeSubsidy
  split
  · exact Nat.sub_add_cancel (Nat.div_le_self _ _)
  · exact Nat.add_sub_cancel' (Nat.div_le_self _ _)

theorem tip909_subsidies_le (s : State) : tip909FeeSubsidy s ≤ U128_MAX ∧ tip909ErgSubsidy s ≤ U128_MAX := by
  have h := tip909_subsidies s
  have hr : tip909Reward s.height ≤ U128_MAX :=
    Nat.le_trans (Nat.div_le_self _ _) (by decide)
  omega

theorem applyTip909_eq (s : State) : applyTip909 s =
    if (s.height - TIP_909_HEIGHT) / SUBSIDY_HALVING ≥ 128 then
      .crash "state.rs: shift amount overflow in apply_tip_909" else
    match s.pools.get poolMelSym with
    | none => .crash "state.rs: MEL/SYM pool missing (unwrap)"
    | some sm =>
      (sm.swapMany 0 (tip909FeeSubsidy s)).bind fun (sm', mel, _) =>
      if s.feePool + mel > U128_MAX then .crash "state.rs: fee_pool += overflow" else
      match (s.pools.set poolMelSym sm').get poolErgSym with
      | none => .crash "state.rs: ERG/SYM pool missing (unwrap)"
      | some es =>
        (es.swapMany 0 (tip909ErgSubsidy s)).bind fun (es', _, _) =>
        .ok { s with pools := (s.pools.set poolMelSym sm').set poolErgSym es', feePool := s.feePool + mel } := by
  unfold applyTip909 tip909ErgSubsidy tip909FeeSubsidy tip909Reward
  rfl

theorem applyTip909_inv {s s' : State} (h : applyTip909 s = .ok s') :
    ∃ sm es, (s.height - TIP_909_HEIGHT) / SUBSIDY_HALVING < 128 ∧
      s.pools.get poolMelSym = some sm ∧
      sm.swapMany 0 (tip909FeeSubsidy s) = .ok (sm.swapped 0 (tip909FeeSubsidy s),
        sm.swapLW 0 (tip909FeeSubsidy s), sm.swapRW 0 (tip909FeeSubsidy s)) ∧
      s.feePool + sm.swapLW 0 (tip909FeeSubsidy s) ≤ U128_MAX ∧
      s.pools.get poolErgSym = some es ∧
      es.swapMany 0 (tip909ErgSubsidy s) = .ok (es.swapped 0 (tip909ErgSubsidy s),
        es.swapLW 0 (tip909ErgSubsidy s), es.swapRW 0 (tip909ErgSubsidy s)) ∧
      s' = { s with pools := (s.pools.set poolMelSym (sm.swapped 0 (tip909FeeSubsidy s))).set poolErgSym
                      (es.swapped 0 (tip909ErgSubsidy s)),
                    feePool := s.feePool + sm.swapLW 0 (tip909FeeSubsidy s) } := by
  rw [applyTip909_eq] at h
  split at h
  · cases h
  · next hdiv =>
    cases hsm : s.pools.get poolMelSym with
    | none => rw [hsm] at h; cases h
    | some sm =>
      rw [hsm] at h
      obtain ⟨x1, h1, h⟩ := Outcome.bind_eq_ok.mp h
      obtain ⟨_, _, _, _, _, rfl⟩ := PoolState.swapMany_eq_ok_iff.mp h1
      dsimp only at h
      split at h
      · cases h
      · next hfee =>
        rw [AList.get_set_ne _ _ poolMelSym_ne_poolErgSym.symm] at h
        cases hes : s.pools.get poolErgSym with
        | none => rw [hes] at h; cases h
        | some es =>
          rw [hes] at h
          obtain ⟨x2, h2, h⟩ := Outcome.bind_eq_ok.mp h
          obtain ⟨_, _, _, _, _, rfl⟩ := PoolState.swapMany_eq_ok_iff.mp h2
          cases h
          exact ⟨sm, es, Nat.lt_of_not_ge hdiv, rfl, h1, Nat.le_of_not_gt hfee, rfl, h2, rfl⟩

theorem applyTip909_state {s s' : State} (h : applyTip909 s = .ok s') :
    ∃ p q mel, s' = { s with pools := (s.pools.set poolMelSym p).set poolErgSym q, feePool := s.feePool + mel } := by
  obtain ⟨_, _, _, _, _, _, _, _, e⟩ := applyTip909_inv h
  exact ⟨_, _, _, e⟩

theorem applyTip909_of {s : State} {sm sm' es es' : PoolState} {mel x y z : Nat}
    (hdiv : (s.height - TIP_909_HEIGHT) / SUBSIDY_HALVING < 128)
    (hsm : s.pools.get poolMelSym = some sm) (h1 : sm.swapMany 0 (tip909FeeSubsidy s) = .ok (sm', mel, x))
    (hfee : s.feePool + mel ≤ U128_MAX)
    (hes : s.pools.get poolErgSym = some es) (h2 : es.swapMany 0 (tip909ErgSubsidy s) = .ok (es', y, z)) :
    applyTip909 s =
      .ok { s with pools := (s.pools.set poolMelSym sm').set poolErgSym es', feePool := s.feePool + mel } := by
  rw [applyTip909_eq, if_neg (Nat.not_le_of_gt hdiv), hsm]
  show (sm.swapMany _ _).bind _ = _
  rw [h1]
  show (if _ then _ else _) = _
  rw [if_neg (Nat.not_lt_of_ge hfee), AList.get_set_ne _ _ poolMelSym_ne_poolErgSym.symm, hes]
  show (es.swapMany _ _).bind _ = _
  rw [h2]
  rfl

/-! ### the proposer action -/

theorem applyProposerAction_eq_ok_iff {env : Env} {s s' : State} {a : ProposerAction} :
    applyProposerAction env s a = .ok s' ↔
      s.feePool / 2 ^ REWARD_SHIFT + s.tips ≤ U128_MAX ∧
      s' = { s with
        feeMultiplier := moveFeeMultiplier s.feeMultiplier a.feeMultiplierDelta s.tip901
        feePool := s.feePool - s.feePool / 2 ^ REWARD_SHIFT
        tips := 0
        coins := s.coins.insertCoin { txhash := env.rewardId s.height, index := 0 }
          { coinData := { covhash := a.rewardDest, value := s.feePool / 2 ^ REWARD_SHIFT + s.tips, denom := .mel,
                          additionalData := [] },
            height := s.height } s.tip906 } := by
  unfold applyProposerAction collectProposerFee
  dsimp only
  split
  · next hv => exact ⟨fun h => (by cases h), fun h => by omega⟩
  · next hv =>
    refine ⟨fun h => ⟨by omega, ?_⟩, fun h => ?_⟩
    · cases h; rfl
    · rw [h.2]; rfl

/-! ### `presealMelmint` and `sealState` as sequences of the steps above -/

theorem presealMelmint_eq_ok_iff {env : Env} {s s' : State} :
    presealMelmint env s = .ok s' ↔
      2 ≤ (createBuiltins s).pools.length ∧
      ∃ s1 s2 s3, processSwaps (createBuiltins s) = .ok s1 ∧ processDeposits env s1 = .ok s2 ∧
        processWithdrawals env s2 = .ok s3 ∧ processPegging (createBuiltins s3) = .ok s' := by
  unfold presealMelmint
  dsimp only
  split
  · next hlen => exact ⟨fun h => (by cases h), fun h => by omega⟩
  · next hlen =>
    constructor
    · intro h
      obtain ⟨s1, h1, h⟩ := Outcome.bind_eq_ok.mp h
      obtain ⟨s2, h2, h⟩ := Outcome.bind_eq_ok.mp h
      obtain ⟨s3, h3, h⟩ := Outcome.bind_eq_ok.mp h
      exact ⟨by omega, s1, s2, s3, h1, h2, h3, h⟩
    · rintro ⟨_, s1, s2, s3, h1, h2, h3, h⟩
      rw [h1]
      show (processDeposits env s1).bind _ = _
      rw [h2]
      show (processWithdrawals env s2).bind _ = _
      rw [h3]
      exact h

/-- sealing up to the proposer action: Melmint, the assertion on the number of pools, the subsidy -/
def sealPre (env : Env) (s : State) : Outcome State :=
  (presealMelmint env s).bind fun s1 =>
  if s1.pools.length < 2 then .crash "assert!(pools.count() >= 2)" else
  if s1.tip909 then applyTip909 s1 else .ok s1

theorem sealState_eq (env : Env) (s : State) (action : Option ProposerAction) :
    sealState env s action = (sealPre env s).bind fun s2 =>
      match action with
      | none => .ok { st := s2, action := none }
      | some a => (applyProposerAction env s2 a).bind fun s3 => .ok { st := s3, action := some a } := by
  unfold sealState sealPre
  cases presealMelmint env s with
  | reject e => rfl
  | crash c => rfl
  | ok s1 =>
    dsimp only [Outcome.bind]
    split <;> rfl

theorem sealPre_eq_ok_iff {env : Env} {s s2 : State} :
    sealPre env s = .ok s2 ↔
      ∃ s1, presealMelmint env s = .ok s1 ∧ 2 ≤ s1.pools.length ∧
        (if s1.tip909 then applyTip909 s1 else .ok s1) = .ok s2 := by
  unfold sealPre
  constructor
  · intro h
    obtain ⟨s1, h1, h⟩ := Outcome.bind_eq_ok.mp h
    split at h
    · cases h
    · exact ⟨s1, h1, by omega, h⟩
  · rintro ⟨s1, h1, hlen, h⟩
    rw [h1]
    show (if _ then _ else _) = _
    rw [if_neg (by omega)]
    exact h

theorem sealState_eq_ok_iff {env : Env} {s : State} {action : Option ProposerAction} {ss : Sealed} :
    sealState env s action = .ok ss ↔
      ∃ s2, sealPre env s = .ok s2 ∧ ss.action = action ∧
        match action with
        | none => ss.st = s2
        | some a => applyProposerAction env s2 a = .ok ss.st := by
  rw [sealState_eq]
  constructor
  · intro h
    obtain ⟨s2, h2, h⟩ := Outcome.bind_eq_ok.mp h
    refine ⟨s2, h2, ?_⟩
    cases action with
    | none => cases h; exact ⟨rfl, rfl⟩
    | some a =>
      obtain ⟨s3, h3, h⟩ := Outcome.bind_eq_ok.mp h
      cases h
      exact ⟨rfl, h3⟩
  · rintro ⟨s2, h2, ha, h⟩
    rw [h2]
    cases action with
    | none => cases ss; cases ha; cases h; rfl
    | some a =>
      show (applyProposerAction env s2 a).bind _ = _
      rw [h]
      cases ss; cases ha; rfl

/-! ### induction over the steps of sealing -/

/-- `I` is kept by every step of Melmint. A step that settles one pool runs on some state `st` reached within
    its phase; the requests and the keys were chosen on the state `s0` the phase started from -/
structure MelmintClosed (env : Env) (I : State → Prop) : Prop where
  builtins : ∀ {s}, I s → I (createBuiltins s)
  swap : ∀ {s0 st st' k}, I s0 → I st → k ∈ swapKeys s0 →
    processSwapsForPool k st (swapReqs s0 k) = .ok st' → I st'
  deposit : ∀ {s0 st st' k}, I s0 → I st → k ∈ depKeys s0 →
    processDepositsForPool env k st (depReqs s0 k) = .ok st' → I st'
  withdraw : ∀ {s0 st st' k}, I s0 → I st → k ∈ wdKeys env s0 →
    processWithdrawalsForPool k st (wdReqs env s0 k) = .ok st' → I st'
  peg : ∀ {s s'}, I s → processPegging s = .ok s' → I s'

variable {env : Env} {I : State → Prop}

theorem MelmintClosed.swaps (hI : MelmintClosed env I) {s s' : State} (h : processSwaps s = .ok s')
    (h0 : I s) : I s' :=
  Outcome.foldlM'_inv_mem I _ _ (fun _ _ _ hk hb hs => hI.swap h0 hb hk hs) _ _ h0 h

theorem MelmintClosed.deposits (hI : MelmintClosed env I) {s s' : State} (h : processDeposits env s = .ok s')
    (h0 : I s) : I s' :=
  Outcome.foldlM'_inv_mem I _ _ (fun _ _ _ hk hb hs => hI.deposit h0 hb hk hs) _ _ h0 h

theorem MelmintClosed.withdrawals (hI : MelmintClosed env I) {s s' : State}
    (h : processWithdrawals env s = .ok s') (h0 : I s) : I s' :=
  Outcome.foldlM'_inv_mem I _ _ (fun _ _ _ hk hb hs => hI.withdraw h0 hb hk hs) _ _ h0 h

theorem presealMelmint_induct (hI : MelmintClosed env I) {s s' : State} (h : presealMelmint env s = .ok s')
    (h0 : I s) : I s' := by
  obtain ⟨_, s1, s2, s3, h1, h2, h3, h4⟩ := presealMelmint_eq_ok_iff.mp h
  exact hI.peg (hI.builtins (hI.withdrawals h3 (hI.deposits h2 (hI.swaps h1 (hI.builtins h0))))) h4

theorem sealPre_induct (hI : MelmintClosed env I) (ht : ∀ {s s'}, I s → applyTip909 s = .ok s' → I s')
    {s s2 : State} (h : sealPre env s = .ok s2) (h0 : I s) : I s2 := by
  obtain ⟨s1, h1, _, h2⟩ := sealPre_eq_ok_iff.mp h
  have i1 := presealMelmint_induct hI h1 h0
  split at h2
  · exact ht i1 h2
  · cases h2; exact i1

theorem sealState_induct (hI : MelmintClosed env I) (ht : ∀ {s s'}, I s → applyTip909 s = .ok s' → I s')
    (ha : ∀ {s s' a}, I s → applyProposerAction env s a = .ok s' → I s')
    {s : State} {action : Option ProposerAction} {ss : Sealed} (h : sealState env s action = .ok ss)
    (h0 : I s) : I ss.st := by
  obtain ⟨s2, h2, _, h3⟩ := sealState_eq_ok_iff.mp h
  have i2 := sealPre_induct hI ht h2 h0
  cases action with
  | none => rw [h3]; exact i2
  | some a => exact ha i2 h3

/-! ### the frame: what sealing leaves alone -/

/-- the fields that sealing never writes -/
structure SealKeeps (s s' : State) : Prop where
  network : s'.network = s.network
  height : s'.height = s.height
  history : s'.history = s.history
  txs : s'.txs = s.txs
  doscSpeed : s'.doscSpeed = s.doscSpeed
  stakes : s'.stakes = s.stakes

/-- before the proposer action, fee multiplier and tips are as they were -/
structure SealFrame (s s' : State) : Prop extends SealKeeps s s' where
  feeMultiplier : s'.feeMultiplier = s.feeMultiplier
  tips : s'.tips = s.tips

/-- Melmint does not touch the fee pool either -/
structure MelmintFrame (s s' : State) : Prop extends SealFrame s s' where
  feePool : s'.feePool = s.feePool

theorem SealKeeps.refl (s : State) : SealKeeps s s := ⟨rfl, rfl, rfl, rfl, rfl, rfl⟩

theorem SealKeeps.trans {a b c : State} (h1 : SealKeeps a b) (h2 : SealKeeps b c) : SealKeeps a c :=
  ⟨h2.network.trans h1.network, h2.height.trans h1.height, h2.history.trans h1.history, h2.txs.trans h1.txs,
    h2.doscSpeed.trans h1.doscSpeed, h2.stakes.trans h1.stakes⟩

theorem SealFrame.refl (s : State) : SealFrame s s := ⟨.refl s, rfl, rfl⟩

theorem SealFrame.trans {a b c : State} (h1 : SealFrame a b) (h2 : SealFrame b c) : SealFrame a c :=
  ⟨h1.toSealKeeps.trans h2.toSealKeeps, h2.feeMultiplier.trans h1.feeMultiplier, h2.tips.trans h1.tips⟩

theorem MelmintFrame.refl (s : State) : MelmintFrame s s := ⟨.refl s, rfl⟩

theorem MelmintFrame.trans {a b c : State} (h1 : MelmintFrame a b) (h2 : MelmintFrame b c) : MelmintFrame a c :=
  ⟨h1.toSealFrame.trans h2.toSealFrame, h2.feePool.trans h1.feePool⟩

theorem MelmintFrame.of_eq {s s' : State} {c : CoinMap} {ps : AList PoolKey PoolState}
    (h : s' = { s with coins := c, pools := ps }) : MelmintFrame s s' := by
  subst h; exact ⟨⟨⟨rfl, rfl, rfl, rfl, rfl, rfl⟩, rfl, rfl⟩, rfl⟩

theorem SealKeeps.tipCondition {s s' : State} (h : SealKeeps s s') (a : Nat) :
    s'.tipCondition a = s.tipCondition a := by
  unfold State.tipCondition; rw [h.height, h.network]

theorem SealKeeps.tip901 {s s' : State} (h : SealKeeps s s') : s'.tip901 = s.tip901 := h.tipCondition _
theorem SealKeeps.tip902 {s s' : State} (h : SealKeeps s s') : s'.tip902 = s.tip902 := h.tipCondition _
theorem SealKeeps.tip906 {s s' : State} (h : SealKeeps s s') : s'.tip906 = s.tip906 := h.tipCondition _
theorem SealKeeps.tip909 {s s' : State} (h : SealKeeps s s') : s'.tip909 = s.tip909 := h.tipCondition _

theorem SealKeeps.legacyDeposit {s s' : State} (h : SealKeeps s s') : legacyDeposit s' = legacyDeposit s := by
  unfold Mel.legacyDeposit; rw [h.height, h.network]

theorem processSwapsForPool_frame {k : PoolKey} {s s' : State} {l : List Tx}
    (h : processSwapsForPool k s l = .ok s') : MelmintFrame s s' := by
  obtain ⟨_, _, _, _, _, _, _, _, e⟩ := processSwapsForPool_inv h
  exact .of_eq e

theorem processDepositsForPool_frame {k : PoolKey} {s s' : State} {l : List Tx}
    (h : processDepositsForPool env k s l = .ok s') : MelmintFrame s s' := by
  obtain ⟨_, _, _, ⟨_, e⟩ | ⟨_, _, _, e⟩⟩ := processDepositsForPool_inv h
  · rw [e]; exact .refl s
  · exact .of_eq e

theorem processWithdrawalsForPool_frame {k : PoolKey} {s s' : State} {l : List Tx}
    (h : processWithdrawalsForPool k s l = .ok s') : MelmintFrame s s' := by
  obtain ⟨_, _, ⟨_, e⟩ | ⟨_, _, _, _, _, _, _, e⟩⟩ := processWithdrawalsForPool_inv h
  · rw [e]; exact .refl s
  · exact .of_eq e

theorem createBuiltins_frame (s : State) : MelmintFrame s (createBuiltins s) := .of_eq (c := s.coins) rfl

theorem processPegging_frame {s s' : State} (h : processPegging s = .ok s') : MelmintFrame s s' := by
  obtain ⟨_, e⟩ := processPegging_state h
  exact .of_eq (c := s.coins) e

theorem applyTip909_frame {s s' : State} (h : applyTip909 s = .ok s') : SealFrame s s' := by
  obtain ⟨_, _, _, e⟩ := applyTip909_state h
  subst e; exact ⟨⟨rfl, rfl, rfl, rfl, rfl, rfl⟩, rfl, rfl⟩

theorem applyProposerAction_keeps {s s' : State} {a : ProposerAction}
    (h : applyProposerAction env s a = .ok s') : SealKeeps s s' := by
  rw [(applyProposerAction_eq_ok_iff.mp h).2]; exact ⟨rfl, rfl, rfl, rfl, rfl, rfl⟩

theorem MelmintClosed.of_frame (s : State) : MelmintClosed env (MelmintFrame s) where
  builtins h := h.trans (createBuiltins_frame _)
  swap _ h _ hs := h.trans (processSwapsForPool_frame hs)
  deposit _ h _ hs := h.trans (processDepositsForPool_frame hs)
  withdraw _ h _ hs := h.trans (processWithdrawalsForPool_frame hs)
  peg h hs := h.trans (processPegging_frame hs)

theorem processSwaps_frame {s s' : State} (h : processSwaps s = .ok s') : MelmintFrame s s' :=
  Outcome.foldlM'_inv_mem (MelmintFrame s) _ _ (fun _ _ _ _ hb hs => hb.trans (processSwapsForPool_frame hs)) _ _ (.refl s) h

theorem processDeposits_frame {s s' : State} (h : processDeposits env s = .ok s') : MelmintFrame s s' :=
  (MelmintClosed.of_frame s).deposits h (.refl s)

theorem processWithdrawals_frame {s s' : State} (h : processWithdrawals env s = .ok s') : MelmintFrame s s' :=
  (MelmintClosed.of_frame s).withdrawals h (.refl s)

theorem presealMelmint_frame {s s' : State} (h : presealMelmint env s = .ok s') : MelmintFrame s s' :=
  presealMelmint_induct (.of_frame s) h (.refl s)

theorem sealPre_frame {s s2 : State} (h : sealPre env s = .ok s2) : SealFrame s s2 := by
  obtain ⟨s1, h1, _, h2⟩ := sealPre_eq_ok_iff.mp h
  refine (presealMelmint_frame h1).toSealFrame.trans ?_
  split at h2
  · exact applyTip909_frame h2
  · cases h2; exact .refl _

theorem sealState_keeps {s : State} {action : Option ProposerAction} {ss : Sealed}
    (h : sealState env s action = .ok ss) : SealKeeps s ss.st := by
  obtain ⟨s2, h2, _, h3⟩ := sealState_eq_ok_iff.mp h
  have k2 := (sealPre_frame h2).toSealKeeps
  cases action with
  | none => rw [h3]; exact k2
  | some a => exact k2.trans (applyProposerAction_keeps h3)

theorem sealState_feeMultiplier {s : State} {action : Option ProposerAction} {ss : Sealed}
    (h : sealState env s action = .ok ss) :
    ss.st.feeMultiplier =
      match action with
      | none => s.feeMultiplier
      | some act => moveFeeMultiplier s.feeMultiplier act.feeMultiplierDelta s.tip901 := by
  obtain ⟨s2, h2, _, h3⟩ := sealState_eq_ok_iff.mp h
  have f := sealPre_frame h2
  cases action with
  | none => rw [h3]; exact f.feeMultiplier
  | some act => rw [(applyProposerAction_eq_ok_iff.mp h3).2, ← f.feeMultiplier, ← f.tip901]

theorem applyTip909_coins_eq {s s' : State} (h : applyTip909 s = .ok s') : s'.coins = s.coins := by
  obtain ⟨_, _, _, e⟩ := applyTip909_state h
  rw [e]

theorem processPegging_coins_eq {s s' : State} (h : processPegging s = .ok s') : s'.coins = s.coins := by
  obtain ⟨_, e⟩ := processPegging_state h
  rw [e]

/-! ### which transactions are requests -/

theorem isSwapRequest_iff {s : State} {tx : Tx} :
    isSwapRequest s tx = true ↔
      tx.kind = .swap ∧ ∃ o rest k p, tx.outputs = o :: rest ∧
        (s.coins.getCoin (outCoinID tx 0)).isSome = true ∧ 0 < o.value ∧
        canonicalPoolKey tx.data = some k ∧ s.pools.get k = some p ∧ 0 < p.lefts ∧ 0 < p.rights ∧
        (o.denom = k.left ∨ o.denom = k.right) := by
  unfold isSwapRequest
  cases tx.outputs with
  | nil =>
    refine ⟨fun h => ?_, ?_⟩
    · rw [Bool.and_false] at h; cases h
    · rintro ⟨_, _, _, _, _, ho, _⟩; cases ho
  | cons o rest =>
    cases canonicalPoolKey tx.data with
    | none =>
      refine ⟨fun h => ?_, ?_⟩
      · simp only [Bool.and_false] at h; cases h
      · rintro ⟨_, _, _, _, _, _, _, _, hck, _⟩; cases hck
    | some k =>
      cases hp : s.pools.get k with
      | none =>
        refine ⟨fun h => ?_, ?_⟩
        · simp only [hp, Bool.and_false] at h; cases h
        · rintro ⟨_, _, _, _, _, _, _, _, hck, hp', _⟩
          cases hck; rw [hp] at hp'; cases hp'
      | some p =>
        constructor
        · intro h
          simp only [hp, Bool.and_eq_true, Bool.or_eq_true, decide_eq_true_eq] at h
          exact ⟨h.1, o, rest, k, p, rfl, h.2.1.1, h.2.1.2, rfl, hp, h.2.2.1.1, h.2.2.1.2, h.2.2.2⟩
        · rintro ⟨hk, o', rest', k', p', ho, hc, hv, hck, hp', hl, hr, hd⟩
          cases ho; cases hck
          rw [hp] at hp'; cases hp'
          simp only [hp, Bool.and_eq_true, Bool.or_eq_true, decide_eq_true_eq]
          exact ⟨hk, ⟨hc, hv⟩, ⟨hl, hr⟩, hd⟩

theorem isDepositRequest_iff {s : State} {tx : Tx} :
    isDepositRequest s tx = true ↔
      tx.kind = .liqDeposit ∧ ∃ o0 o1 rest k, tx.outputs = o0 :: o1 :: rest ∧ 0 < o0.value ∧ 0 < o1.value ∧
        (s.coins.getCoin (outCoinID tx 0)).isSome = true ∧ (s.coins.getCoin (outCoinID tx 1)).isSome = true ∧
        canonicalPoolKey tx.data = some k ∧ o0.denom = k.left ∧ o1.denom = k.right := by
  unfold isDepositRequest
  rcases tx.outputs with _ | ⟨o0, _ | ⟨o1, rest⟩⟩
  · refine ⟨fun h => ?_, ?_⟩
    · rw [Bool.and_false] at h; cases h
    · rintro ⟨_, _, _, _, _, ho, _⟩; cases ho
  · refine ⟨fun h => ?_, ?_⟩
    · rw [Bool.and_false] at h; cases h
    · rintro ⟨_, _, _, _, _, ho, _⟩; cases ho
  · cases canonicalPoolKey tx.data with
    | none =>
      refine ⟨fun h => ?_, ?_⟩
      · simp only [Bool.and_false] at h; cases h
      · rintro ⟨_, _, _, _, _, _, _, _, _, _, hck, _⟩; cases hck
    | some k =>
      simp only [Bool.and_eq_true, decide_eq_true_eq]
      constructor
      · rintro ⟨hk, ⟨⟨⟨h0, h1⟩, c0⟩, c1⟩, d0, d1⟩
        exact ⟨hk, o0, o1, rest, k, rfl, h0, h1, c0, c1, rfl, d0, d1⟩
      · rintro ⟨hk, _, _, _, _, ho, h0, h1, c0, c1, hck, d0, d1⟩
        cases ho; cases hck
        exact ⟨hk, ⟨⟨⟨h0, h1⟩, c0⟩, c1⟩, d0, d1⟩

theorem isWithdrawRequest_iff {env : Env} {s : State} {tx : Tx} :
    isWithdrawRequest env s tx = true ↔
      tx.kind = .liqWithdraw ∧ ∃ o k, tx.outputs = [o] ∧ 0 < o.value ∧
        (s.coins.getCoin (outCoinID tx 0)).isSome = true ∧
        canonicalPoolKey tx.data = some k ∧ (s.pools.get k).isSome = true ∧ o.denom = liqTokenDenom env k := by
  unfold isWithdrawRequest
  rcases tx.outputs with _ | ⟨o, _ | ⟨o1, rest⟩⟩
  · refine ⟨fun h => ?_, ?_⟩
    · rw [Bool.and_false] at h; cases h
    · rintro ⟨_, _, _, ho, _⟩; cases ho
  · cases canonicalPoolKey tx.data with
    | none =>
      refine ⟨fun h => ?_, ?_⟩
      · simp only [Bool.and_false] at h; cases h
      · rintro ⟨_, _, _, _, _, _, hck, _⟩; cases hck
    | some k =>
      simp only [Bool.and_eq_true, decide_eq_true_eq]
      constructor
      · rintro ⟨hk, ⟨hv, hc⟩, hp, hd⟩
        exact ⟨hk, o, k, rfl, hv, hc, rfl, hp, hd⟩
      · rintro ⟨hk, _, _, ho, hv, hc, hck, hp, hd⟩
        cases ho; cases hck
        exact ⟨hk, ⟨hv, hc⟩, hp, hd⟩
  · refine ⟨fun h => ?_, ?_⟩
    · rw [Bool.and_false] at h; cases h
    · rintro ⟨_, _, _, ho, _⟩; cases ho

end Mel

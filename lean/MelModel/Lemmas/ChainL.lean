/- `SameHHN`: history, height and network are untouched by applying a batch and by sealing. -/
import MelModel.Chain
import MelModel.Lemmas.Counts
import MelModel.Lemmas.FeeMult
import MelModel.Lemmas.Blocks
import MelModel.Lemmas.Phase
import MelModel.Lemmas.Batch
namespace Mel
open Mel.Gen

def SameHHN (s s' : State) : Prop :=
  s'.history = s.history ∧ s'.height = s.height ∧ s'.network = s.network

theorem SameHHN.refl (s : State) : SameHHN s s := ⟨rfl, rfl, rfl⟩

theorem SameHHN.trans {a b c : State} (h1 : SameHHN a b) (h2 : SameHHN b c) : SameHHN a c :=
  ⟨h2.1.trans h1.1, h2.2.1.trans h1.2.1, h2.2.2.trans h1.2.2⟩

theorem SealKeeps.hhn {s s' : State} (h : SealKeeps s s') : SameHHN s s' := ⟨h.history, h.height, h.network⟩

theorem sealState_hhn (env : Env) (s : State) (action : Option ProposerAction) (ss : Sealed)
    (h : sealState env s action = .ok ss) : SameHHN s ss.st := (sealState_keeps h).hhn

theorem applyBatch_hhn (env : Env) (s : State) (txs : List Tx) (fb : Header) (s' : State)
    (h : applyBatch env s txs fb = .ok s') : SameHHN s s' :=
  have f := applyBatch_frame h
  ⟨f.history, f.height, f.network⟩

end Mel

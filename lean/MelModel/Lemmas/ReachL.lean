/-
  The coin-map invariant of reachable states (`CMInv`: distinct keys, counts, heights) through batches and sealing;
  the slot discipline (`Slots`) by which settlement only overwrites coins of the same covenant.
-/
import MelModel.Genesis
import MelModel.Chain
import MelModel.Props.C03
import MelModel.Props.C20
import MelModel.Lemmas.ChainL
import MelModel.Lemmas.TotalSeal
import MelModel.Lemmas.Total
import MelModel.Lemmas.CoinsL
namespace Mel
namespace ReachL
open Mel.Gen Mel.SettleBlockL

/-- what the coin map of a state at height `H` with TIP-906 flag `tip` satisfies -/
structure CMInv (tip : Bool) (H : Nat) (m : CoinMap) : Prop where
  keys : (m.coins.map (·.1)).Nodup
  counts : tip = true → CountsOk m
  noCounts : tip = false → m.counts = []
  heights : ∀ id c, m.getCoin id = some c → c.height ≤ H

theorem CMInv.empty (tip : Bool) (H : Nat) : CMInv tip H {} where
  keys := List.nodup_nil
  counts := fun _ => ⟨List.nodup_nil, List.nodup_nil, fun _ => rfl, fun e he => by cases he⟩
  noCounts := fun _ => rfl
  heights := fun id c h => by simp [CoinMap.getCoin, AList.get] at h

theorem CMInv.insert {tip : Bool} {H : Nat} {m : CoinMap} {id : CoinID} {d : CoinDataHeight}
    (h : CMInv tip H m) (hh : d.height ≤ H)
    (hold : ∀ old, m.getCoin id = some old → old.coinData.covhash = d.coinData.covhash) :
    CMInv tip H (m.insertCoin id d tip) where
  keys := by rw [CoinMap.coins_insertCoin]; exact AList.keys_nodup_set id d h.keys
  counts := by
    intro ht; subst ht
    cases hg : m.getCoin id with
    | none => exact C20_insert_fresh _ _ _ (h.counts rfl) hg
    | some old => exact C20_insert_overwrite _ _ _ old (h.counts rfl) hg (hold old hg)
  noCounts := by
    intro ht; subst ht
    have := h.noCounts rfl
    simp [CoinMap.insertCoin, this]
  heights := by
    intro k c hk
    rw [CoinMap.getCoin_insertCoin] at hk
    split at hk
    · cases hk; exact hh
    · exact h.heights k c hk

theorem CMInv.remove {tip : Bool} {H : Nat} {m m' : CoinMap} {id : CoinID}
    (h : CMInv tip H m) (hr : m.removeCoin id tip = .ok m') : CMInv tip H m' where
  keys := by rw [CoinMap.coins_removeCoin hr]; exact AList.keys_nodup_del id h.keys
  counts := by
    intro ht; subst ht
    obtain ⟨m'', h1, h2⟩ := C20_remove m id (h.counts rfl)
    rw [hr] at h1; cases h1; exact h2
  noCounts := by
    intro ht; subst ht
    simp only [CoinMap.removeCoin] at hr
    cases hr
    exact h.noCounts rfl
  heights := by
    intro k c hk
    rw [CoinMap.getCoin_removeCoin hr] at hk
    split at hk
    · cases hk
    · exact h.heights k c hk

theorem CMInv.closed (tip : Bool) (H : Nat) : CoinClosed tip (·.height ≤ H) (CMInv tip H) where
  fresh := fun h hh hf => h.insert hh (fun old ho => by rw [hf] at ho; cases ho)
  same := fun h hf => h.insert (h.heights _ _ hf) (fun old ho => by rw [hf] at ho; cases ho; rfl)
  remove := CMInv.remove

theorem speedFold_ge (env : Env) (s : State) (rel : Relevant) (txs : List Tx) (sp : Nat)
    (h : C3.speedFold env s rel txs = .ok sp) : s.doscSpeed ≤ sp := by
  unfold C3.speedFold at h
  refine Outcome.foldlM'_inv (fun v => s.doscSpeed ≤ v) _ ?_ txs _ _ (Nat.le_refl _) h
  intro b a b' hb hf
  split at hf
  · obtain ⟨v, -, hf⟩ := Outcome.bind_eq_ok.mp hf
    cases hf
    exact Nat.le_trans hb (Nat.le_max_left _ _)
  · cases hf; exact hb

theorem applyBatch_facts {env : Env} {s s' : State} {txs : List Tx} {fb : Header}
    (h : applyBatch env s txs fb = .ok s')
    (hcm : CMInv s.tip906 s.height s.coins)
    (hfresh : ∀ t ∈ txs, ∀ i, s.coins.getCoin ⟨t.hash, i⟩ = none) :
    s'.network = s.network ∧ s'.height = s.height ∧ s'.history = s.history ∧ s'.pools = s.pools ∧
    s.doscSpeed ≤ s'.doscSpeed ∧ s'.txs = txs.foldl State.insertTx s.txs ∧
    CMInv s.tip906 s.height s'.coins := by
  obtain ⟨rel, ns, sp, next, h1, -, -, h4, h5, rfl⟩ := applyBatch_iff.mp h
  rw [createNextState_eq] at h5
  have i := nextFold_info env _ txs _ _ h5
  refine ⟨i.network, i.height, i.history, i.pools, speedFold_ge env s rel txs sp h4, i.txsEq, ?_⟩
  have C := CMInv.closed s.tip906 s.height
  have hstart : CMInv s.tip906 s.height ((outputIds txs).foldl (insStep rel s.tip906) s.coins) := by
    refine C.insFold rel (rel_heights h1 hcm.heights) _ _ hcm (fun id hid => ?_)
    obtain ⟨tx, htx, i, rfl⟩ := mem_outputIds hid
    exact Or.inl (hfresh tx htx i)
  have := Outcome.foldlM'_inv (fun st : State => st.tip906 = s.tip906 ∧ CMInv s.tip906 s.height st.coins)
    (nextStep env s.tip906) (fun b a b' hb hf => C.nextStep (Nat.zero_le _) hb.1 hb.2 hf) txs
    { s with coins := (outputIds txs).foldl (insStep rel s.tip906) s.coins } next
    ⟨tip906_eq rfl rfl, hstart⟩ h5
  exact this.2

theorem CMInv.tip_eq {t t' : Bool} {H : Nat} {m : CoinMap} (h : CMInv t H m) (e : t' = t) : CMInv t' H m := e ▸ h

theorem CMInv.mono {t : Bool} {H H' : Nat} {m : CoinMap} (h : CMInv t H m) (hle : H ≤ H') : CMInv t H' m :=
  ⟨h.keys, h.counts, h.noCounts, fun id c hc => Nat.le_trans (h.heights id c hc) hle⟩

theorem genesis_cm (cfg : GenesisConfig) :
    CMInv (genesisState cfg).tip906 (genesisState cfg).height (genesisState cfg).coins :=
  (CMInv.empty _ _).insert (Nat.le_refl _) (fun old h => by simp [CoinMap.getCoin, AList.get] at h)

theorem genesis_getCoin_ne (cfg : GenesisConfig) {h : Hash} (hne : h ≠ zeroHash) (i : Nat) :
    (genesisState cfg).coins.getCoin ⟨h, i⟩ = none := by
  show (CoinMap.insertCoin {} ⟨zeroHash, 0⟩ _ _).getCoin ⟨h, i⟩ = none
  rw [CoinMap.getCoin_insertCoin, if_neg (fun e => hne (congrArg CoinID.txhash e))]
  rfl

theorem tipCondition_mono {s s' : State} (hn : s'.network = s.network) (hh : s.height ≤ s'.height) (a : Nat)
    (h : s.tipCondition a = true) : s'.tipCondition a = true := by
  have ge : ∀ {b : Nat}, decide (s.height ≥ b) = true → decide (s'.height ≥ b) = true :=
    fun hb => decide_eq_true (Nat.le_trans (of_decide_eq_true hb) hh)
  unfold State.tipCondition at h ⊢
  rw [hn]
  by_cases h0 : a = U64_MAX_HEIGHT
  · rw [if_pos h0] at h; cases h
  rw [if_neg h0] at h ⊢
  by_cases h1 : s.network = .mainnet
  · rw [if_pos h1] at h ⊢; exact ge h
  rw [if_neg h1] at h ⊢
  by_cases h2 : s.network = .testnet
  · rw [if_pos h2] at h ⊢; exact ge h
  · rw [if_neg h2]

theorem get_set_top {ν : Type} {hist : AList Nat ν} {H : Nat} {v : ν} (hb : ∀ h x, hist.get h = some x → h < H)
    {h : Nat} {x : ν} :
    (hist.set H v).get h = some x ↔ (h = H ∧ x = v) ∨ (h < H ∧ hist.get h = some x) := by
  by_cases e : h = H
  · subst e
    rw [AList.get_set_self]
    exact ⟨fun hx => Or.inl ⟨rfl, (Option.some.inj hx).symm⟩,
      fun hx => hx.elim (fun a => by rw [a.2]) (fun a => absurd a.1 (Nat.lt_irrefl _))⟩
  · rw [AList.get_set_ne _ _ e]
    exact ⟨fun hx => Or.inr ⟨hb h x hx, hx⟩, fun hx => hx.elim (fun a => absurd a.1 e) (·.2)⟩

/-- the history part of `Inv` (Props/Reach.lean) after the header of the current height is recorded -/
theorem history_next {hist : AList Nat Header} {H : Nat} {hdr : Header} {P : Header → Prop}
    (hb : ∀ h x, hist.get h = some x → h < H) (hf : ∀ h, h < H → ∃ x, hist.get h = some x)
    (hh : ∀ h x, hist.get h = some x → x.height = h) (hs : ∀ h x, hist.get h = some x → P x)
    (hdrh : hdr.height = H) (hdrs : P hdr) :
    (∀ h x, (hist.set H hdr).get h = some x → h < H + 1) ∧
    (∀ h, h < H + 1 → ∃ x, (hist.set H hdr).get h = some x) ∧
    (∀ h x, (hist.set H hdr).get h = some x → x.height = h) ∧
    (∀ h x, (hist.set H hdr).get h = some x → P x) := by
  refine ⟨fun h x hx => ?_, fun h hlt => ?_, fun h x hx => ?_, fun h x hx => ?_⟩
  · rcases (get_set_top hb).mp hx with ⟨rfl, -⟩ | ⟨hlt, -⟩
    · exact Nat.lt_succ_self _
    · exact Nat.lt_succ_of_lt hlt
  · rcases Nat.lt_succ_iff_lt_or_eq.mp hlt with hlt | rfl
    · obtain ⟨x, hx⟩ := hf h hlt
      exact ⟨x, (get_set_top hb).mpr (Or.inr ⟨hlt, hx⟩)⟩
    · exact ⟨hdr, AList.get_set_self _ _ _⟩
  · rcases (get_set_top hb).mp hx with ⟨rfl, rfl⟩ | ⟨-, hx⟩
    · exact hdrh
    · exact hh h x hx
  · rcases (get_set_top hb).mp hx with ⟨-, rfl⟩ | ⟨-, hx⟩
    · exact hdrs
    · exact hs h x hx

/-- `o` is the output that decides the covenant of the coin at slot `i` of `tx`: output `i`, where slot 1 of a
    single-output transaction counts as slot 0 (that is where a liquidity withdrawal puts its second coin) -/
def SlotOut (tx : Tx) (i : Nat) (o : CoinData) : Prop := tx.outputs[i]? = some o ∨ (i = 1 ∧ tx.outputs = [o])

theorem SlotOut.unique {tx : Tx} {i : Nat} {o o' : CoinData} (h : SlotOut tx i o) (h' : SlotOut tx i o') : o = o' := by
  rcases h with h | ⟨h1, h2⟩ <;> rcases h' with h' | ⟨h1', h2'⟩
  · rw [h] at h'; cases h'; rfl
  · subst h1'; rw [h2'] at h; simp at h
  · subst h1; rw [h2] at h'; simp at h'
  · rw [h2] at h2'; cases h2'; rfl

/-- every coin at an id `⟨tx.hash, i⟩` of a transaction of the block sits at a slot (`SlotOut`) and is locked by the
    covenant of that slot's output -/
def Slots (txs : List Tx) (m : CoinMap) : Prop :=
  ∀ tx ∈ txs, ∀ i c, m.getCoin ⟨tx.hash, i⟩ = some c → ∃ o, SlotOut tx i o ∧ c.coinData.covhash = o.covhash

theorem Slots.insert {txs : List Tx} {m : CoinMap} (hn : (txs.map (·.hash)).Nodup) (hs : Slots txs m)
    {tx : Tx} (htx : tx ∈ txs) {i : Nat} {o : CoinData} (hok : SlotOut tx i o) {d : CoinDataHeight}
    (hd : d.coinData.covhash = o.covhash) (t : Bool) : Slots txs (m.insertCoin ⟨tx.hash, i⟩ d t) := by
  intro tx' htx' i' c hc
  rw [CoinMap.getCoin_insertCoin] at hc
  split at hc
  · next e =>
    cases hc
    injection e with e1 e2
    have : tx' = tx := eq_of_nodup_map (·.hash) hn htx' htx e1
    subst this; subst e2
    exact ⟨o, hok, hd⟩
  · exact hs tx' htx' i' c hc

theorem Slots.remove {txs : List Tx} {m m' : CoinMap} (hs : Slots txs m) {id : CoinID} {t : Bool}
    (hr : m.removeCoin id t = .ok m') : Slots txs m' := by
  intro tx htx i c hc
  rw [CoinMap.getCoin_removeCoin hr] at hc
  split at hc
  · cases hc
  · exact hs tx htx i c hc

/-- the coin map while block `s0` is being sealed -/
structure SealCoins (s0 : State) (m : CoinMap) : Prop where
  cm : CMInv s0.tip906 s0.height m
  slots : Slots s0.txs m
  /-- settlement never creates or removes a coin with index 0 -/
  dom0 : ∀ h, (m.getCoin ⟨h, 0⟩).isSome = (s0.coins.getCoin ⟨h, 0⟩).isSome

theorem SealCoins.insertAt {s0 : State} {m : CoinMap} (hn : (s0.txs.map (·.hash)).Nodup) (h : SealCoins s0 m)
    {tx : Tx} (htx : tx ∈ s0.txs) {i : Nat} {o : CoinData} (hok : SlotOut tx i o)
    (hex : i = 0 → (s0.coins.getCoin ⟨tx.hash, 0⟩).isSome = true) {cd : CoinData} (hcd : cd.covhash = o.covhash) :
    SealCoins s0 (m.insertCoin ⟨tx.hash, i⟩ { coinData := cd, height := s0.height } s0.tip906) where
  cm := by
    refine h.cm.insert (Nat.le_refl _) ?_
    intro old hold
    obtain ⟨o', ho', hc'⟩ := h.slots tx htx i old hold
    rw [hc', ho'.unique hok]; exact hcd.symm
  slots := h.slots.insert hn htx hok hcd _
  dom0 := by
    intro x
    rw [CoinMap.getCoin_insertCoin]
    split
    · next e =>
      injection e with e1 e2
      subst e2
      rw [e1, hex rfl]; rfl
    · exact h.dom0 x

theorem SealCoins.remove1 {s0 : State} {m m' : CoinMap} (h : SealCoins s0 m) {x : Hash}
    (hr : m.removeCoin ⟨x, 1⟩ s0.tip906 = .ok m') : SealCoins s0 m' where
  cm := h.cm.remove hr
  slots := h.slots.remove hr
  dom0 := by
    intro y
    rw [CoinMap.getCoin_removeCoin hr]
    split
    · next e => injection e with _ e2; cases e2
    · exact h.dom0 y

theorem slotOut_head {tx : Tx} {o : CoinData} {rest : List CoinData} (h : tx.outputs = o :: rest) : SlotOut tx 0 o :=
  Or.inl (by rw [h]; rfl)

theorem slotOut_single {tx : Tx} {o : CoinData} (h : tx.outputs = [o]) : SlotOut tx 1 o := Or.inr ⟨rfl, h⟩

theorem nodup_hashes_of_pairwise {l : List Tx} (h : l.Pairwise C3.TxLt) : (l.map (·.hash)).Nodup :=
  C3.nodup_hashes_of_sorted h

/-- what holds of the state all through the sealing of block `s0` (before the proposer action) -/
structure SealInv (s0 st : State) : Prop where
  history : st.history = s0.history
  height : st.height = s0.height
  network : st.network = s0.network
  speed : st.doscSpeed = s0.doscSpeed
  txs : st.txs = s0.txs
  poolKeys : (st.pools.map (·.1)).Nodup
  coins : SealCoins s0 st.coins

theorem SealInv.tip906 {s0 st : State} (h : SealInv s0 st) : st.tip906 = s0.tip906 :=
  tip906_eq h.network h.height

/-! Sealing writes the coin map in the three settlement loops and in the proposer action only.  The requests of a phase
are chosen on the state the phase starts from; its loop runs at the height and with the TIP-906 flag of the block. -/

/-- `J` is kept by the loop bodies of settlement, for the requests of a phase whose start state `s1` satisfies `J` -/
structure SettleKeeps (env : Env) (s0 : State) (J : CoinMap → Prop) : Prop where
  swap : ∀ {s1 : State} {tx : Tx} {k : PoolKey} {lw rw tl tr : Nat} {c c' : CoinMap}, J s1.coins → tx ∈ s0.txs →
    isSwapRequest s1 tx = true → J c → swapStep k s0.height s0.tip906 lw rw tl tr c tx = .ok c' → J c'
  deposit : ∀ {s1 : State} {tx : Tx} {k : PoolKey} {minted tw : Nat} {c c' : CoinMap}, J s1.coins → tx ∈ s0.txs →
    isDepositRequest s1 tx = true → J c →
    depStep env k s0.height s0.tip906 (legacyDeposit s0) minted tw c tx = .ok c' → J c'
  withdraw : ∀ {s1 : State} {tx : Tx} {k : PoolKey} {tl tr total : Nat} {c c' : CoinMap}, J s1.coins → tx ∈ s0.txs →
    isWithdrawRequest env s1 tx = true → J c → wdStep k s0.height s0.tip906 tl tr total c tx = .ok c' → J c'

theorem SettleKeeps.closed {env : Env} {s0 : State} {J : CoinMap → Prop} (hJ : SettleKeeps env s0 J) :
    MelmintClosed env (fun st => SealFrame s0 st ∧ J st.coins) where
  builtins i := ⟨i.1.trans (createBuiltins_frame _).toSealFrame, i.2⟩
  swap i0 i _ hs := by
    obtain ⟨_, _, _, _, coins, -, -, hc, e⟩ := processSwapsForPool_inv hs
    refine ⟨i.1.trans (MelmintFrame.of_eq e).toSealFrame, ?_⟩
    subst e
    rw [i.1.height, i.1.tip906] at hc
    refine Outcome.foldlM'_inv_mem _ _ _ (fun c tx c' htx hb hf => ?_) _ _ i.2 hc
    obtain ⟨hm, hr⟩ := List.mem_filter.mp (mem_transactionsForPool htx)
    exact hJ.swap i0.2 (i0.1.txs ▸ hm) hr hb hf
  deposit i0 i _ hs := by
    obtain ⟨_, _, -, ⟨-, e⟩ | ⟨-, coins, hc, e⟩⟩ := processDepositsForPool_inv hs
    · rw [e]; exact i
    · refine ⟨i.1.trans (MelmintFrame.of_eq e).toSealFrame, ?_⟩
      subst e
      rw [i.1.height, i.1.tip906, i.1.legacyDeposit] at hc
      refine Outcome.foldlM'_inv_mem _ _ _ (fun c tx c' htx hb hf => ?_) _ _ i.2 hc
      obtain ⟨hm, hr⟩ := List.mem_filter.mp (mem_transactionsForPool htx)
      exact hJ.deposit i0.2 (i0.1.txs ▸ hm) hr hb hf
  withdraw i0 i _ hs := by
    obtain ⟨_, -, ⟨-, e⟩ | ⟨-, _, _, _, coins, -, hc, e⟩⟩ := processWithdrawalsForPool_inv hs
    · rw [e]; exact i
    · refine ⟨i.1.trans (MelmintFrame.of_eq e).toSealFrame, ?_⟩
      subst e
      rw [i.1.height, i.1.tip906] at hc
      refine Outcome.foldlM'_inv_mem _ _ _ (fun c tx c' htx hb hf => ?_) _ _ i.2 hc
      obtain ⟨hm, hr⟩ := List.mem_filter.mp (mem_transactionsForPool htx)
      exact hJ.withdraw i0.2 (i0.1.txs ▸ hm) hr hb hf
  peg i hs := ⟨i.1.trans (processPegging_frame hs).toSealFrame, processPegging_coins_eq hs ▸ i.2⟩

theorem SettleKeeps.sealPre {env : Env} {s0 s2 : State} {J : CoinMap → Prop} (hJ : SettleKeeps env s0 J)
    (h : sealPre env s0 = .ok s2) (h0 : J s0.coins) : J s2.coins :=
  (sealPre_induct hJ.closed (fun i ht => ⟨i.1.trans (applyTip909_frame ht), applyTip909_coins_eq ht ▸ i.2⟩) h
    ⟨.refl _, h0⟩).2

theorem settleKeeps_sealCoins (env : Env) {s0 : State} (hn : (s0.txs.map (·.hash)).Nodup) :
    SettleKeeps env s0 (SealCoins s0) where
  swap := by
    intro s1 tx k lw rw tl tr c c' i1 hm hr hb hf
    obtain ⟨-, o, rest, _, _, ho, hex, -⟩ := isSwapRequest_iff.mp hr
    have hhd : out0 tx = o := by rw [out0, ho]; rfl
    obtain ⟨cd, hcd, hf⟩ := Outcome.bind_eq_ok.mp hf
    cases hf
    have hcov : cd.covhash = o.covhash := by
      unfold swapCoin at hcd
      rw [hhd] at hcd
      split at hcd <;> (obtain ⟨v, -, hcd⟩ := Outcome.bind_eq_ok.mp hcd; cases hcd; rfl)
    exact hb.insertAt hn hm (slotOut_head ho) (fun _ => (i1.dom0 _).symm.trans hex) hcov
  deposit := by
    intro s1 tx k minted tw c c' i1 hm hr hb hf
    obtain ⟨-, o0, o1, rest, _, ho, -, -, hex, -⟩ := isDepositRequest_iff.mp hr
    have hhd : out0 tx = o0 := by rw [out0, ho]; rfl
    unfold depStep at hf
    rw [hhd] at hf
    obtain ⟨v, -, hf⟩ := Outcome.bind_eq_ok.mp hf
    have hins : SealCoins s0 (c.insertCoin (outCoinID tx 0)
        { coinData := { o0 with denom := liqTokenDenom env k, value := v }, height := s0.height } s0.tip906) :=
      hb.insertAt hn hm (slotOut_head ho) (fun _ => (i1.dom0 _).symm.trans hex) rfl
    dsimp only at hf
    split at hf
    · cases hf; exact hins
    · exact hins.remove1 hf
  withdraw := by
    intro s1 tx k tl tr total c c' i1 hm hr hb hf
    obtain ⟨-, o, _, ho, -, hex, -⟩ := isWithdrawRequest_iff.mp hr
    have hhd : out0 tx = o := by rw [out0, ho]; rfl
    unfold wdStep at hf
    rw [hhd] at hf
    obtain ⟨vl, -, hf⟩ := Outcome.bind_eq_ok.mp hf
    obtain ⟨vr, -, hf⟩ := Outcome.bind_eq_ok.mp hf
    cases hf
    exact (hb.insertAt hn hm (slotOut_head ho) (fun _ => (i1.dom0 _).symm.trans hex)
      (cd := { o with denom := k.left, value := vl }) rfl).insertAt hn hm (slotOut_single ho)
      (fun e => by cases e) (cd := { o with denom := k.right, value := vr }) rfl

theorem sealState_facts {env : Env} {s : State} {a : Option ProposerAction} {ss : Sealed}
    (hcm : CMInv s.tip906 s.height s.coins) (hslots : Slots s.txs s.coins) (hn : (s.txs.map (·.hash)).Nodup)
    (hpk : (s.pools.map (·.1)).Nodup)
    (hr : s.coins.getCoin { txhash := env.rewardId s.height, index := 0 } = none)
    (h : sealState env s a = .ok ss) :
    ss.st.history = s.history ∧ ss.st.height = s.height ∧ ss.st.network = s.network ∧
    ss.st.doscSpeed = s.doscSpeed ∧ ss.st.txs = s.txs ∧ (ss.st.pools.map (·.1)).Nodup ∧
    CMInv s.tip906 s.height ss.st.coins := by
  have hk := sealState_keeps h
  have hp := (sealState_setAt (K := fun _ => True) ⟨trivial, trivial, trivial⟩ (fun _ _ _ => trivial) h).keys_nodup hpk
  refine ⟨hk.history, hk.height, hk.network, hk.doscSpeed, hk.txs, hp, ?_⟩
  obtain ⟨s2, h2, -, h3⟩ := sealState_eq_ok_iff.mp h
  have hc : SealCoins s s2.coins := (settleKeeps_sealCoins env hn).sealPre h2 ⟨hcm, hslots, fun _ => rfl⟩
  cases a with
  | none => rw [h3]; exact hc.cm
  | some act =>
    -- the reward coin is new: settlement made no coin with index 0
    have f2 := sealPre_frame h2
    rw [(applyProposerAction_eq_ok_iff.mp h3).2, f2.tip906, f2.height]
    refine hc.cm.insert (Nat.le_refl _) (fun old hold => ?_)
    have := hc.dom0 (env.rewardId s.height)
    rw [hold, hr] at this
    cases this

theorem nextFold_source (env : Env) (t : Bool) : ∀ (txs : List Tx) (st st' : State),
    Outcome.foldlM' (nextStep env t) st txs = .ok st' →
    ∀ k c, st'.coins.getCoin k = some c →
      st.coins.getCoin k = some c ∨ ∃ f ∈ txs, insertsMarker env f = true ∧ k = BatchL.markerOf env f := by
  intro txs
  induction txs with
  | nil =>
    intro st st' h k c hk
    rw [Outcome.foldlM'_nil_ok] at h; subst h
    exact Or.inl hk
  | cons tx rest ih =>
    intro st st' h k c hk
    rw [Outcome.foldlM'_cons_ok] at h
    obtain ⟨st1, h1, h2⟩ := h
    rcases ih st1 st' h2 k c hk with h3 | ⟨f, hf, hm⟩
    · rw [getCoin_nextStep h1] at h3
      split at h3
      · cases h3
      · split at h3
        · next hmk => exact Or.inr ⟨tx, List.mem_cons_self, hmk⟩
        · exact Or.inl h3
    · exact Or.inr ⟨f, List.mem_cons_of_mem _ hf, hm⟩

theorem wellFormed_length {tx : Tx} (h : tx.isWellFormed = true) : tx.outputs.length ≤ 256 := by
  unfold Tx.isWellFormed at h
  simp only [Bool.and_eq_true, decide_eq_true_eq] at h
  omega

theorem applyBatch_source {env : Env} {s s' : State} {txs : List Tx} {fb : Header}
    (h : applyBatch env s txs fb = .ok s') (k : CoinID) (c : CoinDataHeight) (hk : s'.coins.getCoin k = some c) :
    s.coins.getCoin k = some c ∨
    (∃ tx ∈ txs, ∃ o, k.txhash = tx.hash ∧ tx.outputs[k.index]? = some o ∧ c.coinData.covhash = o.covhash) ∨
    (∃ f ∈ txs, insertsMarker env f = true ∧ k = BatchL.markerOf env f) := by
  obtain ⟨rel, newStakes, next, h1, -, -, h4, h5⟩ := applyBatch_ok h
  obtain ⟨hwf, -, -, r1, r2⟩ := loadRelevantCoins_ok h1
  rw [createNextState_eq] at h4
  rw [h5] at hk
  rcases nextFold_source env _ txs _ _ h4 k c hk with h6 | h6
  · simp only at h6
    rw [getCoin_insFold] at h6
    have hrel : rel.get k = some c → s.coins.getCoin k = some c ∨
        (∃ tx ∈ txs, ∃ o, k.txhash = tx.hash ∧ tx.outputs[k.index]? = some o ∧ c.coinData.covhash = o.covhash) := by
      intro hr
      cases hcr : (createdOf s.height txs).get k with
      | none => exact Or.inl (r2 k c hcr hr)
      | some c' =>
        have := r1 k c' hcr
        rw [hr] at this; cases this
        obtain ⟨-, -, -, tx, htx, o, -, e1, e2, -, e3, -⟩ :=
          createdOf_content (fun tx htx => wellFormed_length (hwf tx htx).1) hcr
        exact Or.inr ⟨tx, htx, o, e1, e2, e3⟩
    split at h6
    · cases hr : rel.get k with
      | none => rw [hr] at h6; exact Or.inl h6
      | some c' =>
        rw [hr] at h6
        simp only [Option.some.injEq] at h6; subst h6
        rcases hrel hr with h7 | h7
        · exact Or.inl h7
        · exact Or.inr (Or.inl h7)
    · exact Or.inl h6
  · exact Or.inr (Or.inr h6)

/-- `hsep` is `MarkerFresh` of Props/Reach.lean: the faucet markers inserted keep clear of the transaction hashes of
    the block -/
theorem applyBatch_slots {env : Env} {s s' : State} {txs : List Tx} {fb : Header}
    (h : applyBatch env s txs fb = .ok s') (hsorted : s.txs.Pairwise C3.TxLt)
    (hhash : (txs.map (·.hash)).Nodup) (hfresh : ∀ t ∈ txs, ∀ i, s.coins.getCoin ⟨t.hash, i⟩ = none)
    (hslots : Slots s.txs s.coins)
    (hsep : ∀ f ∈ txs, f.kind = .faucet → env.isGrandfathered f.hash = false →
      ∀ u, u ∈ txs ∨ u ∈ s.txs → env.fdp f.hash ≠ u.hash) : Slots s'.txs s'.coins := by
  intro w hw i c hc
  rw [(applyBatch_frame h).txsEq, (C3.foldl_insertTx_spec txs s.txs hsorted hhash).2 w] at hw
  rcases applyBatch_source h _ c hc with h1 | ⟨tx, htx, o, e1, e2, e3⟩ | ⟨f, hf, hm, e⟩
  · rcases hw with hw | ⟨hw, -⟩
    · rw [hfresh w hw i] at h1; cases h1
    · exact hslots w hw i c h1
  · simp only at e1 e2
    rcases hw with hw | ⟨-, hall⟩
    · have : w = tx := eq_of_nodup_map (·.hash) hhash hw htx e1
      subst this
      exact ⟨o, Or.inl e2, e3⟩
    · exact absurd e1.symm (hall tx htx)
  · simp only [insertsMarker, Bool.and_eq_true, decide_eq_true_eq, Bool.not_eq_true'] at hm
    injection e with e1 _
    have hu : w ∈ txs ∨ w ∈ s.txs := hw.elim Or.inl (fun x => Or.inr x.1)
    exact absurd e1.symm (hsep f hf hm.1 hm.2 w hu)

end ReachL
end Mel

/- `Melmint`: the orders on denominations and pool keys, the pool keys of a block, saturating sums -/
import MelModel.Melmint
import MelModel.Lemmas.MapL
import MelModel.Lemmas.OutcomeL
namespace Mel

/-! ### `Denom.lt` and `PoolKey.lt` are strict total orders -/

theorem Denom.lt_iff (a b : Denom) :
    a.lt b = true ↔ a.rank < b.rank ∨ ∃ x y, a = .custom x ∧ b = .custom y ∧ bytesLt x y = true := by
  unfold Denom.lt
  split
  · next x y =>
    exact ⟨fun h => .inr ⟨x, y, rfl, rfl, h⟩, fun h => h.elim (fun h => absurd h (Nat.lt_irrefl 4))
      fun ⟨_, _, e1, e2, h⟩ => by cases e1; cases e2; exact h⟩
  · next hne =>
    exact ⟨fun h => .inl (of_decide_eq_true h), fun h => h.elim (fun h => decide_eq_true h)
      fun ⟨x, y, e1, e2, _⟩ => absurd e2 (hne x y e1)⟩

theorem Denom.eq_of_rank_eq {a b : Denom} (h : a.rank = b.rank)
    (hc : ∀ x y, a = .custom x → b = .custom y → x = y) : a = b := by
  cases a <;> cases b <;> first | rfl | rw [hc _ _ rfl rfl] | cases h

theorem Denom.lt_irrefl (a : Denom) : a.lt a = false := by
  cases h : a.lt a with
  | false => rfl
  | true =>
    rcases (Denom.lt_iff a a).mp h with h | ⟨x, y, e1, e2, h⟩
    · exact absurd h (Nat.lt_irrefl _)
    · rw [e1] at e2; cases e2; rw [bytesLt_irrefl] at h; cases h

theorem Denom.lt_trans (a b c : Denom) (h1 : a.lt b = true) (h2 : b.lt c = true) : a.lt c = true := by
  rw [Denom.lt_iff] at h1 h2 ⊢
  rcases h1 with h1 | ⟨x, y, rfl, rfl, h1⟩
  · rcases h2 with h2 | ⟨y, z, rfl, rfl, _⟩
    · exact .inl (Nat.lt_trans h1 h2)
    · exact .inl h1
  · rcases h2 with h2 | ⟨y', z, e, rfl, h2⟩
    · exact .inl h2
    · cases e; exact .inr ⟨x, z, rfl, rfl, bytesLt_trans _ _ _ h1 h2⟩

theorem Denom.lt_connected (a b : Denom) (h1 : a.lt b = false) (h2 : b.lt a = false) : a = b := by
  have n1 := fun h => Bool.false_ne_true (h1.symm.trans ((Denom.lt_iff a b).mpr h))
  have n2 := fun h => Bool.false_ne_true (h2.symm.trans ((Denom.lt_iff b a).mpr h))
  refine Denom.eq_of_rank_eq (Nat.le_antisymm (Nat.not_lt.mp fun h => n2 (.inl h)) (Nat.not_lt.mp fun h => n1 (.inl h)))
    fun x y ea eb => bytesLt_connected x y ?_ ?_
  · cases h : bytesLt x y with
    | false => rfl
    | true => exact absurd (.inr ⟨x, y, ea, eb, h⟩) n1
  · cases h : bytesLt y x with
    | false => rfl
    | true => exact absurd (.inr ⟨y, x, eb, ea, h⟩) n2

theorem PoolKey.lt_irrefl (a : PoolKey) : a.lt a = false := by
  simp [PoolKey.lt, Denom.lt_irrefl]

theorem PoolKey.lt_trans (a b c : PoolKey) (h1 : a.lt b = true) (h2 : b.lt c = true) : a.lt c = true := by
  unfold PoolKey.lt at *
  by_cases hab : a.left = b.left
  · rw [if_pos hab] at h1
    by_cases hbc : b.left = c.left
    · rw [if_pos hbc] at h2
      rw [if_pos (hab.trans hbc)]
      exact Denom.lt_trans _ _ _ h1 h2
    · rw [if_neg hbc] at h2
      rw [if_neg (by rw [hab]; exact hbc), hab]; exact h2
  · rw [if_neg hab] at h1
    by_cases hbc : b.left = c.left
    · rw [if_pos hbc] at h2
      rw [if_neg (by rw [← hbc]; exact hab), ← hbc]; exact h1
    · rw [if_neg hbc] at h2
      have h3 := Denom.lt_trans _ _ _ h1 h2
      have hac : a.left ≠ c.left := by
        intro e; rw [e, Denom.lt_irrefl] at h3; cases h3
      rw [if_neg hac]; exact h3

theorem PoolKey.lt_connected (a b : PoolKey) (h1 : a.lt b = false) (h2 : b.lt a = false) : a = b := by
  unfold PoolKey.lt at *
  by_cases hab : a.left = b.left
  · rw [if_pos hab] at h1
    rw [if_pos hab.symm] at h2
    have := Denom.lt_connected _ _ h1 h2
    cases a; cases b; simp_all
  · rw [if_neg hab] at h1
    rw [if_neg (fun e => hab e.symm)] at h2
    exact absurd (Denom.lt_connected _ _ h1 h2) hab

/-! ### the pool keys of a block, and the requests for one of them -/

theorem extractPoolKeysSorted_nodup (txs : List Tx) : (extractPoolKeysSorted txs).Nodup :=
  nodup_sortDedup PoolKey.lt PoolKey.lt_irrefl PoolKey.lt_trans PoolKey.lt_connected _

theorem mem_extractPoolKeysSorted {txs : List Tx} {k : PoolKey} (h : k ∈ extractPoolKeysSorted txs) :
    ∃ tx ∈ txs, canonicalPoolKey tx.data = some k := by
  unfold extractPoolKeysSorted at h
  rw [mem_sortDedup] at h
  obtain ⟨tx, htx, hk⟩ := List.mem_filterMap.mp h
  exact ⟨tx, htx, hk⟩

theorem mem_transactionsForPool_iff {reqs : List Tx} {k : PoolKey} {tx : Tx} :
    tx ∈ transactionsForPool reqs k ↔ tx ∈ reqs ∧ canonicalPoolKey tx.data = some k := by
  unfold transactionsForPool
  rw [List.mem_filter, decide_eq_true_eq]

theorem mem_transactionsForPool {reqs : List Tx} {k : PoolKey} {tx : Tx}
    (h : tx ∈ transactionsForPool reqs k) : tx ∈ reqs :=
  (mem_transactionsForPool_iff.mp h).1

/-! ### saturating conversions and sums -/

theorem satU128_le (n : Nat) : satU128 n ≤ n := Nat.min_le_left _ _

theorem satU128_le_max (n : Nat) : satU128 n ≤ U128_MAX := Nat.min_le_right _ _

theorem satSum_eq_min (l : List Nat) : satSum l = min l.sum U128_MAX := by
  rw [satSum, foldl_satAdd128_eq_min l 0 (Nat.zero_le _), Nat.zero_add]

theorem satSum_le_max (l : List Nat) : satSum l ≤ U128_MAX := by
  rw [satSum_eq_min]; exact Nat.min_le_right _ _

theorem satSum_le_sum (l : List Nat) : satSum l ≤ l.sum := by
  rw [satSum_eq_min]; exact Nat.min_le_left _ _

theorem satSum_eq_sum (l : List Nat) (h : l.sum ≤ U128_MAX) : satSum l = l.sum := by
  rw [satSum_eq_min, Nat.min_eq_left h]

theorem satSum_pos {l : List Nat} (h : ∃ x ∈ l, 0 < x) : 0 < satSum l := by
  obtain ⟨x, hx, hpos⟩ := h
  rw [satSum_eq_min]
  exact Nat.lt_min.mpr ⟨Nat.lt_of_lt_of_le hpos (le_sum_of_mem hx), U128_MAX_pos⟩

end Mel

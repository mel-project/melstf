/- the specification of `applyBatch`: one characterising lemma per phase, the frame and the exact coin transition
   of an accepted batch -/
import MelModel.ApplyTx
import MelModel.Sched
import MelModel.Lemmas.Counts
import MelModel.Lemmas.Mint
import MelModel.Props.C20
import MelModel.Lemmas.OutcomeL
import MelModel.Lemmas.MapL
import MelModel.Lemmas.CoinsL
namespace Mel
namespace BatchL end BatchL
open BatchL

/-! ### the coins created by a batch -/

/-- the `created` map of `loadRelevantCoins` -/
def createdOf (height : Nat) (txs : List Tx) : Relevant :=
  txs.foldl (fun acc tx => acc.extend (outputCoinsFromTx tx height)) []

/-- the ids `createNextState` tries to insert -/
def outputIds (txs : List Tx) : List CoinID :=
  txs.flatMap fun tx => (List.range tx.outputs.length).map fun i => { txhash := tx.hash, index := i % 256 }

theorem mem_outputCoinsFromTx {tx : Tx} {height : Nat} {k : CoinID} {c : CoinDataHeight}
    (h : (k, c) ∈ outputCoinsFromTx tx height) :
    ∃ i o, tx.outputs[i]? = some o ∧ k = { txhash := tx.hash, index := i % 256 } ∧ c.height = height ∧
      c.coinData.covhash ≠ coinDestroy ∧
      c.coinData = (if o.denom = .newCustom then { o with denom := .custom tx.hash } else o) := by
  simp only [outputCoinsFromTx, List.mem_filterMap] at h
  obtain ⟨⟨o, i⟩, hmem, hf⟩ := h
  rw [List.mem_zipIdx_iff_getElem?] at hmem
  simp only at hmem hf
  by_cases hne : (if o.denom = .newCustom then ({ o with denom := .custom tx.hash } : CoinData) else o).covhash
      ≠ coinDestroy
  · rw [if_pos hne] at hf
    simp only [Option.some.injEq, Prod.mk.injEq] at hf
    obtain ⟨hk, hc⟩ := hf
    subst hk; subst hc
    exact ⟨i, o, hmem, rfl, rfl, hne, rfl⟩
  · rw [if_neg hne] at hf
    cases hf

theorem createdOf_get_some {height : Nat} {txs : List Tx} {k : CoinID} {c : CoinDataHeight}
    (h : (createdOf height txs).get k = some c) :
    ∃ tx ∈ txs, (k, c) ∈ outputCoinsFromTx tx height := by
  rcases AList.get_foldl_extend_some (fun tx => outputCoinsFromTx tx height) txs [] k c h with h1 | h1
  · simp [AList.get] at h1
  · exact h1

theorem createdOf_key_mem_outputIds {height : Nat} {txs : List Tx} {k : CoinID} {c : CoinDataHeight}
    (h : (createdOf height txs).get k = some c) : k ∈ outputIds txs := by
  obtain ⟨tx, htx, hm⟩ := createdOf_get_some h
  obtain ⟨i, o, ho, hk, -⟩ := mem_outputCoinsFromTx hm
  simp only [outputIds, List.mem_flatMap, List.mem_map, List.mem_range]
  refine ⟨tx, htx, i, ?_, hk.symm⟩
  exact (List.getElem?_eq_some_iff.mp ho).1

theorem createdOf_content {height : Nat} {txs : List Tx} {id : CoinID} {c : CoinDataHeight}
    (hwf : ∀ tx ∈ txs, tx.outputs.length ≤ 256)
    (h : (createdOf height txs).get id = some c) :
    c.height = height ∧ c.coinData.covhash ≠ coinDestroy ∧ c.coinData.denom ≠ .newCustom ∧
    ∃ tx ∈ txs, ∃ o ∈ tx.outputs, id.txhash = tx.hash ∧ tx.outputs[id.index]? = some o ∧
      c.coinData.value = o.value ∧ c.coinData.covhash = o.covhash ∧ c.coinData.additionalData = o.additionalData ∧
      c.coinData.denom = (if o.denom = .newCustom then .custom tx.hash else o.denom) := by
  obtain ⟨tx, htx, hm⟩ := createdOf_get_some h
  obtain ⟨i, o, ho, hk, hh, hcov, hcd⟩ := mem_outputCoinsFromTx hm
  have hi : i < tx.outputs.length := (List.getElem?_eq_some_iff.mp ho).1
  have hmod : i % 256 = i := Nat.mod_eq_of_lt (Nat.lt_of_lt_of_le hi (hwf tx htx))
  rw [hmod] at hk
  subst hk
  have hc : c.coinData = { o with denom := if o.denom = .newCustom then .custom tx.hash else o.denom } := by
    rw [hcd]; split <;> rfl
  rw [hc] at hcov ⊢
  refine ⟨hh, hcov, ?_, tx, htx, o, List.mem_of_getElem? ho, rfl, ho, rfl, rfl, rfl, rfl⟩
  split
  · nofun
  · assumption

theorem createdOf_txhash {height : Nat} {txs : List Tx} {k : CoinID} {c : CoinDataHeight}
    (h : (createdOf height txs).get k = some c) : ∃ tx ∈ txs, k.txhash = tx.hash := by
  obtain ⟨tx, htx, hm⟩ := createdOf_get_some h
  obtain ⟨i, o, -, hk, -⟩ := mem_outputCoinsFromTx hm
  exact ⟨tx, htx, by rw [hk]⟩

theorem createdOf_none_of_hash {h : Nat} {txs : List Tx} {k : CoinID}
    (hk : ∀ u ∈ txs, k.txhash ≠ u.hash) : (createdOf h txs).get k = none := by
  cases hc : (createdOf h txs).get k with
  | none => rfl
  | some c =>
    obtain ⟨tx, htx, he⟩ := createdOf_txhash hc
    exact absurd he (hk tx htx)

theorem mem_outputIds {txs : List Tx} {k : CoinID} (h : k ∈ outputIds txs) :
    ∃ tx ∈ txs, ∃ i, k = ⟨tx.hash, i⟩ := by
  simp only [outputIds, List.mem_flatMap, List.mem_map] at h
  obtain ⟨tx, htx, i, -, rfl⟩ := h
  exact ⟨tx, htx, _, rfl⟩

/-! ### `loadRelevantCoins` -/

/-- one step of `extract_input_coins` -/
def diskStep (created : Relevant) (coins : CoinMap) (acc : Relevant) (inp : CoinID) : Outcome Relevant :=
  if created.contains inp then .ok acc
  else match coins.getCoin inp with
    | some c => .ok (acc.set inp c)
    | none => .reject .nonexistentCoin

theorem diskStep_ok {created : Relevant} {coins : CoinMap} {acc acc' : Relevant} {inp : CoinID}
    (h : diskStep created coins acc inp = .ok acc') :
    (created.contains inp = true ∧ acc' = acc) ∨
    (created.get inp = none ∧ ∃ c, coins.getCoin inp = some c ∧ acc' = acc.set inp c) := by
  simp only [diskStep] at h
  split at h
  · rename_i hc; cases h; exact Or.inl ⟨hc, rfl⟩
  · rename_i hc
    have hn : created.get inp = none := by
      simp only [AList.contains] at hc
      cases hg : created.get inp with
      | none => rfl
      | some v => simp [hg] at hc
    split at h
    · rename_i c hcoin; cases h; exact Or.inr ⟨hn, c, hcoin, rfl⟩
    · cases h

theorem diskFold_spec (created : Relevant) (coins : CoinMap) (l : List CoinID) :
    ∀ (acc disk : Relevant), Outcome.foldlM' (diskStep created coins) acc l = .ok disk →
      (∀ inp ∈ l, (coins.getCoin inp).isSome ∨ (created.get inp).isSome) ∧
      ∀ k, disk.get k = if k ∈ l ∧ created.get k = none then coins.getCoin k else acc.get k := by
  induction l with
  | nil => intro acc disk h; rw [Outcome.foldlM'_nil_ok] at h; subst h; simp
  | cons inp rest ih =>
    intro acc disk h
    rw [Outcome.foldlM'_cons_ok] at h
    obtain ⟨acc1, h1, h2⟩ := h
    obtain ⟨i1, i2⟩ := ih acc1 disk h2
    rcases diskStep_ok h1 with ⟨hc, rfl⟩ | ⟨hn, c0, hcoin, rfl⟩
    · refine ⟨List.forall_mem_cons.mpr ⟨Or.inr hc, i1⟩, fun k => ?_⟩
      rw [i2 k]
      by_cases hk : k = inp
      · subst hk
        have hne : created.get k ≠ none := fun h0 => by simp [AList.contains, h0] at hc
        simp [hne]
      · simp [hk]
    · refine ⟨List.forall_mem_cons.mpr ⟨Or.inl (by rw [hcoin]; rfl), i1⟩, fun k => ?_⟩
      rw [i2 k]
      by_cases hk : k = inp
      · subst hk; simp [hn, hcoin, AList.get_set_self]
      · simp [hk, AList.get_set_ne _ _ hk]

theorem diskFold_ok_of (created : Relevant) (coins : CoinMap) (l : List CoinID) :
    (∀ inp ∈ l, (coins.getCoin inp).isSome ∨ (created.get inp).isSome) →
    ∀ acc : Relevant, ∃ disk, Outcome.foldlM' (diskStep created coins) acc l = .ok disk := by
  induction l with
  | nil => intro _ acc; exact ⟨acc, rfl⟩
  | cons inp rest ih =>
    intro h acc
    have hrest := ih (fun x hx => h x (List.mem_cons_of_mem _ hx))
    by_cases hc : created.contains inp = true
    · obtain ⟨disk, hd⟩ := hrest acc
      refine ⟨disk, ?_⟩
      rw [Outcome.foldlM'_cons_ok]
      exact ⟨acc, by simp [diskStep, hc], hd⟩
    · have hcoin : (coins.getCoin inp).isSome := by
        rcases h inp List.mem_cons_self with h1 | h1
        · exact h1
        · exact absurd h1 hc
      obtain ⟨c, hcc⟩ := Option.isSome_iff_exists.mp hcoin
      obtain ⟨disk, hd⟩ := hrest (acc.set inp c)
      refine ⟨disk, ?_⟩
      rw [Outcome.foldlM'_cons_ok]
      exact ⟨acc.set inp c, by simp [diskStep, hc, hcc], hd⟩

theorem loadRelevantCoins_eq (s : State) (txs : List Tx) :
    loadRelevantCoins s txs =
      if !(txs.all fun tx => tx.isWellFormed && tx.melTotalFits && tx.covWeightsFit) then .reject .malformedTx else
      (Outcome.foldlM' (diskStep (createdOf s.height txs) s.coins) [] (txs.flatMap (·.inputs))).bind fun disk =>
        if (txs.flatMap (·.inputs)).Nodup then .ok ((createdOf s.height txs).extend disk.reverse)
        else .reject .nonexistentCoin := rfl

theorem loadRelevantCoins_iff {s : State} {txs : List Tx} {rel : Relevant} :
    loadRelevantCoins s txs = .ok rel ↔
      (txs.all fun tx => tx.isWellFormed && tx.melTotalFits && tx.covWeightsFit) = true ∧
      (txs.flatMap (·.inputs)).Nodup ∧
      ∃ disk, Outcome.foldlM' (diskStep (createdOf s.height txs) s.coins) [] (txs.flatMap (·.inputs)) = .ok disk ∧
        rel = (createdOf s.height txs).extend disk.reverse := by
  rw [loadRelevantCoins_eq]
  by_cases hw : (txs.all fun tx => tx.isWellFormed && tx.melTotalFits && tx.covWeightsFit) = true
  · rw [hw, Bool.not_true, if_neg Bool.false_ne_true, Outcome.bind_eq_ok]
    constructor
    · rintro ⟨disk, hd, h⟩
      by_cases hn : (txs.flatMap (·.inputs)).Nodup
      · rw [if_pos hn] at h; cases h; exact ⟨rfl, hn, disk, hd, rfl⟩
      · rw [if_neg hn] at h; cases h
    · rintro ⟨-, hn, disk, hd, rfl⟩
      exact ⟨disk, hd, if_pos hn⟩
  · rw [Bool.not_eq_true] at hw
    simp only [hw, Bool.not_false, if_true, reduceCtorEq, Bool.false_eq_true, false_and]

def relSpec (created : Relevant) (coins : CoinMap) (inputs : List CoinID) (k : CoinID) :
    Option CoinDataHeight :=
  (created.get k).or (if k ∈ inputs then coins.getCoin k else none)

theorem loadRel_get {s : State} {txs : List Tx} {rel : Relevant} (h : loadRelevantCoins s txs = .ok rel)
    (k : CoinID) :
    rel.get k = relSpec (createdOf s.height txs) s.coins (txs.flatMap (·.inputs)) k := by
  obtain ⟨-, -, disk, hd, rfl⟩ := loadRelevantCoins_iff.mp h
  rw [AList.get_extend, List.reverse_reverse, (diskFold_spec _ _ _ _ _ hd).2 k]
  unfold relSpec
  cases hc : (createdOf s.height txs).get k with
  | none =>
    rw [Option.or_none, Option.none_or]
    by_cases hk : k ∈ txs.flatMap (·.inputs) <;> simp [hk, AList.get]
  | some c => simp [AList.get]

structure RelLoaded (s : State) (txs : List Tx) (rel : Relevant) : Prop where
  wf : ∀ tx ∈ txs, tx.isWellFormed = true ∧ tx.melTotalFits = true ∧ tx.covWeightsFit = true
  nodup : (txs.flatMap (·.inputs)).Nodup
  inputs : ∀ inp ∈ txs.flatMap (·.inputs),
    (s.coins.getCoin inp).isSome ∨ ((createdOf s.height txs).get inp).isSome
  created : ∀ k c, (createdOf s.height txs).get k = some c → rel.get k = some c
  disk : ∀ k c, (createdOf s.height txs).get k = none → rel.get k = some c → s.coins.getCoin k = some c

theorem loadRelevantCoins_ok {s : State} {txs : List Tx} {rel : Relevant}
    (h : loadRelevantCoins s txs = .ok rel) : RelLoaded s txs rel := by
  obtain ⟨hwf, hnd, disk, hd, -⟩ := loadRelevantCoins_iff.mp h
  refine ⟨by simpa [and_assoc] using hwf, hnd, (diskFold_spec _ _ _ _ _ hd).1, ?_, ?_⟩
  · intro k c hk
    rw [loadRel_get h, relSpec, hk, Option.some_or]
  · intro k c hk hr
    rw [loadRel_get h, relSpec, hk, Option.none_or] at hr
    by_cases hin : k ∈ txs.flatMap (·.inputs)
    · rwa [if_pos hin] at hr
    · rw [if_neg hin] at hr; cases hr

theorem loadRel_ok_of {s : State} {txs : List Tx}
    (hwf : ∀ tx ∈ txs, tx.isWellFormed = true ∧ tx.melTotalFits = true ∧ tx.covWeightsFit = true)
    (hnd : (txs.flatMap (·.inputs)).Nodup)
    (hin : ∀ inp ∈ txs.flatMap (·.inputs),
      (s.coins.getCoin inp).isSome ∨ ((createdOf s.height txs).get inp).isSome) :
    ∃ rel, loadRelevantCoins s txs = .ok rel := by
  obtain ⟨disk, hd⟩ := diskFold_ok_of _ _ _ hin []
  refine ⟨_, loadRelevantCoins_iff.mpr ⟨?_, hnd, disk, hd, rfl⟩⟩
  rw [List.all_eq_true]
  intro tx htx
  simp [hwf tx htx]

theorem diskStep_cases (created : Relevant) (coins : CoinMap) (acc : Relevant) (a : CoinID) :
    (∃ acc', diskStep created coins acc a = .ok acc') ∨
      diskStep created coins acc a = .reject .nonexistentCoin := by
  simp only [diskStep]
  split
  · exact Or.inl ⟨_, rfl⟩
  · split
    · exact Or.inl ⟨_, rfl⟩
    · exact Or.inr rfl

theorem diskFold_missing (created : Relevant) (coins : CoinMap) (id : CoinID)
    (h1 : coins.getCoin id = none) (h2 : created.get id = none) (l : List CoinID) (hid : id ∈ l) :
    ∀ acc : Relevant, Outcome.foldlM' (diskStep created coins) acc l = .reject .nonexistentCoin := by
  induction l with
  | nil => cases hid
  | cons a rest ih =>
    intro acc
    simp only [Outcome.foldlM']
    by_cases ha : a = id
    · subst ha
      simp [diskStep, AList.contains, h1, h2]
    · have hid' : id ∈ rest := (List.mem_cons.mp hid).resolve_left (fun h => ha h.symm)
      rcases diskStep_cases created coins acc a with ⟨acc', h⟩ | h
      · rw [h]; exact ih hid' acc'
      · rw [h]

/-! ### folds whose acceptance does not depend on the accumulator -/
namespace C3

def valOf {β} [Inhabited β] : Outcome β → β
  | .ok v => v
  | _ => default

theorem foldlM'_pure {α β γ} [Inhabited γ] (g : α → Outcome γ) (u : β → α → γ → β) :
    ∀ (l : List α) (b r : β),
      Outcome.foldlM' (fun b a => (g a).bind fun v => .ok (u b a v)) b l = .ok r ↔
        (∀ a ∈ l, ∃ v, g a = .ok v) ∧ r = l.foldl (fun b a => u b a (valOf (g a))) b := by
  intro l
  induction l with
  | nil =>
    intro b r
    rw [Outcome.foldlM'_nil_ok]
    simp [eq_comm]
  | cons a as ih =>
    intro b r
    rw [Outcome.foldlM'_cons_ok]
    constructor
    · rintro ⟨b', h1, h2⟩
      rw [Outcome.bind_eq_ok] at h1
      obtain ⟨v, hv, h1⟩ := h1
      cases h1
      obtain ⟨i1, i2⟩ := (ih _ _).mp h2
      refine ⟨?_, ?_⟩
      · intro x hx
        rcases List.mem_cons.mp hx with rfl | hx
        · exact ⟨v, hv⟩
        · exact i1 x hx
      · rw [i2, List.foldl_cons, hv]; rfl
    · rintro ⟨h1, h2⟩
      obtain ⟨v, hv⟩ := h1 a List.mem_cons_self
      refine ⟨u b a v, by rw [hv]; rfl, ?_⟩
      rw [ih]
      refine ⟨fun x hx => h1 x (List.mem_cons_of_mem _ hx), ?_⟩
      rw [h2, List.foldl_cons, hv]; rfl

end C3
open C3

/-! ### `loadStakeInfo` -/

/-- what one transaction contributes to `load_stake_info` -/
def C3.stakeRes (s : State) (tx : Tx) : Outcome (Option StakeDoc) :=
  if tx.kind ≠ .stake then .ok none
  else if legacyStakeReg s then .ok none
  else match tx.stakeDoc with
    | none => .reject .malformedTx
    | some d =>
      match tx.outputs with
      | [] => .reject .malformedTx
      | first :: _ =>
        if first.denom ≠ .sym then .reject .malformedTx
        else if stakeIsConsistent d s.epoch first then .ok (some d)
        else .ok none

def C3.stakeEntries (o : Option StakeDoc) (tx : Tx) : List (Hash × StakeDoc) :=
  match o with
  | some d => [(tx.hash, d)]
  | none => []

theorem loadStakeInfo_eq (s : State) (txs : List Tx) :
    loadStakeInfo s txs = Outcome.foldlM' (fun acc tx =>
      (stakeRes s tx).bind fun o => .ok (AList.extend acc (stakeEntries o tx))) [] txs := by
  unfold loadStakeInfo
  congr 1
  funext acc tx
  unfold stakeRes
  by_cases hk : tx.kind ≠ .stake
  · simp only [if_pos hk]; rfl
  · by_cases hl : legacyStakeReg s = true
    · simp only [if_neg hk, if_pos hl]; rfl
    · simp only [if_neg hk, if_neg hl]
      cases tx.stakeDoc with
      | none => rfl
      | some d =>
        cases tx.outputs with
        | nil => rfl
        | cons first rest =>
          simp only
          by_cases hden : first.denom ≠ .sym
          · simp only [if_pos hden]; rfl
          · simp only [if_neg hden]
            by_cases hc : stakeIsConsistent d s.epoch first = true
            · simp only [if_pos hc]; rfl
            · simp only [if_neg hc]; rfl

def SeqL.stakeMap (s : State) (txs : List Tx) : AList Hash StakeDoc :=
  txs.foldl (fun b a => AList.extend b (stakeEntries (valOf (stakeRes s a)) a)) []

theorem loadStake_iff {s : State} {txs : List Tx} {ns : AList Hash StakeDoc} :
    loadStakeInfo s txs = .ok ns ↔ (∀ a ∈ txs, ∃ v, stakeRes s a = .ok v) ∧ ns = SeqL.stakeMap s txs := by
  rw [loadStakeInfo_eq, foldlM'_pure]
  rfl

theorem C3.stakeEntries_key {o : Option StakeDoc} {tx : Tx} {k : Hash} {v : StakeDoc}
    (h : AList.get (stakeEntries o tx).reverse k = some v) : k = tx.hash := by
  cases o with
  | none => simp [stakeEntries, AList.get] at h
  | some d =>
    simp only [stakeEntries, List.reverse_cons, List.reverse_nil, List.nil_append, AList.get_cons] at h
    split at h
    · rename_i e; exact e.symm
    · simp [AList.get] at h

theorem SeqL.stakeMap_key {s : State} {txs : List Tx} {k : Hash} {v : StakeDoc}
    (h : (SeqL.stakeMap s txs).get k = some v) : ∃ a ∈ txs, k = a.hash := by
  rcases AList.get_foldl_extend_some (fun a => stakeEntries (valOf (stakeRes s a)) a) txs [] k v h with h1 | ⟨a, ha, hm⟩
  · simp [AList.get] at h1
  · refine ⟨a, ha, ?_⟩
    cases ho : valOf (stakeRes s a) with
    | none => simp [ho, stakeEntries] at hm
    | some d =>
      simp only [ho, stakeEntries, List.mem_cons, Prod.mk.injEq, List.not_mem_nil, or_false] at hm
      exact hm.1

/-! ### `checkTxValidity` -/

/-- one step of the input loop of `checkTxValidity` -/
def inStep (env : Env) (s : State) (lastHeader : Header) (tx : Tx) (rel : Relevant)
    (newStakes : AList Hash StakeDoc) (acc : AList Denom Nat) (e : CoinID × Nat) : Outcome (AList Denom Nat) :=
  let coinId := e.1
  if (newStakes.contains coinId.txhash || (s.stakes.getStake coinId.txhash).isSome) && !legacyStakeLock s
  then .reject .coinLocked
  else match rel.get coinId with
    | none => .reject .nonexistentCoin
    | some coin =>
      (validateTxScripts env e.2 coinId tx coin lastHeader).bind fun _ =>
        let total := (acc.get coin.coinData.denom).getD 0 + coin.coinData.value
        if total > U128_MAX then .crash "applytx.rs: in_coins sum overflow"
        else .ok (acc.set coin.coinData.denom total)

theorem checkTxValidity_eq (env : Env) (s : State) (lastHeader : Header) (tx : Tx) (rel : Relevant)
    (newStakes : AList Hash StakeDoc) :
    checkTxValidity env s lastHeader tx rel newStakes =
      (Outcome.foldlM' (inStep env s lastHeader tx rel newStakes) [] tx.inputs.zipIdx).bind fun inCoins =>
        checkBalanced tx.kind inCoins tx.totalOutputs := rfl

theorem inStep_eq_ok_iff {env : Env} {s : State} {lh : Header} {tx : Tx} {rel : Relevant}
    {ns : AList Hash StakeDoc} {acc acc' : AList Denom Nat} {e : CoinID × Nat} :
    inStep env s lh tx rel ns acc e = .ok acc' ↔
      ((ns.contains e.1.txhash || (s.stakes.getStake e.1.txhash).isSome) && !legacyStakeLock s) = false ∧
      ∃ coin, rel.get e.1 = some coin ∧ validateTxScripts env e.2 e.1 tx coin lh = .ok () ∧
        (acc.get coin.coinData.denom).getD 0 + coin.coinData.value ≤ U128_MAX ∧
        acc' = addDenom acc coin.coinData.denom coin.coinData.value := by
  simp only [inStep]
  by_cases hl : ((ns.contains e.1.txhash || (s.stakes.getStake e.1.txhash).isSome) && !legacyStakeLock s) = true
  · rw [if_pos hl, hl]
    exact Iff.intro (fun h => nomatch h) (fun h => nomatch h.1)
  · rw [if_neg hl, (Bool.not_eq_true _).mp hl]
    cases rel.get e.1 with
    | none => exact Iff.intro (fun h => nomatch h) (fun ⟨_, _, h, _⟩ => nomatch h)
    | some coin =>
      simp only [Outcome.bind_eq_ok, Option.some.injEq, true_and, exists_eq_left']
      constructor
      · rintro ⟨u, hv, h⟩
        by_cases hgt : (acc.get coin.coinData.denom).getD 0 + coin.coinData.value > U128_MAX
        · rw [if_pos hgt] at h; cases h
        · rw [if_neg hgt] at h; cases h
          exact ⟨hv, Nat.le_of_not_lt hgt, rfl⟩
      · rintro ⟨hv, hle, rfl⟩
        exact ⟨(), hv, if_neg (Nat.not_lt.mpr hle)⟩

theorem checkTxValidity_ok_input {env : Env} {s : State} {lh : Header} {tx : Tx} {rel : Relevant}
    {ns : AList Hash StakeDoc} (h : checkTxValidity env s lh tx rel ns = .ok ()) (i : Nat)
    (hi : i < tx.inputs.length) :
    ((ns.contains tx.inputs[i].txhash || (s.stakes.getStake tx.inputs[i].txhash).isSome) &&
      !legacyStakeLock s) = false ∧
    ∃ coin, rel.get tx.inputs[i] = some coin ∧ validateTxScripts env i tx.inputs[i] tx coin lh = .ok () := by
  rw [checkTxValidity_eq] at h
  obtain ⟨inCoins, hgo, -⟩ := Outcome.bind_eq_ok.mp h
  have hmem : (tx.inputs[i], i) ∈ tx.inputs.zipIdx :=
    List.mem_zipIdx_iff_getElem?.mpr (List.getElem?_eq_getElem hi)
  obtain ⟨b1, b2, hstep⟩ := Outcome.foldlM'_step_of_ok _ _ _ _ _ hmem hgo
  obtain ⟨hl, coin, hc, hv, -⟩ := inStep_eq_ok_iff.mp hstep
  exact ⟨hl, coin, hc, hv⟩

/-! ### the speed fold -/

def C3.speedFold (env : Env) (s : State) (rel : Relevant) (txs : List Tx) : Outcome Nat :=
  Outcome.foldlM' (fun (speed : Nat) (tx : Tx) =>
      if tx.kind = .doscMint then (validateDoscmint env s rel tx).bind fun sp => .ok (max speed sp)
      else .ok speed) s.doscSpeed txs

theorem speedFold_def (env : Env) (s : State) (rel : Relevant) (txs : List Tx) :
    speedFold env s rel txs = Outcome.foldlM' (speedStep env s rel) s.doscSpeed txs := rfl

def speedRes (env : Env) (s : State) (rel : Relevant) (tx : Tx) : Outcome Nat :=
  if tx.kind = .doscMint then validateDoscmint env s rel tx else .ok 0

theorem speedStep_eq (env : Env) (s : State) (rel : Relevant) :
    speedStep env s rel = fun speed tx => (speedRes env s rel tx).bind fun sp => .ok (max speed sp) := by
  funext speed tx
  unfold speedStep speedRes
  by_cases hk : tx.kind = .doscMint
  · rw [if_pos hk, if_pos hk]
  · rw [if_neg hk, if_neg hk]
    exact congrArg Outcome.ok (Nat.max_eq_left (Nat.zero_le _)).symm

theorem spFold_iff {env : Env} {s : State} {rel : Relevant} {txs : List Tx} {b sp : Nat} :
    Outcome.foldlM' (speedStep env s rel) b txs = .ok sp ↔
      (∀ a ∈ txs, ∃ v, speedRes env s rel a = .ok v) ∧
      sp = (txs.map fun a => valOf (speedRes env s rel a)).foldl max b := by
  rw [speedStep_eq, foldlM'_pure, List.foldl_map]

theorem speedFold_iff {env : Env} {s : State} {rel : Relevant} {txs : List Tx} {sp : Nat} :
    speedFold env s rel txs = .ok sp ↔
      (∀ a ∈ txs, ∃ v, speedRes env s rel a = .ok v) ∧
      sp = (txs.map fun a => valOf (speedRes env s rel a)).foldl max s.doscSpeed :=
  spFold_iff

structure SpeedMax (env : Env) (s : State) (rel : Relevant) (txs : List Tx) (b r : Nat) : Prop where
  le : b ≤ r
  bound : ∀ tx ∈ txs, tx.kind = .doscMint → ∃ sp, validateDoscmint env s rel tx = .ok sp ∧ sp ≤ r
  attained : r = b ∨ ∃ tx ∈ txs, tx.kind = .doscMint ∧ validateDoscmint env s rel tx = .ok r
  noMint : (∀ tx ∈ txs, tx.kind ≠ .doscMint) → r = b

theorem spFold_spec {env : Env} {s : State} {rel : Relevant} {txs : List Tx} {b r : Nat}
    (h : Outcome.foldlM' (speedStep env s rel) b txs = .ok r) : SpeedMax env s rel txs b r := by
  obtain ⟨hall, rfl⟩ := spFold_iff.mp h
  have hval : ∀ tx ∈ txs, (tx.kind = .doscMint ∧
      validateDoscmint env s rel tx = .ok (valOf (speedRes env s rel tx))) ∨
      (tx.kind ≠ .doscMint ∧ valOf (speedRes env s rel tx) = 0) := by
    intro tx htx
    obtain ⟨v, hv⟩ := hall tx htx
    by_cases hk : tx.kind = .doscMint
    · refine Or.inl ⟨hk, ?_⟩
      rw [hv]
      rwa [speedRes, if_pos hk] at hv
    · refine Or.inr ⟨hk, ?_⟩
      rw [speedRes, if_neg hk]
      rfl
  refine ⟨le_foldl_max _ b, fun tx htx hk => ?_, ?_, fun hno => foldl_max_eq_self fun x hx => ?_⟩
  · rcases hval tx htx with ⟨-, hv⟩ | ⟨hk', -⟩
    · exact ⟨_, hv, le_foldl_max_of_mem (List.mem_map_of_mem (f := fun a => valOf (speedRes env s rel a)) htx) b⟩
    · exact absurd hk hk'
  · rcases foldl_max_eq (txs.map fun a => valOf (speedRes env s rel a)) b with e | e
    · exact Or.inl e
    · obtain ⟨tx, htx, e'⟩ := List.mem_map.mp e
      rcases hval tx htx with ⟨hk, hv⟩ | ⟨-, h0⟩
      · exact Or.inr ⟨tx, htx, hk, by rw [← e']; exact hv⟩
      · refine Or.inl (Nat.le_antisymm ?_ (le_foldl_max _ b))
        rw [← e', h0]
        exact Nat.zero_le b
  · obtain ⟨tx, htx, rfl⟩ := List.mem_map.mp hx
    rcases hval tx htx with ⟨hk, -⟩ | ⟨-, h0⟩
    · exact absurd hk (hno tx htx)
    · rw [h0]; exact Nat.zero_le b

/-! ### `createNextState` -/

/-- first pass of `createNextState`: insert one output coin, if it is relevant -/
def insStep (rel : Relevant) (t : Bool) (coins : CoinMap) (id : CoinID) : CoinMap :=
  match rel.get id with
  | some cd => coins.insertCoin id cd t
  | none => coins

theorem getCoin_insStep (rel : Relevant) (t : Bool) (coins : CoinMap) (id k : CoinID) :
    (insStep rel t coins id).getCoin k =
      if k = id then (match rel.get k with | some c => some c | none => coins.getCoin k)
      else coins.getCoin k := by
  simp only [insStep]
  by_cases hk : k = id
  · subst hk
    cases hr : rel.get k with
    | none => simp
    | some c => simp [CoinMap.getCoin_insertCoin]
  · cases hr : rel.get id with
    | none => simp [hk]
    | some c => simp [CoinMap.getCoin_insertCoin, hk]

theorem getCoin_insFold (rel : Relevant) (t : Bool) (L : List CoinID) :
    ∀ (coins : CoinMap) (k : CoinID), (L.foldl (insStep rel t) coins).getCoin k =
      if k ∈ L then (match rel.get k with | some c => some c | none => coins.getCoin k)
      else coins.getCoin k := by
  induction L with
  | nil => intro coins k; simp
  | cons id rest ih =>
    intro coins k
    rw [List.foldl_cons, ih, getCoin_insStep]
    by_cases h1 : k = id
    · subst h1
      cases hr : rel.get k <;> simp
    · by_cases h2 : k ∈ rest <;> simp [h1, h2]

/-- second pass of `createNextState`: one transaction -/
def nextStep (env : Env) (t : Bool) (st : State) (tx : Tx) : Outcome State :=
  if st.txs.any (fun t => t.hash = tx.hash) then .reject .duplicateTx else
  (if tx.kind = .faucet then handleFaucetTx env st tx else .ok st).bind fun st1 =>
  (Outcome.foldlM' (fun (coins : CoinMap) id => coins.removeCoin id t) st1.coins tx.inputs).bind fun coins2 =>
  (tx.baseFee st1.feeMultiplier).bind fun minFee =>
    if tx.fee < minFee then .reject .insufficientFees
    else .ok { st1 with coins := coins2,
                        tips := satAdd128 st1.tips (tx.fee - minFee),
                        feePool := satAdd128 st1.feePool minFee,
                        txs := State.insertTx st1.txs tx }

theorem createNextState_eq (env : Env) (s : State) (txs : List Tx) (rel : Relevant) (t : Bool) :
    createNextState env s txs rel t =
      Outcome.foldlM' (nextStep env t) { s with coins := (outputIds txs).foldl (insStep rel t) s.coins } txs := by
  simp only [outputIds, List.foldl_flatMap, List.foldl_map]
  rfl

def faucetMarker : CoinDataHeight :=
  { coinData := { denom := .mel, value := 0, additionalData := [], covhash := zeroHash }, height := 0 }

def insertsMarker (env : Env) (tx : Tx) : Bool := tx.kind = .faucet && !env.isGrandfathered tx.hash

def BatchL.markerOf (env : Env) (tx : Tx) : CoinID := { txhash := env.fdp tx.hash, index := 0 }

def markerIdsOf (env : Env) (txs : List Tx) : List CoinID :=
  (txs.filter fun tx => tx.kind = .faucet && !env.isGrandfathered tx.hash).map
    fun tx => { txhash := env.fdp tx.hash, index := 0 }

theorem mem_markerIdsOf {env : Env} {txs : List Tx} {k : CoinID} :
    k ∈ markerIdsOf env txs ↔ ∃ tx ∈ txs, insertsMarker env tx = true ∧ k = markerOf env tx := by
  simp only [markerIdsOf, List.mem_map, List.mem_filter, insertsMarker, markerOf]
  constructor
  · rintro ⟨tx, ⟨h1, h2⟩, rfl⟩; exact ⟨tx, h1, h2, rfl⟩
  · rintro ⟨tx, h1, h2, rfl⟩; exact ⟨tx, ⟨h1, h2⟩, rfl⟩

theorem insertsMarker_faucet {env : Env} {tx : Tx} (h : insertsMarker env tx = true) : tx.kind = .faucet := by
  simp [insertsMarker] at h; exact h.1

theorem tip906_eq {st s : State} (h1 : st.network = s.network) (h2 : st.height = s.height) :
    st.tip906 = s.tip906 := by
  simp only [State.tip906, State.tipCondition, h1, h2]

/-- the faucet step of `nextStep` -/
def faucetStep (env : Env) (st : State) (tx : Tx) : Outcome State :=
  if tx.kind = .faucet then handleFaucetTx env st tx else .ok st

def faucetCoins (env : Env) (st : State) (tx : Tx) : CoinMap :=
  if insertsMarker env tx = true then st.coins.insertCoin (markerOf env tx) faucetMarker st.tip906
  else st.coins

def FaucetOk (env : Env) (st : State) (tx : Tx) : Prop :=
  tx.kind = .faucet → st.coins.getCoin (markerOf env tx) = none ∧
    (st.network = .mainnet → env.isGrandfathered tx.hash = true)

theorem handleFaucetTx_iff {env : Env} {st st1 : State} {tx : Tx} :
    handleFaucetTx env st tx = .ok st1 ↔
      (st.coins.getCoin (markerOf env tx) = none ∧ (st.network = .mainnet → env.isGrandfathered tx.hash = true)) ∧
      st1 = { st with coins := if env.isGrandfathered tx.hash = true then st.coins
                               else st.coins.insertCoin (markerOf env tx) faucetMarker st.tip906 } := by
  simp only [handleFaucetTx, markerOf, faucetMarker]
  generalize env.isGrandfathered tx.hash = b
  generalize st.coins.getCoin ⟨env.fdp tx.hash, 0⟩ = o
  by_cases hn : st.network = .mainnet ∧ b = false
  · rw [if_pos (by simp [hn])]
    exact Iff.intro (fun h => nomatch h) (fun h => by rw [h.1.2 hn.1] at hn; cases hn.2)
  · rw [if_neg (by simpa using hn)]
    have hb : st.network = .mainnet → b = true := fun h => by simpa [h] using hn
    cases o with
    | some c => exact Iff.intro (fun h => nomatch h) (fun h => nomatch h.1.1)
    | none =>
      rw [if_neg (by simp)]
      cases b with
      | true => exact ⟨fun h => ⟨⟨rfl, hb⟩, by cases h; rfl⟩, fun h => by rw [h.2]; rfl⟩
      | false => exact ⟨fun h => ⟨⟨rfl, hb⟩, by cases h; rfl⟩, fun h => by rw [h.2]; rfl⟩

theorem faucetStep_iff {env : Env} {st st1 : State} {tx : Tx} :
    faucetStep env st tx = .ok st1 ↔ FaucetOk env st tx ∧ st1 = { st with coins := faucetCoins env st tx } := by
  unfold faucetStep FaucetOk faucetCoins insertsMarker
  by_cases hk : tx.kind = .faucet
  · rw [if_pos hk, handleFaucetTx_iff]
    cases env.isGrandfathered tx.hash <;> simp only [hk, decide_true, Bool.true_and, Bool.not_true, Bool.not_false,
      Bool.false_eq_true, if_false, if_true, forall_const]
  · rw [if_neg hk]
    simp only [hk, decide_false, Bool.false_and, Bool.false_eq_true, if_false, false_imp_iff, true_and]
    exact ⟨fun h => by cases h; rfl, fun h => by rw [h]⟩

theorem getCoin_faucetCoins (env : Env) (st : State) (tx : Tx) (k : CoinID) :
    (faucetCoins env st tx).getCoin k =
      if insertsMarker env tx = true ∧ k = markerOf env tx then some faucetMarker else st.coins.getCoin k := by
  unfold faucetCoins
  by_cases hm : insertsMarker env tx = true
  · rw [if_pos hm, CoinMap.getCoin_insertCoin]
    simp only [hm, true_and]
  · rw [if_neg hm, if_neg (fun h => hm h.1)]

def removeFold (t : Bool) (coins : CoinMap) (ids : List CoinID) : Outcome CoinMap :=
  Outcome.foldlM' (fun (c : CoinMap) id => c.removeCoin id t) coins ids

def stepResult (st : State) (tx : Tx) (coins2 : CoinMap) (mf : Nat) : State :=
  { st with coins := coins2, tips := satAdd128 st.tips (tx.fee - mf),
            feePool := satAdd128 st.feePool mf, txs := State.insertTx st.txs tx }

theorem nextStep_iff {env : Env} {t : Bool} {st st' : State} {tx : Tx} :
    nextStep env t st tx = .ok st' ↔
      st.txs.any (fun u => u.hash = tx.hash) = false ∧
      FaucetOk env st tx ∧ ∃ coins2 mf, removeFold t (faucetCoins env st tx) tx.inputs = .ok coins2 ∧
        tx.baseFee st.feeMultiplier = .ok mf ∧ mf ≤ tx.fee ∧
        st' = stepResult st tx coins2 mf := by
  by_cases hdup : st.txs.any (fun u => u.hash = tx.hash) = true
  · constructor
    · intro h; unfold nextStep at h; rw [if_pos hdup] at h; cases h
    · rintro ⟨h, -⟩; rw [h] at hdup; cases hdup
  have hdup' : st.txs.any (fun u => u.hash = tx.hash) = false := by simpa using hdup
  rw [hdup', eq_self_iff_true, true_and]
  have e : nextStep env t st tx = (faucetStep env st tx).bind fun st1 =>
      (removeFold t st1.coins tx.inputs).bind fun coins2 =>
      (tx.baseFee st1.feeMultiplier).bind fun minFee =>
        if tx.fee < minFee then .reject .insufficientFees
        else .ok { st1 with coins := coins2,
                            tips := satAdd128 st1.tips (tx.fee - minFee),
                            feePool := satAdd128 st1.feePool minFee,
                            txs := State.insertTx st1.txs tx } := by
    unfold nextStep; rw [if_neg hdup]; rfl
  rw [e]
  simp only [Outcome.bind_eq_ok, faucetStep_iff]
  constructor
  · rintro ⟨st1, ⟨hF, rfl⟩, coins2, h2, mf, h3, h4⟩
    split at h4
    · cases h4
    · rename_i hlt
      cases h4
      exact ⟨hF, coins2, mf, h2, h3, Nat.le_of_not_lt hlt, rfl⟩
  · rintro ⟨hF, coins2, mf, h2, h3, hle, rfl⟩
    refine ⟨_, ⟨hF, rfl⟩, coins2, h2, mf, h3, ?_⟩
    rw [if_neg (Nat.not_lt.mpr hle)]
    rfl

theorem getCoin_nextStep {env : Env} {t : Bool} {st st' : State} {tx : Tx}
    (h : nextStep env t st tx = .ok st') (k : CoinID) :
    st'.coins.getCoin k =
      if k ∈ tx.inputs then none
      else if insertsMarker env tx = true ∧ k = markerOf env tx then some faucetMarker
      else st.coins.getCoin k := by
  obtain ⟨-, -, coins2, mf, h2, -, -, rfl⟩ := nextStep_iff.mp h
  rw [← getCoin_faucetCoins]
  exact CoinMap.getCoin_removeCoins t tx.inputs _ _ h2 k

theorem getCoin_nextFold (env : Env) (t : Bool) (txs : List Tx) :
    ∀ (st st' : State), Outcome.foldlM' (nextStep env t) st txs = .ok st' →
      (∀ m ∈ markerIdsOf env txs, m ∉ txs.flatMap (·.inputs)) →
      ∀ k, st'.coins.getCoin k =
        if k ∈ txs.flatMap (·.inputs) then none
        else if k ∈ markerIdsOf env txs then some faucetMarker
        else st.coins.getCoin k := by
  induction txs with
  | nil =>
    intro st st' h _ k
    rw [Outcome.foldlM'_nil_ok] at h; subst h
    simp [markerIdsOf]
  | cons tx rest ih =>
    intro st st' h hm k
    rw [Outcome.foldlM'_cons_ok] at h
    obtain ⟨st1, h1, h2⟩ := h
    have hm' : ∀ m ∈ markerIdsOf env rest, m ∉ rest.flatMap (·.inputs) := by
      intro m hmm hin
      have : m ∈ markerIdsOf env (tx :: rest) := by
        rw [mem_markerIdsOf] at hmm ⊢
        obtain ⟨a, ha, hb⟩ := hmm
        exact ⟨a, List.mem_cons_of_mem _ ha, hb⟩
      exact hm m this (by simp [hin])
    rw [ih st1 st' h2 hm' k, getCoin_nextStep h1 k]
    have hmem : k ∈ markerIdsOf env (tx :: rest) ↔
        (insertsMarker env tx = true ∧ k = markerOf env tx) ∨ k ∈ markerIdsOf env rest := by
      simp only [mem_markerIdsOf, List.mem_cons, exists_eq_or_imp]
    have hin : k ∈ (tx :: rest).flatMap (·.inputs) ↔ k ∈ tx.inputs ∨ k ∈ rest.flatMap (·.inputs) := by
      simp
    by_cases c1 : k ∈ rest.flatMap (·.inputs)
    · rw [if_pos c1, if_pos (hin.mpr (Or.inr c1))]
    · by_cases c2 : k ∈ markerIdsOf env rest
      · have c3 : k ∉ tx.inputs := by
          intro hc
          exact hm k (hmem.mpr (Or.inr c2)) (hin.mpr (Or.inl hc))
        have c5 : k ∉ (tx :: rest).flatMap (·.inputs) := by
          rw [hin]; exact fun h => h.elim c3 c1
        rw [if_neg c1, if_pos c2, if_neg c5, if_pos (hmem.mpr (Or.inr c2))]
      · rw [if_neg c1, if_neg c2]
        by_cases c3 : k ∈ tx.inputs
        · rw [if_pos c3, if_pos (hin.mpr (Or.inl c3))]
        · have c5 : k ∉ (tx :: rest).flatMap (·.inputs) := by
            rw [hin]; exact fun h => h.elim c3 c1
          rw [if_neg c3, if_neg c5]
          by_cases c4 : insertsMarker env tx = true ∧ k = markerOf env tx
          · rw [if_pos c4, if_pos (hmem.mpr (Or.inl c4))]
          · have c6 : k ∉ markerIdsOf env (tx :: rest) := by
              rw [hmem]; exact fun h => h.elim c4 c2
            rw [if_neg c4, if_neg c6]

/-- a coin that is present and is not an input of the transaction is left alone by the step (it cannot be the
    marker of an accepted faucet transaction: the faucet step wants that absent) -/
theorem getCoin_nextStep_keep {env : Env} {t : Bool} {st st' : State} {tx : Tx}
    (h : nextStep env t st tx = .ok st') {k : CoinID} (hk : k ∉ tx.inputs)
    (hp : (st.coins.getCoin k).isSome) : st'.coins.getCoin k = st.coins.getCoin k := by
  rw [getCoin_nextStep h, if_neg hk, if_neg]
  rintro ⟨hm, rfl⟩
  rw [((nextStep_iff.mp h).2.1 (insertsMarker_faucet hm)).1] at hp
  cases hp

theorem getCoin_nextFold_keep {env : Env} {t : Bool} {st st' : State} {l : List Tx}
    (h : Outcome.foldlM' (nextStep env t) st l = .ok st') {k : CoinID} (hk : ∀ u ∈ l, k ∉ u.inputs)
    (hp : (st.coins.getCoin k).isSome) : st'.coins.getCoin k = st.coins.getCoin k :=
  Outcome.foldlM'_inv_mem (fun b => b.coins.getCoin k = st.coins.getCoin k) _ l
    (fun _ a _ ha hb hs => (getCoin_nextStep_keep hs (hk a ha) (by rw [hb]; exact hp)).trans hb) st st' rfl h

theorem insFold_present {rel : Relevant} {t : Bool} {L : List CoinID} {coins : CoinMap} {k : CoinID}
    (hp : (coins.getCoin k).isSome) : ((L.foldl (insStep rel t) coins).getCoin k).isSome := by
  rw [getCoin_insFold]
  split
  · cases rel.get k with
    | none => exact hp
    | some c => rfl
  · exact hp

theorem insFold_other {rel : Relevant} {t : Bool} {txs : List Tx} {coins : CoinMap} {k : CoinID}
    (hk : ∀ tx ∈ txs, k.txhash ≠ tx.hash) :
    ((outputIds txs).foldl (insStep rel t) coins).getCoin k = coins.getCoin k := by
  rw [getCoin_insFold, if_neg]
  intro hm
  obtain ⟨tx, htx, i, rfl⟩ := mem_outputIds hm
  exact hk tx htx rfl

/-- the minimum fee of a transaction at a multiplier (0 if the weight computation crashes) -/
def C3.feeOf (m : Nat) (tx : Tx) : Nat := valOf (tx.baseFee m)

theorem any_hash_insertTx (l : List Tx) (tx : Tx) (h : Hash) :
    (State.insertTx l tx).any (fun t => t.hash = h) = (l.any (fun t => t.hash = h) || decide (tx.hash = h)) := by
  induction l with
  | nil => simp [State.insertTx]
  | cons t rest ih =>
    unfold State.insertTx
    split
    · rename_i e
      simp only [List.any_cons, e]
      rw [Bool.or_right_comm, Bool.or_self]
    · split
      · simp only [List.any_cons]
        exact Bool.or_comm _ _
      · simp only [List.any_cons, ih]
        exact (Bool.or_assoc _ _ _).symm

/-- what the second pass over `l` from `st` leaves alone, and the scalars it accumulates -/
structure NextFold (env : Env) (l : List Tx) (st st' : State) : Prop where
  network : st'.network = st.network
  height : st'.height = st.height
  feeMultiplier : st'.feeMultiplier = st.feeMultiplier
  history : st'.history = st.history
  pools : st'.pools = st.pools
  stakes : st'.stakes = st.stakes
  doscSpeed : st'.doscSpeed = st.doscSpeed
  feePool : st'.feePool = (l.map (feeOf st.feeMultiplier)).foldl satAdd128 st.feePool
  tips : st'.tips = (l.map fun tx => tx.fee - feeOf st.feeMultiplier tx).foldl satAdd128 st.tips
  txsEq : st'.txs = l.foldl State.insertTx st.txs
  accepted : ∀ a ∈ l, (∃ mf, a.baseFee st.feeMultiplier = .ok mf ∧ mf ≤ a.fee) ∧
    (a.kind = .faucet → st.network = .mainnet → env.isGrandfathered a.hash = true)

theorem nextFold_info (env : Env) (t : Bool) : ∀ (l : List Tx) (st st' : State),
    Outcome.foldlM' (nextStep env t) st l = .ok st' → NextFold env l st st' := by
  intro l
  induction l with
  | nil =>
    intro st st' h
    rw [Outcome.foldlM'_nil_ok] at h; subst h
    exact ⟨rfl, rfl, rfl, rfl, rfl, rfl, rfl, rfl, rfl, rfl, fun _ ha => nomatch ha⟩
  | cons a rest ih =>
    intro st st' h
    rw [Outcome.foldlM'_cons_ok] at h
    obtain ⟨st1, h1, h2⟩ := h
    obtain ⟨-, hF, coins2, mf, hrm, hmf, hle, rfl⟩ := nextStep_iff.mp h1
    obtain ⟨i1, i2, i3, i4, i5, i6, i7, i8, i9, i10, i11⟩ := ih _ _ h2
    simp only [stepResult] at i1 i2 i3 i4 i5 i6 i7 i8 i9 i10 i11
    have hfee : feeOf st.feeMultiplier a = mf := by rw [feeOf, hmf]; rfl
    refine ⟨i1, i2, i3, i4, i5, i6, i7, ?_, ?_, ?_, ?_⟩
    · rw [i8, List.map_cons, List.foldl_cons, hfee]
    · rw [i9, List.map_cons, List.foldl_cons, hfee]
    · rw [i10, List.foldl_cons]
    · intro x hx
      rcases List.mem_cons.mp hx with rfl | hx
      · exact ⟨⟨mf, hmf, hle⟩, fun hk => (hF hk).2⟩
      · exact i11 x hx

theorem nextFold_marker_absent (env : Env) (t : Bool) : ∀ (l : List Tx) (st st' : State),
    Outcome.foldlM' (nextStep env t) st l = .ok st' →
    (∀ f ∈ l, f.kind = .faucet → ∀ u ∈ l, markerOf env f ∉ u.inputs) →
    ∀ f ∈ l, f.kind = .faucet → st.coins.getCoin (markerOf env f) = none := by
  intro l
  induction l with
  | nil => intro st st' _ _ f hf; cases hf
  | cons a rest ih =>
    intro st st' h hni f hf hk
    rw [Outcome.foldlM'_cons_ok] at h
    obtain ⟨st1, h1, h2⟩ := h
    rcases List.mem_cons.mp hf with rfl | hf'
    · exact ((nextStep_iff.mp h1).2.1 hk).1
    · have := ih st1 st' h2
        (fun f hf hk u hu => hni f (List.mem_cons_of_mem _ hf) hk u (List.mem_cons_of_mem _ hu)) f hf' hk
      rw [getCoin_nextStep h1, if_neg (hni f hf hk a List.mem_cons_self)] at this
      split at this
      · cases this
      · exact this

theorem nextFold_fresh (env : Env) (t : Bool) : ∀ (l : List Tx) (st st' : State),
    Outcome.foldlM' (nextStep env t) st l = .ok st' →
    (l.map (·.hash)).Nodup ∧ ∀ a ∈ l, st.txs.any (fun u => u.hash = a.hash) = false := by
  intro l
  induction l with
  | nil => intro st st' _; exact ⟨List.nodup_nil, fun a ha => by cases ha⟩
  | cons a rest ih =>
    intro st st' h
    rw [Outcome.foldlM'_cons_ok] at h
    obtain ⟨st1, h1, h2⟩ := h
    obtain ⟨hnd, -, coins2, mf, -, -, -, rfl⟩ := nextStep_iff.mp h1
    obtain ⟨i1, i2⟩ := ih _ _ h2
    have key : ∀ f ∈ rest, st.txs.any (fun u => u.hash = f.hash) = false ∧ a.hash ≠ f.hash := by
      intro f hf
      have := i2 f hf
      simp only [stepResult] at this
      rw [any_hash_insertTx, Bool.or_eq_false_iff] at this
      exact ⟨this.1, by simpa using this.2⟩
    refine ⟨?_, ?_⟩
    · rw [List.map_cons, List.nodup_cons]
      refine ⟨?_, i1⟩
      intro hm
      obtain ⟨f, hf, e⟩ := List.mem_map.mp hm
      exact (key f hf).2 e.symm
    · intro x hx
      rcases List.mem_cons.mp hx with rfl | hx
      · exact hnd
      · exact (key x hx).1


/-! ### invariants of the coin map through the two passes -/

/-- `I` is kept by the three updates `createNextState` performs on the coin map: inserting a new coin (one with `P`),
    re-inserting the coin that is there, removing -/
structure CoinClosed (t : Bool) (P : CoinDataHeight → Prop) (I : CoinMap → Prop) : Prop where
  fresh : ∀ {m : CoinMap} {id : CoinID} {d : CoinDataHeight}, I m → P d → m.getCoin id = none → I (m.insertCoin id d t)
  same : ∀ {m : CoinMap} {id : CoinID} {d : CoinDataHeight}, I m → m.getCoin id = some d → I (m.insertCoin id d t)
  remove : ∀ {m m' : CoinMap} {id : CoinID}, I m → m.removeCoin id t = .ok m' → I m'

namespace CoinClosed
variable {t : Bool} {P : CoinDataHeight → Prop} {I : CoinMap → Prop}

theorem removeFold (C : CoinClosed t P I) {m m' : CoinMap} {ids : List CoinID} (h : I m)
    (hf : Mel.removeFold t m ids = .ok m') : I m' :=
  Outcome.foldlM'_inv I _ (fun _ _ _ hb hr => C.remove hb hr) ids m m' h hf

/-- the insertion pass: every inserted id is either new or re-inserted with the very same coin -/
theorem insFold (C : CoinClosed t P I) (rel : Relevant) (hP : ∀ id c, rel.get id = some c → P c) :
    ∀ (L : List CoinID) (coins : CoinMap), I coins →
      (∀ id ∈ L, coins.getCoin id = none ∨ coins.getCoin id = rel.get id) →
      I (L.foldl (insStep rel t) coins) := by
  intro L
  induction L with
  | nil => intro coins h _; exact h
  | cons id rest ih =>
    intro coins h hfresh
    rw [List.foldl_cons]
    apply ih
    · unfold insStep
      cases hr : rel.get id with
      | none => exact h
      | some cd =>
        rcases hfresh id List.mem_cons_self with h0 | h0
        · exact C.fresh h (hP id cd hr) h0
        · exact C.same h (h0.trans hr)
    · intro x hx
      rw [getCoin_insStep]
      by_cases hxi : x = id
      · subst hxi
        rw [if_pos rfl]
        cases hr : rel.get x with
        | none => simpa [hr] using hfresh x List.mem_cons_self
        | some cd => exact Or.inr rfl
      · rw [if_neg hxi]
        exact hfresh x (List.mem_cons_of_mem _ hx)

theorem faucetCoins (C : CoinClosed t P I) (hP : P faucetMarker) {env : Env} {st : State} {tx : Tx}
    (ht : st.tip906 = t) (h : I st.coins) (hF : FaucetOk env st tx) : I (Mel.faucetCoins env st tx) := by
  unfold Mel.faucetCoins
  split
  · rename_i hm
    rw [ht]
    exact C.fresh h hP (hF (insertsMarker_faucet hm)).1
  · exact h

theorem nextStep (C : CoinClosed t P I) (hP : P faucetMarker) {env : Env} {st st' : State} {tx : Tx}
    (ht : st.tip906 = t) (h : I st.coins) (hs : Mel.nextStep env t st tx = .ok st') :
    st'.tip906 = t ∧ I st'.coins := by
  obtain ⟨-, hF, coins2, mf, hrm, -, -, rfl⟩ := nextStep_iff.mp hs
  exact ⟨(tip906_eq rfl rfl).trans ht, C.removeFold (C.faucetCoins hP ht h hF) hrm⟩

end CoinClosed

/-- the count invariant, as far as it matters: before TIP-906 the counts are not maintained at all -/
def CInv (t : Bool) (m : CoinMap) : Prop := t = true → CountsOk m

theorem CInv.remove {t : Bool} {m : CoinMap} (h : CInv t m) (id : CoinID) :
    ∃ m', m.removeCoin id t = .ok m' ∧ CInv t m' := by
  cases t with
  | false => exact ⟨{ m with coins := m.coins.del id }, by simp [CoinMap.removeCoin], fun h => by cases h⟩
  | true =>
    obtain ⟨m', h1, h2⟩ := C20_remove m id (h rfl)
    exact ⟨m', h1, fun _ => h2⟩

theorem CInv.closed (t : Bool) : CoinClosed t (fun _ => True) (CInv t) where
  fresh := fun h _ hf ht => by subst ht; exact C20_insert_fresh _ _ _ (h rfl) hf
  same := fun h hf ht => by subst ht; exact C20_insert_overwrite _ _ _ _ (h rfl) hf rfl
  remove := fun {m m' id} h hr => by
    obtain ⟨m1, h1, h2⟩ := h.remove id
    rw [hr] at h1; cases h1; exact h2

/-- under the count invariant the removals of a transaction's inputs cannot fail -/
theorem CInv.removeFold {t : Bool} (ids : List CoinID) :
    ∀ m : CoinMap, CInv t m → ∃ m', removeFold t m ids = .ok m' ∧ CInv t m' := by
  induction ids with
  | nil => intro m h; exact ⟨m, rfl, h⟩
  | cons id rest ih =>
    intro m h
    obtain ⟨m1, h1, h2⟩ := h.remove id
    obtain ⟨m2, h3, h4⟩ := ih m1 h2
    exact ⟨m2, (Outcome.foldlM'_cons_ok _ _ _ _ _).mpr ⟨m1, h1, h3⟩, h4⟩

/-! ### `applyBatch` -/

theorem stakeFold_get (ns : AList Hash StakeDoc) (base : StakeSet) (k : Hash) :
    (ns.reverse.foldl (fun st e => StakeSet.addStake st e.1 e.2) base).getStake k =
      (ns.get k).or (base.get k) := by
  rw [List.foldl_reverse]
  induction ns with
  | nil => simp [AList.get, StakeSet.getStake]
  | cons e rest ih =>
    obtain ⟨k', v⟩ := e
    simp only [List.foldr_cons, StakeSet.getStake, StakeSet.addStake] at ih ⊢
    by_cases h : k' = k
    · subst h; rw [AList.get_set_self]; simp [AList.get_cons]
    · have h' : k ≠ k' := fun h2 => h h2.symm
      rw [AList.get_set_ne _ _ h', ih]; simp [AList.get_cons, h]

def finishBatch (next : State) (sp : Nat) (ns : AList Hash StakeDoc) : State :=
  { next with doscSpeed := sp,
              stakes := ns.reverse.foldl (fun st e => StakeSet.addStake st e.1 e.2) next.stakes }

theorem applyBatch_iff {env : Env} {s s' : State} {txs : List Tx} {fb : Header} :
    applyBatch env s txs fb = .ok s' ↔
      ∃ rel ns sp next, loadRelevantCoins s txs = .ok rel ∧ loadStakeInfo s txs = .ok ns ∧
        Outcome.forM' (fun tx => checkTxValidity env s (lastHeaderOf s fb) tx rel ns) txs = .ok () ∧
        speedFold env s rel txs = .ok sp ∧ createNextState env s txs rel s.tip906 = .ok next ∧
        s' = finishBatch next sp ns := by
  simp only [applyBatch, Outcome.bind_eq_ok]
  constructor
  · rintro ⟨rel, h1, ns, h2, u, h3, sp, h4, next, h5, h6⟩
    cases h6
    exact ⟨rel, ns, sp, next, h1, h2, h3, h4, h5, rfl⟩
  · rintro ⟨rel, ns, sp, next, h1, h2, h3, h4, h5, rfl⟩
    exact ⟨rel, h1, ns, h2, (), h3, sp, h4, next, h5, rfl⟩

theorem applyBatch_ok {env : Env} {s s' : State} {txs : List Tx} {fb : Header}
    (h : applyBatch env s txs fb = .ok s') :
    ∃ rel newStakes next, loadRelevantCoins s txs = .ok rel ∧ loadStakeInfo s txs = .ok newStakes ∧
      (∀ tx ∈ txs, checkTxValidity env s (lastHeaderOf s fb) tx rel newStakes = .ok ()) ∧
      createNextState env s txs rel s.tip906 = .ok next ∧ s'.coins = next.coins := by
  obtain ⟨rel, ns, sp, next, h1, h2, h3, -, h5, rfl⟩ := applyBatch_iff.mp h
  exact ⟨rel, ns, next, h1, h2, (Outcome.forM'_eq_ok _ _).mp h3, h5, rfl⟩

/-- what an accepted batch leaves alone, and the closed forms of what it accumulates -/
structure BatchFrame (env : Env) (s : State) (txs : List Tx) (s' : State) : Prop where
  network : s'.network = s.network
  height : s'.height = s.height
  feeMultiplier : s'.feeMultiplier = s.feeMultiplier
  history : s'.history = s.history
  pools : s'.pools = s.pools
  stakes : ∀ k, s'.stakes.getStake k = ((SeqL.stakeMap s txs).get k).or (s.stakes.getStake k)
  feePool : s'.feePool = (txs.map (feeOf s.feeMultiplier)).foldl satAdd128 s.feePool
  tips : s'.tips = (txs.map fun tx => tx.fee - feeOf s.feeMultiplier tx).foldl satAdd128 s.tips
  txsEq : s'.txs = txs.foldl State.insertTx s.txs
  fee : ∀ a ∈ txs, ∃ mf, a.baseFee s.feeMultiplier = .ok mf ∧ mf ≤ a.fee
  mainnet : ∀ a ∈ txs, a.kind = .faucet → s.network = .mainnet → env.isGrandfathered a.hash = true
  /-- the `DuplicateTx` guard: the hashes of the batch are pairwise distinct and new to the block -/
  hashes : (txs.map (·.hash)).Nodup
  freshTx : ∀ a ∈ txs, s.txs.any (fun u => u.hash = a.hash) = false

theorem applyBatch_frame {env : Env} {s s' : State} {txs : List Tx} {fb : Header}
    (h : applyBatch env s txs fb = .ok s') : BatchFrame env s txs s' := by
  obtain ⟨rel, ns, sp, next, -, h2, -, -, h5, rfl⟩ := applyBatch_iff.mp h
  obtain ⟨-, rfl⟩ := loadStake_iff.mp h2
  rw [createNextState_eq] at h5
  have i := nextFold_info env _ txs _ _ h5
  obtain ⟨f1, f2⟩ := nextFold_fresh env _ txs _ _ h5
  exact ⟨i.network, i.height, i.feeMultiplier, i.history, i.pools,
    fun k => by rw [finishBatch, stakeFold_get, i.stakes]; rfl, i.feePool, i.tips, i.txsEq,
    fun a ha => (i.accepted a ha).1, fun a ha => (i.accepted a ha).2, f1, f2⟩

theorem applyBatch_speed {env : Env} {s s' : State} {txs : List Tx} {fb : Header}
    (h : applyBatch env s txs fb = .ok s') :
    ∃ rel, loadRelevantCoins s txs = .ok rel ∧ speedFold env s rel txs = .ok s'.doscSpeed := by
  obtain ⟨rel, ns, sp, next, h1, -, -, h4, -, rfl⟩ := applyBatch_iff.mp h
  exact ⟨rel, h1, h4⟩

theorem applyBatch_getCoin {env : Env} {s s' : State} {txs : List Tx} {fb : Header}
    (h : applyBatch env s txs fb = .ok s')
    (hm1 : ∀ m ∈ markerIdsOf env txs, m ∉ txs.flatMap (·.inputs))
    (hm2 : ∀ m ∈ markerIdsOf env txs, (createdOf s.height txs).get m = none) (id : CoinID) :
    s'.coins.getCoin id =
      if id ∈ txs.flatMap (·.inputs) then none
      else match (createdOf s.height txs).get id with
        | some c => some c
        | none => if id ∈ markerIdsOf env txs then some faucetMarker else s.coins.getCoin id := by
  obtain ⟨rel, newStakes, next, h1, -, -, h4, h5⟩ := applyBatch_ok h
  have R := loadRelevantCoins_ok h1
  rw [createNextState_eq] at h4
  rw [h5, getCoin_nextFold env _ txs _ _ h4 hm1 id]
  by_cases c1 : id ∈ txs.flatMap (·.inputs)
  · rw [if_pos c1, if_pos c1]
  · rw [if_neg c1, if_neg c1]
    simp only
    rw [getCoin_insFold]
    cases hc : (createdOf s.height txs).get id with
    | some c =>
      have c2 : id ∉ markerIdsOf env txs := by
        intro hmm; have := hm2 id hmm; rw [hc] at this; cases this
      rw [if_neg c2, if_pos (createdOf_key_mem_outputIds hc), R.created id c hc]
    | none =>
      by_cases c2 : id ∈ markerIdsOf env txs
      · rw [if_pos c2]; simp only [if_pos c2]
      · rw [if_neg c2]; simp only [if_neg c2]
        by_cases c3 : id ∈ outputIds txs
        · rw [if_pos c3]
          cases hr : rel.get id with
          | none => rfl
          | some c => exact (R.disk id c hc hr).symm
        · rw [if_neg c3]

theorem applyBatch_marker {env : Env} {s s' : State} {txs : List Tx} {fb : Header}
    (h : applyBatch env s txs fb = .ok s') {tx : Tx} (htx : tx ∈ txs) (hk : tx.kind = .faucet)
    (hng : env.isGrandfathered tx.hash = false) (hsep : ∀ t ∈ txs, markerOf env tx ∉ t.inputs) :
    s'.coins.getCoin (markerOf env tx) = some faucetMarker := by
  obtain ⟨rel, ns, next, -, -, -, hc, hco⟩ := applyBatch_ok h
  rw [createNextState_eq] at hc
  -- written by the step of `tx`, kept by every later step
  obtain ⟨l₁, l₂, rfl⟩ := List.append_of_mem htx
  obtain ⟨mid, mid', -, h2, h3⟩ := Outcome.foldlM'_split_of_ok hc
  have hp : mid'.coins.getCoin (markerOf env tx) = some faucetMarker := by
    rw [getCoin_nextStep h2, if_neg (hsep tx (by simp)), if_pos ⟨by simp [insertsMarker, hk, hng], rfl⟩]
  rw [hco, getCoin_nextFold_keep h3 (fun t ht => hsep t (by simp [ht])) (by rw [hp]; rfl)]
  exact hp

theorem applyBatch_missing {env : Env} {s : State} {txs : List Tx} {fb : Header} {id : CoinID}
    (hid : id ∈ txs.flatMap (·.inputs)) (h1 : s.coins.getCoin id = none)
    (h2 : (createdOf s.height txs).get id = none) :
    applyBatch env s txs fb = .reject .malformedTx ∨ applyBatch env s txs fb = .reject .nonexistentCoin := by
  simp only [applyBatch, loadRelevantCoins_eq]
  split
  · exact Or.inl rfl
  · rw [diskFold_missing _ _ id h1 h2 _ hid]
    exact Or.inr rfl

end Mel

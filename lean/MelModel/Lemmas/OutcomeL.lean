/- `Outcome`: `bind`, `toOption`, the folds with early exit; the tests `rejectedWith`, `okAnd` that the kernel evaluates
   on literal runs; `NoCrash` ("does not crash") -/
import MelModel.Outcome
namespace Mel

namespace Outcome

/-! ### `bind` -/

theorem bind_ok {α β} (a : α) (f : α → Outcome β) : (ok a).bind f = f a := rfl

theorem bind_reject {α β} (e : StateError) (f : α → Outcome β) : (reject e).bind f = reject e := rfl

theorem bind_crash {α β} (c : String) (f : α → Outcome β) : (crash c).bind f = crash c := rfl

theorem bind_assoc {α β γ} (x : Outcome α) (f : α → Outcome β) (g : β → Outcome γ) :
    (x.bind f).bind g = x.bind fun a => (f a).bind g := by
  cases x <;> rfl

theorem bind_eq_ok {α β} {x : Outcome α} {f : α → Outcome β} {b : β} :
    x.bind f = .ok b ↔ ∃ a, x = .ok a ∧ f a = .ok b := by
  cases x with
  | ok a => exact ⟨fun h => ⟨a, rfl, h⟩, fun ⟨_, ha, h⟩ => by cases ha; exact h⟩
  | reject e => exact ⟨fun h => (nomatch h), fun ⟨_, ha, _⟩ => nomatch ha⟩
  | crash c => exact ⟨fun h => (nomatch h), fun ⟨_, ha, _⟩ => nomatch ha⟩

theorem bind_ne_ok_of_ne_ok {α β} {x : Outcome α} (f : α → Outcome β)
    (h : ∀ a, x ≠ .ok a) : ∀ b, x.bind f ≠ .ok b := by
  intro b hb
  obtain ⟨a, ha, _⟩ := bind_eq_ok.mp hb
  exact h a ha

/-! ### `toOption`, `isOk`, `isCrash` -/

theorem toOption_eq_some {α} {x : Outcome α} {a : α} : x.toOption = some a ↔ x = ok a := by
  cases x with
  | ok b => exact ⟨fun h => by cases h; rfl, fun h => by cases h; rfl⟩
  | reject e => exact ⟨fun h => (nomatch h), fun h => nomatch h⟩
  | crash c => exact ⟨fun h => (nomatch h), fun h => nomatch h⟩

theorem toOption_bind {α β} (x : Outcome α) (f : α → Outcome β) :
    (x.bind f).toOption = x.toOption.bind fun a => (f a).toOption := by
  cases x <;> rfl

theorem isOk_eq_toOption_isSome {α} (x : Outcome α) : x.isOk = x.toOption.isSome := by
  cases x <;> rfl

theorem exists_ok_of_isOk {α} {x : Outcome α} (h : x.isOk = true) : ∃ a, x = ok a := by
  cases x with
  | ok a => exact ⟨a, rfl⟩
  | reject e => cases h
  | crash c => cases h

theorem exists_crash_of_isCrash {α} {x : Outcome α} (h : x.isCrash = true) : ∃ c, x = crash c := by
  cases x with
  | crash c => exact ⟨c, rfl⟩
  | ok a => cases h
  | reject e => cases h

theorem isCrash_bind {α β} {x : Outcome α} (f : α → Outcome β) (h : x.isCrash = true) :
    (x.bind f).isCrash = true := by
  obtain ⟨c, rfl⟩ := exists_crash_of_isCrash h
  rfl

theorem toOption_bind_congr {α β} {x y : Outcome α} {f g : α → Outcome β}
    (h : x.toOption = y.toOption) (hfg : ∀ a, (f a).toOption = (g a).toOption) :
    (x.bind f).toOption = (y.bind g).toOption := by
  rw [toOption_bind, toOption_bind, h]
  exact congrArg _ (funext hfg)

/-! ### `rejectedWith`, `okAnd` -/

/-- `x` is the rejection `e`, as a `Bool`: what the kernel evaluates on a literal run -/
def rejectedWith {α} : Outcome α → StateError → Bool
  | reject e, e' => e == e'
  | _, _ => false

theorem eq_reject {α} {x : Outcome α} {e : StateError} (h : x.rejectedWith e = true) : x = reject e := by
  cases x with
  | reject e' => rw [of_decide_eq_true h]
  | ok a => cases h
  | crash c => cases h

/-- `x` succeeded with a value that passes the test `p`, as a `Bool`: what the kernel evaluates on a literal run whose
    result is too large to write down -/
def okAnd {α} (x : Outcome α) (p : α → Bool) : Bool :=
  match x with
  | ok a => p a
  | _ => false

theorem exists_of_okAnd {α} {x : Outcome α} {p : α → Bool} (h : x.okAnd p = true) : ∃ a, x = ok a ∧ p a = true := by
  cases x with
  | ok a => exact ⟨a, rfl, h⟩
  | reject e => cases h
  | crash c => cases h

/-! ### `foldlM'` and `forM'`: equations -/

theorem foldlM'_nil {α β} (f : β → α → Outcome β) (b : β) : foldlM' f b [] = ok b := rfl

theorem foldlM'_cons {α β} (f : β → α → Outcome β) (b : β) (a : α) (as : List α) :
    foldlM' f b (a :: as) = (f b a).bind (fun b' => foldlM' f b' as) := by
  rw [foldlM']; cases f b a <;> rfl

theorem foldlM'_append {α β} (f : β → α → Outcome β) (b : β) (l₁ l₂ : List α) :
    foldlM' f b (l₁ ++ l₂) = (foldlM' f b l₁).bind (fun b' => foldlM' f b' l₂) := by
  induction l₁ generalizing b with
  | nil => rfl
  | cons a as ih =>
    rw [List.cons_append, foldlM'_cons, foldlM'_cons, bind_assoc]
    exact congrArg _ (funext fun b' => ih b')

theorem foldlM'_nil_ok {α β} (f : β → α → Outcome β) (b r : β) :
    foldlM' f b ([] : List α) = .ok r ↔ b = r :=
  ⟨fun h => by cases h; rfl, fun h => congrArg ok h⟩

theorem foldlM'_cons_ok {α β} (f : β → α → Outcome β) (b : β) (a : α) (as : List α) (r : β) :
    foldlM' f b (a :: as) = .ok r ↔ ∃ b', f b a = .ok b' ∧ foldlM' f b' as = .ok r := by
  rw [foldlM'_cons, bind_eq_ok]

theorem forM'_cons {α} (f : α → Outcome Unit) (a : α) (as : List α) :
    forM' f (a :: as) = (f a).bind fun _ => forM' f as := by
  rw [forM']; cases f a <;> rfl

theorem forM'_congr {α} {f g : α → Outcome Unit} {l : List α} (h : ∀ a ∈ l, f a = g a) : forM' f l = forM' g l := by
  induction l with
  | nil => rfl
  | cons a l ih =>
    rw [forM'_cons, forM'_cons, h a (List.mem_cons_self ..), ih fun x hx => h x (List.mem_cons_of_mem _ hx)]

theorem forM'_append {α} (f : α → Outcome Unit) (xs ys : List α) :
    forM' f (xs ++ ys) = (forM' f xs).bind fun _ => forM' f ys := by
  induction xs with
  | nil => rfl
  | cons a as ih => rw [List.cons_append, forM'_cons, forM'_cons, bind_assoc, ih]

theorem forM'_eq_ok {α} (f : α → Outcome Unit) (l : List α) :
    forM' f l = .ok () ↔ ∀ a ∈ l, f a = .ok () := by
  induction l with
  | nil => exact ⟨fun _ _ h => (nomatch h), fun _ => rfl⟩
  | cons a as ih =>
    rw [forM'_cons, bind_eq_ok, List.forall_mem_cons, ih]
    exact ⟨fun ⟨(), h1, h2⟩ => ⟨h1, h2⟩, fun ⟨h1, h2⟩ => ⟨(), h1, h2⟩⟩

theorem forM'_ok_mem {α} {f : α → Outcome Unit} {l : List α} (h : forM' f l = .ok ()) {a : α}
    (ha : a ∈ l) : f a = .ok () :=
  (forM'_eq_ok f l).mp h a ha

theorem forM'_perm {α} (f : α → Outcome Unit) {l l' : List α} (hp : l.Perm l') :
    (forM' f l = .ok ()) ↔ (forM' f l' = .ok ()) := by
  rw [forM'_eq_ok, forM'_eq_ok]
  exact ⟨fun h a ha => h a (hp.mem_iff.mpr ha), fun h a ha => h a (hp.mem_iff.mp ha)⟩

/-! ### `foldlM'`: what an accepted fold tells, and when a fold is accepted -/

theorem foldlM'_inv_mem {α β} (P : β → Prop) (f : β → α → Outcome β) :
    ∀ (l : List α), (∀ b a b', a ∈ l → P b → f b a = .ok b' → P b') →
      ∀ (b b' : β), P b → foldlM' f b l = .ok b' → P b'
  | [], _, b, b', hb, h => (foldlM'_nil_ok f b b').mp h ▸ hb
  | a :: as, hf, b, b', hb, h => by
    obtain ⟨b1, hb1, h⟩ := (foldlM'_cons_ok f b a as b').mp h
    exact foldlM'_inv_mem P f as (fun b a' b' ha' => hf b a' b' (List.mem_cons_of_mem _ ha')) b1 b'
      (hf b a b1 List.mem_cons_self hb hb1) h

theorem foldlM'_inv {α β} (P : β → Prop) (f : β → α → Outcome β)
    (hf : ∀ b a b', P b → f b a = .ok b' → P b') (l : List α) :
    ∀ (b b' : β), P b → foldlM' f b l = .ok b' → P b' :=
  foldlM'_inv_mem P f l fun b a b' _ => hf b a b'

theorem foldlM'_split_of_ok {α β} {f : β → α → Outcome β} {l₁ l₂ : List α} {a : α} {b r : β}
    (h : foldlM' f b (l₁ ++ a :: l₂) = .ok r) :
    ∃ mid mid', foldlM' f b l₁ = .ok mid ∧ f mid a = .ok mid' ∧ foldlM' f mid' l₂ = .ok r := by
  rw [foldlM'_append] at h
  obtain ⟨mid, h1, h⟩ := bind_eq_ok.mp h
  obtain ⟨mid', h2, h3⟩ := (foldlM'_cons_ok f mid a l₂ r).mp h
  exact ⟨mid, mid', h1, h2, h3⟩

theorem foldlM'_step_of_ok {α β} (f : β → α → Outcome β) :
    ∀ (l : List α) (b b' : β) (a : α), a ∈ l → foldlM' f b l = .ok b' → ∃ b1 b2, f b1 a = .ok b2
  | x :: xs, b, b', a, ha, h => by
    obtain ⟨b1, hb1, h⟩ := (foldlM'_cons_ok f b x xs b').mp h
    rcases List.mem_cons.mp ha with rfl | ha
    · exact ⟨b, b1, hb1⟩
    · exact foldlM'_step_of_ok f xs b1 b' a ha h

/-- a fold whose every step is accepted, with an invariant that may mention the remaining list -/
theorem foldlM'_ok {α β} (f : β → α → Outcome β) (I : β → List α → Prop)
    (hstep : ∀ b a rest, I b (a :: rest) → ∃ b', f b a = .ok b' ∧ I b' rest) :
    ∀ (l : List α) (b : β), I b l → ∃ b', foldlM' f b l = .ok b' ∧ I b' []
  | [], b, hb => ⟨b, rfl, hb⟩
  | a :: as, b, hb => by
    obtain ⟨b1, h1, hI⟩ := hstep b a as hb
    obtain ⟨b2, h2, hI2⟩ := foldlM'_ok f I hstep as b1 hI
    exact ⟨b2, (foldlM'_cons_ok f b a as b2).mpr ⟨b1, h1, h2⟩, hI2⟩

theorem foldlM'_ok_of_mem {α β} {f : β → α → Outcome β} {P : β → Prop} {l : List α}
    (hstep : ∀ b a, a ∈ l → P b → ∃ b', f b a = .ok b' ∧ P b') {b : β} (hb : P b) :
    ∃ b', foldlM' f b l = .ok b' ∧ P b' :=
  let ⟨b', h, hP, _⟩ := foldlM'_ok f (fun b rest => P b ∧ ∀ a ∈ rest, a ∈ l)
    (fun b a _ hI =>
      let ⟨b', h, hP'⟩ := hstep b a (hI.2 a List.mem_cons_self) hI.1
      ⟨b', h, hP', fun x hx => hI.2 x (List.mem_cons_of_mem _ hx)⟩) l b ⟨hb, fun _ h => h⟩
  ⟨b', h, hP⟩

theorem foldlM'_congr {α β} {f g : β → α → Outcome β} : ∀ (l : List α) (b : β),
    (∀ b, ∀ a ∈ l, f b a = g b a) → foldlM' f b l = foldlM' g b l
  | [], _, _ => rfl
  | a :: rest, b, h => by
    rw [foldlM'_cons, foldlM'_cons, h b a List.mem_cons_self]
    exact congrArg _ (funext fun b' => foldlM'_congr rest b' fun b x hx => h b x (List.mem_cons_of_mem _ hx))

theorem foldlM'_rel {α β γ} (R : β → γ → Prop) (f : β → α → Outcome β) (g : γ → α → Outcome γ)
    (hf : ∀ x y a x', R x y → f x a = .ok x' → ∃ y', g y a = .ok y' ∧ R x' y') :
    ∀ (l : List α) (x : β) (y : γ) (x' : β), R x y → foldlM' f x l = .ok x' →
      ∃ y', foldlM' g y l = .ok y' ∧ R x' y'
  | [], x, y, x', hr, h => ⟨y, rfl, (foldlM'_nil_ok f x x').mp h ▸ hr⟩
  | a :: rest, x, y, x', hr, h => by
    obtain ⟨x1, h1, h2⟩ := (foldlM'_cons_ok f x a rest x').mp h
    obtain ⟨y1, g1, r1⟩ := hf x y a x1 hr h1
    obtain ⟨y', g2, r2⟩ := foldlM'_rel R f g hf rest x1 y1 x' r1 h2
    exact ⟨y', (foldlM'_cons_ok g y a rest y').mpr ⟨y1, g1, g2⟩, r2⟩

/-- the same step on both sides (stated apart because `g` cannot be inferred from `hf` given as a `fun`) -/
theorem foldlM'_rel_self {α β} (R : β → β → Prop) (f : β → α → Outcome β)
    (hf : ∀ x y a x', R x y → f x a = .ok x' → ∃ y', f y a = .ok y' ∧ R x' y')
    (l : List α) (x y x' : β) (hr : R x y) (h : foldlM' f x l = .ok x') :
    ∃ y', foldlM' f y l = .ok y' ∧ R x' y' := foldlM'_rel R f f hf l x y x' hr h

end Outcome

/-! ### "does not crash" -/

def NoCrash {α} (x : Outcome α) : Prop := ∀ c, x ≠ .crash c

namespace NoCrash

theorem ok {α} (a : α) : NoCrash (Outcome.ok a) := fun _ h => by cases h

theorem of_eq_ok {α} {x : Outcome α} {a : α} (h : x = .ok a) : NoCrash x := h ▸ ok a

theorem reject {α} (e : StateError) : NoCrash (Outcome.reject e : Outcome α) := fun _ h => by cases h

theorem bind {α β} {x : Outcome α} {f : α → Outcome β} (hx : NoCrash x)
    (hf : ∀ a, x = .ok a → NoCrash (f a)) : NoCrash (x.bind f) := by
  cases x with
  | ok a => exact hf a rfl
  | reject e => exact reject e
  | crash c => exact absurd rfl (hx c)

theorem ite {α} {c : Prop} [Decidable c] {x y : Outcome α} (hx : NoCrash x) (hy : NoCrash y) :
    NoCrash (if c then x else y) := by
  split <;> assumption

theorem foldlM' {α β} (f : β → α → Outcome β) (P : β → Prop) (l : List α)
    (h : ∀ b, P b → ∀ a ∈ l, NoCrash (f b a) ∧ ∀ b', f b a = .ok b' → P b') :
    ∀ b, P b → NoCrash (Outcome.foldlM' f b l) := by
  induction l with
  | nil => intro b _; exact ok b
  | cons a rest ih =>
    intro b hb
    obtain ⟨h1, h2⟩ := h b hb a List.mem_cons_self
    rw [Outcome.foldlM'_cons]
    exact h1.bind fun b' hb' =>
      ih (fun b0 hb0 a0 ha0 => h b0 hb0 a0 (List.mem_cons_of_mem _ ha0)) b' (h2 b' hb')

theorem forM' {α} (f : α → Outcome Unit) (l : List α) (h : ∀ a ∈ l, NoCrash (f a)) :
    NoCrash (Outcome.forM' f l) := by
  induction l with
  | nil => exact ok ()
  | cons a rest ih =>
    rw [Outcome.forM'_cons]
    exact (h a List.mem_cons_self).bind fun _ _ => ih fun a0 ha0 => h a0 (List.mem_cons_of_mem _ ha0)

end NoCrash
end Mel

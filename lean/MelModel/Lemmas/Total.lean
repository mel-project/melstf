/- no phase of `applyBatch` crashes under `ApplyPre`'s conditions (C09, apply part) -/
import MelModel.ApplyTx
import MelModel.Lemmas.Batch
import MelModel.Lemmas.Supply
import MelModel.Props.C20
import MelModel.Lemmas.OutcomeL
import MelModel.Lemmas.MapL
import MelModel.Lemmas.MelmintL
namespace Mel
open Mel.Gen Mel.BatchL

theorem loadRelevantCoins_noCrash (s : State) (txs : List Tx) : NoCrash (loadRelevantCoins s txs) := by
  rw [loadRelevantCoins_eq]
  split
  · exact NoCrash.reject _
  · refine NoCrash.bind ?_ ?_
    · refine NoCrash.foldlM' _ (fun _ => True) _ ?_ _ trivial
      intro b _ a _
      refine ⟨?_, fun _ _ => trivial⟩
      rcases diskStep_cases (createdOf s.height txs) s.coins b a with ⟨acc', h⟩ | h
      · rw [h]; exact NoCrash.ok _
      · rw [h]; exact NoCrash.reject _
    · intro disk _
      split
      · exact NoCrash.ok _
      · exact NoCrash.reject _

theorem stakeRes_noCrash (s : State) (tx : Tx) : NoCrash (C3.stakeRes s tx) := by
  unfold C3.stakeRes
  refine NoCrash.ite (NoCrash.ok _) (NoCrash.ite (NoCrash.ok _) ?_)
  cases tx.stakeDoc with
  | none => exact NoCrash.reject _
  | some d =>
    cases tx.outputs with
    | nil => exact NoCrash.reject _
    | cons first _ => exact NoCrash.ite (NoCrash.reject _) (NoCrash.ite (NoCrash.ok _) (NoCrash.ok _))

theorem loadStakeInfo_noCrash (s : State) (txs : List Tx) : NoCrash (loadStakeInfo s txs) := by
  rw [loadStakeInfo_eq]
  refine NoCrash.foldlM' _ (fun _ => True) _ ?_ _ trivial
  intro b _ tx _
  exact ⟨NoCrash.bind (stakeRes_noCrash s tx) (fun _ _ => NoCrash.ok _), fun _ _ => trivial⟩

theorem validateTxScripts_noCrash (env : Env) (i : Nat) (id : CoinID) (tx : Tx) (coin : CoinDataHeight)
    (lh : Header) : NoCrash (validateTxScripts env i id tx coin lh) := by
  intro c
  unfold validateTxScripts
  split
  · simp
  · split
    · simp
    · dsimp only
      split
      · split <;> simp
      · simp

theorem loadRelevantCoins_malformed (s : State) (txs : List Tx) (tx : Tx) (htx : tx ∈ txs)
    (hbad : (tx.isWellFormed && tx.melTotalFits) = false) :
    loadRelevantCoins s txs = .reject .malformedTx := by
  rw [loadRelevantCoins_eq]
  have : (txs.all fun tx => tx.isWellFormed && tx.melTotalFits && tx.covWeightsFit) = false := by
    rw [List.all_eq_false]
    exact ⟨tx, htx, by simp [hbad]⟩
  simp [this]

/-- the guard of `loadRelevantCoins` on the covenant weights (fix for F19) -/
theorem loadRelevantCoins_heavy (s : State) (txs : List Tx) (tx : Tx) (htx : tx ∈ txs)
    (hbad : tx.covWeightsFit = false) :
    loadRelevantCoins s txs = .reject .malformedTx := by
  rw [loadRelevantCoins_eq]
  have : (txs.all fun tx => tx.isWellFormed && tx.melTotalFits && tx.covWeightsFit) = false := by
    rw [List.all_eq_false]
    exact ⟨tx, htx, by simp [hbad]⟩
  simp [this]

theorem inStep_crash {env : Env} {s : State} {lh : Header} {tx : Tx} {rel : Relevant}
    {ns : AList Hash StakeDoc} {acc : AList Denom Nat} {e : CoinID × Nat} {c : String}
    (h : inStep env s lh tx rel ns acc e = .crash c) :
    ∃ coin, rel.get e.1 = some coin ∧ (acc.get coin.coinData.denom).getD 0 + coin.coinData.value > U128_MAX := by
  simp only [inStep] at h
  by_cases hl : ((ns.contains e.1.txhash || (s.stakes.getStake e.1.txhash).isSome) && !legacyStakeLock s) = true
  · rw [if_pos hl] at h; cases h
  rw [if_neg hl] at h
  cases hr : rel.get e.1 with
  | none => rw [hr] at h; cases h
  | some coin =>
    rw [hr] at h
    dsimp only at h
    cases hv : validateTxScripts env e.2 e.1 tx coin lh with
    | reject r => rw [hv] at h; cases h
    | crash c' => exact absurd hv (validateTxScripts_noCrash env e.2 e.1 tx coin lh c')
    | ok u =>
      rw [hv, Outcome.bind_ok] at h
      by_cases hgt : (acc.get coin.coinData.denom).getD 0 + coin.coinData.value > U128_MAX
      · exact ⟨coin, rfl, hgt⟩
      · rw [if_neg hgt] at h; cases h

theorem checkBalanced_noCrash (kind : TxKind) (inC outC : AList Denom Nat) :
    NoCrash (checkBalanced kind inC outC) := by
  unfold checkBalanced
  split
  · exact NoCrash.ok _
  · apply NoCrash.forM'
    intro e _ c
    split
    · simp
    · split
      · simp
      · split <;> simp

theorem totalOutputs_head (tx : Tx) : ∃ v rest, tx.totalOutputs = (Denom.mel, v) :: rest := by
  simp only [Tx.totalOutputs, addDenom, AList.set]
  exact ⟨_, _, rfl⟩

/-- a transaction without inputs that is not a faucet is unbalanced (its MEL total has no counterpart) -/
theorem checkTxValidity_ok_inputs {env : Env} {s : State} {lh : Header} {tx : Tx} {rel : Relevant}
    {ns : AList Hash StakeDoc} (hk : tx.kind ≠ .faucet) (h : checkTxValidity env s lh tx rel ns = .ok ()) :
    tx.inputs ≠ [] := by
  intro hnil
  rw [checkTxValidity_eq, hnil] at h
  obtain ⟨v, rest, hto⟩ := totalOutputs_head tx
  simp only [List.zipIdx_nil, Outcome.foldlM', Outcome.bind, checkBalanced, hk, if_false, hto,
    Outcome.forM'] at h
  simp [AList.get] at h

/-- the arithmetic after an accepted proof: the difficulty is small, the coin is older than the state, the previous
    speed is positive and the largest possible reward, inflated, fits a u128 -/
theorem doscTail_noCrash {s : State} {tx : Tx} {coin : CoinDataHeight} {d : Nat} {b : Bool} (hd : d ≤ 100)
    (hlt : coin.height < s.height)
    (hspeeds : ∀ hdr, s.history.get (s.height - 1) = some hdr → 0 < hdr.doscSpeed)
    (hfits : ∀ hdr, s.history.get (s.height - 1) = some hdr →
      microergsIter s.height * ((TIP910_WORK_FACTOR * 2 ^ d) * (TIP910_SPEED_FACTOR * 2 ^ d) * MICRO_CONVERTER /
        (hdr.doscSpeed ^ 2 * REWARD_DIVISOR)) / MICRO_CONVERTER ≤ U128_MAX) :
    NoCrash (doscTail s tx coin d b) := by
  have hf : (if b then TIP910_SPEED_FACTOR else 1) ≤ TIP910_SPEED_FACTOR := by cases b <;> decide
  have hv : (if b then TIP910_SPEED_FACTOR else 1) * 2 ^ d ≤ U128_MAX :=
    Nat.le_trans (Nat.mul_le_mul hf (Nat.pow_le_pow_right (by decide) hd)) (by decide)
  unfold doscTail
  rw [computeDoscmintSpeed_iff.mpr ⟨by omega, hlt, hv, rfl⟩, Outcome.bind_ok,
    if_neg (Nat.ne_of_gt (Nat.lt_of_le_of_lt (Nat.zero_le _) hlt))]
  cases hprev : s.history.get (s.height - 1) with
  | none => exact NoCrash.reject _
  | some prev =>
    dsimp only
    rw [calculateReward_iff.mpr ⟨by omega, Nat.ne_of_gt (hspeeds prev hprev), rfl⟩, Outcome.bind_ok]
    -- the reward is at most the maximal one
    have hw : (if b = true then satMul128 (2 ^ d) TIP910_WORK_FACTOR else 2 ^ d) ≤ TIP910_WORK_FACTOR * 2 ^ d := by
      split
      · rw [Nat.mul_comm]; exact satMul128_le _ _
      · exact Nat.le_mul_of_pos_left _ (by decide)
    have hsp : (if b = true then TIP910_SPEED_FACTOR else 1) * 2 ^ d / (s.height - coin.height) ≤
        TIP910_SPEED_FACTOR * 2 ^ d :=
      Nat.le_trans (Nat.div_le_self _ _) (Nat.mul_le_mul_right _ hf)
    have hr := Nat.le_trans (satU128_le _)
      (Nat.div_le_div_right (c := prev.doscSpeed ^ 2 * REWARD_DIVISOR)
        (Nat.mul_le_mul_right MICRO_CONVERTER (Nat.mul_le_mul hw hsp)))
    have hv2 := Nat.le_trans (Nat.div_le_div_right (c := MICRO_CONVERTER)
      (Nat.mul_le_mul_left (microergsIter s.height) hr)) (hfits prev hprev)
    simp only [doscToErg]
    rw [if_neg (Nat.not_lt.mpr hv2), Outcome.bind_ok]
    exact NoCrash.ite (NoCrash.reject _) (NoCrash.ok _)

theorem validateDoscmint_noCrash {env : Env} {s : State} {rel : Relevant} {tx : Tx}
    (hin : tx.inputs ≠ [])
    (hh : ∀ id c, rel.get id = some c → c.height ≤ s.height)
    (hdiff : ∀ a b c d, env.powOk a b c d ≠ .invalid → c ≤ 100)
    (hbelow : ∀ h hdr, s.history.get h = some hdr → h < s.height)
    (hspeeds : ∀ h hdr, s.history.get h = some hdr → 0 < hdr.doscSpeed)
    (hfits : ∀ hdr, s.history.get (s.height - 1) = some hdr → ∀ a b d t, env.powOk a b d t ≠ .invalid →
      microergsIter s.height * ((TIP910_WORK_FACTOR * 2 ^ d) * (TIP910_SPEED_FACTOR * 2 ^ d) * MICRO_CONVERTER /
        (hdr.doscSpeed ^ 2 * REWARD_DIVISOR)) / MICRO_CONVERTER ≤ U128_MAX) :
    NoCrash (validateDoscmint env s rel tx) := by
  rw [validateDoscmint_eq]
  refine NoCrash.bind (doscPre_ne_crash hin hh) ?_
  intro p hp
  obtain ⟨-, -, -, -, hseed, -, -⟩ := doscPre_ok hp
  have key : ∀ v, env.powOk (env.hdrHash p.seedHdr) p.coinId p.difficulty tx.hash = v → v ≠ .invalid →
      NoCrash (doscTail s tx p.coin p.difficulty (v = .tip910)) := fun v hv hvi =>
    doscTail_noCrash (hdiff _ _ _ _ (hv ▸ hvi)) (hbelow _ _ hseed) (hspeeds _)
      (fun hdr hprev => hfits hdr hprev _ _ _ _ (hv ▸ hvi))
  cases hv : env.powOk (env.hdrHash p.seedHdr) p.coinId p.difficulty tx.hash with
  | panics => exact NoCrash.reject _
  | invalid => exact NoCrash.reject _
  | legacy => exact key .legacy hv (by decide)
  | tip910 => exact key .tip910 hv (by decide)

theorem faucetStep_noCrash (env : Env) (st : State) (tx : Tx) : NoCrash (faucetStep env st tx) :=
  NoCrash.ite (NoCrash.ite (NoCrash.reject _)
    (NoCrash.ite (NoCrash.reject _) (NoCrash.ite (NoCrash.ok _) (NoCrash.ok _)))) (NoCrash.ok _)

theorem baseFee_noCrash (tx : Tx) (m : Nat) (hw : (tx.covenants.map covenantWeightFromBytes).sum ≤ U128_MAX) :
    NoCrash (tx.baseFee m) := by
  simp only [Tx.baseFee, Tx.weight]
  rw [if_neg (Nat.not_lt.mpr hw), Outcome.bind_ok]
  exact NoCrash.ok _

theorem nextStep_noCrash {env : Env} {t : Bool} {st : State} {tx : Tx} (ht : st.tip906 = t)
    (hinv : CInv t st.coins) (hw : (tx.covenants.map covenantWeightFromBytes).sum ≤ U128_MAX) :
    NoCrash (nextStep env t st tx) := by
  unfold nextStep
  refine NoCrash.ite (NoCrash.reject _) (NoCrash.bind (faucetStep_noCrash env st tx) ?_)
  intro st1 h1
  obtain ⟨hF, rfl⟩ := faucetStep_iff.mp h1
  obtain ⟨m', hm, -⟩ := CInv.removeFold tx.inputs _ ((CInv.closed t).faucetCoins trivial ht hinv hF)
  rw [show Outcome.foldlM' _ _ _ = _ from hm, Outcome.bind_ok]
  refine NoCrash.bind (baseFee_noCrash tx _ hw) ?_
  intro minFee _
  exact NoCrash.ite (NoCrash.reject _) (NoCrash.ok _)

theorem createNextState_noCrash (env : Env) (s : State) (txs : List Tx) (rel : Relevant)
    (hc : s.tip906 = true → CountsOk s.coins)
    (hfresh : ∀ t ∈ txs, ∀ i, s.coins.getCoin ⟨t.hash, i⟩ = none)
    (hw : ∀ t ∈ txs, (t.covenants.map covenantWeightFromBytes).sum ≤ U128_MAX) :
    NoCrash (createNextState env s txs rel s.tip906) := by
  rw [createNextState_eq]
  refine NoCrash.foldlM' _ (fun st => st.tip906 = s.tip906 ∧ CInv s.tip906 st.coins) txs ?_ _ ⟨rfl, ?_⟩
  · intro st ⟨ht, hinv⟩ tx htx
    exact ⟨nextStep_noCrash ht hinv (hw tx htx), fun st' h => (CInv.closed _).nextStep trivial ht hinv h⟩
  · refine (CInv.closed _).insFold rel (fun _ _ _ => trivial) _ _ hc (fun id hid => ?_)
    obtain ⟨tx, htx, i, rfl⟩ := mem_outputIds hid
    exact Or.inl (hfresh tx htx i)

/-- no relevant coin is from the future: created coins carry the current height -/
theorem rel_heights {s : State} {txs : List Tx} {rel : Relevant} (hload : loadRelevantCoins s txs = .ok rel)
    (hh : ∀ id c, s.coins.getCoin id = some c → c.height ≤ s.height) :
    ∀ id c, rel.get id = some c → c.height ≤ s.height := by
  obtain ⟨-, -, -, r1, r2⟩ := loadRelevantCoins_ok hload
  intro id c hc
  cases hcr : (createdOf s.height txs).get id with
  | none => exact hh id c (r2 id c hcr hc)
  | some c' =>
    have := r1 id c' hcr
    rw [hc] at this
    simp only [Option.some.injEq] at this
    subst this
    obtain ⟨tx, -, hm⟩ := createdOf_get_some hcr
    obtain ⟨_, _, -, -, hht, -⟩ := mem_outputCoinsFromTx hm
    exact Nat.le_of_eq hht

theorem applyBatch_noCrash_of (env : Env) (s : State) (txs : List Tx) (fb : Header)
    (hc : s.tip906 = true → CountsOk s.coins)
    (hfresh : ∀ t ∈ txs, ∀ i, s.coins.getCoin ⟨t.hash, i⟩ = none)
    (hheights : ∀ id c, s.coins.getCoin id = some c → c.height ≤ s.height)
    (hspeeds : ∀ h hdr, s.history.get h = some hdr → 0 < hdr.doscSpeed)
    (hbelow : ∀ h hdr, s.history.get h = some hdr → h < s.height)
    (hdiff : ∀ a b c d, env.powOk a b c d ≠ .invalid → c ≤ 100)
    (hfits : ∀ hdr, s.history.get (s.height - 1) = some hdr → ∀ a b d t, env.powOk a b d t ≠ .invalid →
      microergsIter s.height * ((TIP910_WORK_FACTOR * 2 ^ d) * (TIP910_SPEED_FACTOR * 2 ^ d) * MICRO_CONVERTER /
        (hdr.doscSpeed ^ 2 * REWARD_DIVISOR)) / MICRO_CONVERTER ≤ U128_MAX)
    (hval : ∀ rel ns, loadRelevantCoins s txs = .ok rel → ∀ tx ∈ txs,
      NoCrash (checkTxValidity env s (lastHeaderOf s fb) tx rel ns)) :
    NoCrash (applyBatch env s txs fb) := by
  unfold applyBatch
  refine NoCrash.bind (loadRelevantCoins_noCrash s txs) ?_
  intro rel hrel
  -- the covenant weights of every transaction add up within a u128: `loadRelevantCoins` has checked it (F19 fix)
  have hw : ∀ t ∈ txs, (t.covenants.map covenantWeightFromBytes).sum ≤ U128_MAX := by
    intro t ht
    have h := ((loadRelevantCoins_ok hrel).wf t ht).2.2
    simpa [Tx.covWeightsFit] using h
  refine NoCrash.bind (loadStakeInfo_noCrash s txs) ?_
  intro ns _
  dsimp only
  refine NoCrash.bind (NoCrash.forM' _ _ (hval rel ns hrel)) ?_
  intro u hu
  have hall : ∀ tx ∈ txs, checkTxValidity env s (lastHeaderOf s fb) tx rel ns = .ok () :=
    (Outcome.forM'_eq_ok _ _).mp hu
  refine NoCrash.bind ?_ ?_
  · refine NoCrash.foldlM' _ (fun _ => True) txs ?_ _ trivial
    intro sp _ tx htx
    refine ⟨?_, fun _ _ => trivial⟩
    split
    · rename_i hk
      have hkf : tx.kind ≠ .faucet := by rw [hk]; decide
      exact NoCrash.bind
        (validateDoscmint_noCrash (checkTxValidity_ok_inputs hkf (hall tx htx)) (rel_heights hrel hheights)
          hdiff hbelow hspeeds hfits)
        (fun _ _ => NoCrash.ok _)
    · exact NoCrash.ok _
  · intro newSpeed _
    exact NoCrash.bind (createNextState_noCrash env s txs rel hc hfresh hw) (fun _ _ => NoCrash.ok _)

/-- everything the outputs of the transactions of a batch create in denomination `d` (`outAll`, Lemmas/Supply.lean:
    the outputs of a transaction created in `d`, a `NewCustom` output counting for the transaction's own token) -/
def batchOutputs (txs : List Tx) (d : Denom) : Nat := (txs.map fun tx => outAll tx d).sum

namespace SupplyBoundL
/-- what the coin an input resolves to contributes to denomination `d` -/
def relValD (rel : Relevant) (d : Denom) (id : CoinID) : Nat := AList.valAt (cval d) rel id

theorem relValD_of_get {rel : Relevant} {id : CoinID} {c : CoinDataHeight} (d : Denom) (h : rel.get id = some c) :
    relValD rel d id = cval d c := by
  simp [relValD, AList.valAt, h]

/-- the input fold does not crash when the running total of EACH denomination plus what the remaining inputs add to
    THAT denomination fits a u128 -/
theorem inFold_noCrash_d (env : Env) (s : State) (lh : Header) (tx : Tx) (rel : Relevant)
    (ns : AList Hash StakeDoc) (l : List (CoinID × Nat)) :
    ∀ (acc : AList Denom Nat),
      (∀ d, (acc.get d).getD 0 + (l.map fun e => relValD rel d e.1).sum ≤ U128_MAX) →
      NoCrash (Outcome.foldlM' (inStep env s lh tx rel ns) acc l) := by
  induction l with
  | nil => intro acc _; exact NoCrash.ok _
  | cons e rest ih =>
    intro acc hacc
    simp only [List.map_cons, List.sum_cons] at hacc
    rw [Outcome.foldlM'_cons]
    cases hstep : inStep env s lh tx rel ns acc e with
    | reject r => exact NoCrash.reject _
    | crash c =>
      obtain ⟨coin, hcoin, hgt⟩ := inStep_crash hstep
      have hv := relValD_of_get coin.coinData.denom hcoin
      simp only [cval, if_true] at hv
      have := hacc coin.coinData.denom
      omega
    | ok acc' =>
      obtain ⟨-, coin, hcoin, -, -, rfl⟩ := inStep_eq_ok_iff.mp hstep
      refine ih _ fun d => ?_
      have hv := relValD_of_get d hcoin
      have := hacc d
      unfold addDenom
      by_cases hd : d = coin.coinData.denom
      · subst hd
        rw [AList.get_set_self]
        simp only [cval, if_true] at hv
        simp only [Option.getD_some]
        omega
      · rw [AList.get_set_ne _ _ hd]
        simp only [cval, if_neg (Ne.symm hd)] at hv
        omega

theorem checkTxValidity_noCrash_d (env : Env) (s : State) (lh : Header) (tx : Tx) (rel : Relevant)
    (ns : AList Hash StakeDoc) (hsum : ∀ d, (tx.inputs.map (relValD rel d)).sum ≤ U128_MAX) :
    NoCrash (checkTxValidity env s lh tx rel ns) := by
  rw [checkTxValidity_eq]
  refine NoCrash.bind ?_ (fun _ _ => checkBalanced_noCrash _ _ _)
  refine inFold_noCrash_d env s lh tx rel ns _ [] ?_
  intro d
  rw [map_fst_zipIdx_sum (relValD rel d)]
  have := hsum d
  simp only [AList.get, Option.getD_none]
  omega

/-- what the inputs of one transaction of the batch are worth in denomination `d` is at most the coins of `d` in the state plus everything the batch's outputs create in `d` -/
theorem inputs_value_bound_d {s : State} {txs : List Tx} {rel : Relevant}
    (hload : loadRelevantCoins s txs = .ok rel) {tx : Tx} (htx : tx ∈ txs) (d : Denom) :
    (tx.inputs.map (relValD rel d)).sum ≤ coinsTotal s.coins d + batchOutputs txs d := by
  obtain ⟨-, hnd, -, r1, r2⟩ := loadRelevantCoins_ok hload
  have hnd' : tx.inputs.Nodup := (List.pairwise_flatMap.mp hnd).1 tx htx
  have hpt : ∀ id ∈ tx.inputs, relValD rel d id ≤
      AList.valAt (cval d) (createdOf s.height txs) id + AList.valAt (cval d) s.coins.coins id := by
    intro id _
    cases hc : (createdOf s.height txs).get id with
    | some c =>
      rw [relValD_of_get d (r1 id c hc)]
      simp [AList.valAt, hc]
    | none =>
      cases hr : rel.get id with
      | none => simp [relValD, AList.valAt, hr]
      | some c =>
        have h2 : s.coins.coins.get id = some c := r2 id c hc hr
        rw [relValD_of_get d hr]
        simp [AList.valAt, h2]
  have h1 := sum_map_le_add _ _ _ tx.inputs hpt
  have h2 := AList.sum_valAt_le (cval d) tx.inputs (createdOf s.height txs) hnd'
  have h3 := AList.sum_valAt_le (cval d) tx.inputs s.coins.coins hnd'
  have h4 : AList.wsum (cval d) (createdOf s.height txs) ≤ batchOutputs txs d :=
    ctot_createdOf s.height d txs
  have h5 : AList.wsum (cval d) s.coins.coins = coinsTotal s.coins d :=
    (Mel.coinsTotal_eq s.coins d).symm
  omega

/-- `applyBatch` does not crash when the amounts fit per denomination, which is asked only of batches whose transactions are all well-formed (a batch with an ill-formed transaction is rejected before any
    arithmetic) -/
theorem applyBatch_noCrash_d (env : Env) (s : State) (txs : List Tx) (fb : Header)
    (hc : s.tip906 = true → CountsOk s.coins)
    (hfresh : ∀ t ∈ txs, ∀ i, s.coins.getCoin ⟨t.hash, i⟩ = none)
    (hheights : ∀ id c, s.coins.getCoin id = some c → c.height ≤ s.height)
    (hbounded : (∀ t ∈ txs, t.isWellFormed = true) → ∀ d, coinsTotal s.coins d + batchOutputs txs d ≤ U128_MAX)
    (hspeeds : ∀ h hdr, s.history.get h = some hdr → 0 < hdr.doscSpeed)
    (hbelow : ∀ h hdr, s.history.get h = some hdr → h < s.height)
    (hdiff : ∀ a b c d, env.powOk a b c d ≠ .invalid → c ≤ 100)
    (hfits : ∀ hdr, s.history.get (s.height - 1) = some hdr → ∀ a b d t, env.powOk a b d t ≠ .invalid →
      microergsIter s.height * ((TIP910_WORK_FACTOR * 2 ^ d) * (TIP910_SPEED_FACTOR * 2 ^ d) * MICRO_CONVERTER /
        (hdr.doscSpeed ^ 2 * REWARD_DIVISOR)) / MICRO_CONVERTER ≤ U128_MAX) :
    NoCrash (applyBatch env s txs fb) :=
  applyBatch_noCrash_of env s txs fb hc hfresh hheights hspeeds hbelow hdiff hfits (fun _ _ hrel _ htx =>
    checkTxValidity_noCrash_d _ _ _ _ _ _ (fun d => Nat.le_trans (inputs_value_bound_d hrel htx d)
      (hbounded (fun t ht => ((loadRelevantCoins_ok hrel).wf t ht).1) d)))

/-- the old, denomination-blind hypothesis `bounded` of `ApplyPre` implies the per-denomination one -/
theorem bounded_imp_d (s : State) (txs : List Tx)
    (hb : (s.coins.coins.map (·.2.coinData.value)).sum + ((txs.flatMap (·.outputs)).map (·.value)).sum ≤ U128_MAX)
    (d : Denom) : coinsTotal s.coins d + batchOutputs txs d ≤ U128_MAX := by
  have h1 : coinsTotal s.coins d ≤ (s.coins.coins.map (·.2.coinData.value)).sum := sum_filter_le _ _ _
  have h2 : ∀ l : List Tx, batchOutputs l d ≤ ((l.flatMap (·.outputs)).map (·.value)).sum := by
    intro l
    induction l with
    | nil => simp [batchOutputs]
    | cons tx rest ih =>
      have h3 : outAll tx d ≤ (tx.outputs.map (·.value)).sum := by
        unfold outAll
        refine sum_map_le _ _ _ ?_
        intro o _
        unfold outVal
        split
        · exact Nat.le_refl _
        · exact Nat.zero_le _
      simp only [batchOutputs, List.map_cons, List.sum_cons, List.flatMap_cons, List.map_append,
        List.sum_append] at ih ⊢
      omega
  exact Nat.le_trans (Nat.add_le_add h1 (h2 txs)) hb

end SupplyBoundL

theorem applyBatch_noCrash (env : Env) (s : State) (txs : List Tx) (fb : Header)
    (hc : s.tip906 = true → CountsOk s.coins)
    (hfresh : ∀ t ∈ txs, ∀ i, s.coins.getCoin ⟨t.hash, i⟩ = none)
    (hheights : ∀ id c, s.coins.getCoin id = some c → c.height ≤ s.height)
    (hbounded : (s.coins.coins.map (·.2.coinData.value)).sum + ((txs.flatMap (·.outputs)).map (·.value)).sum
      ≤ U128_MAX)
    (hspeeds : ∀ h hdr, s.history.get h = some hdr → 0 < hdr.doscSpeed)
    (hbelow : ∀ h hdr, s.history.get h = some hdr → h < s.height)
    (hdiff : ∀ a b c d, env.powOk a b c d ≠ .invalid → c ≤ 100)
    (hfits : ∀ hdr, s.history.get (s.height - 1) = some hdr → ∀ a b d t, env.powOk a b d t ≠ .invalid →
      microergsIter s.height * ((TIP910_WORK_FACTOR * 2 ^ d) * (TIP910_SPEED_FACTOR * 2 ^ d) * MICRO_CONVERTER /
        (hdr.doscSpeed ^ 2 * REWARD_DIVISOR)) / MICRO_CONVERTER ≤ U128_MAX) :
    NoCrash (applyBatch env s txs fb) :=
  SupplyBoundL.applyBatch_noCrash_d env s txs fb hc hfresh hheights (fun _ => SupplyBoundL.bounded_imp_d s txs hbounded) hspeeds
    hbelow hdiff hfits

end Mel

/- the stdcode model (MelModel/Stdcode.lean) in the form the proofs use: little-endian strings, `takeN`, one varint
   reader with a width switch for `getVarint64` / `getVarint128`, the brackets of the encoder, and what an accepted stake
   document or proof-of-work payload was read from; used by MelModel/Props/Codec.lean -/
import MelModel.Stdcode
namespace Mel.Stdcode
open Mel

@[simp] theorem toLE_length (k n : Nat) : (toLE k n).length = k := by
  induction k generalizing n with
  | zero => rfl
  | succ k ih => simp only [toLE, List.length_cons, ih]

theorem fromLE_lt (bs : Bytes) : fromLE bs < 256 ^ bs.length := by
  induction bs with
  | nil => exact Nat.one_pos
  | cons b bs ih =>
    show b.toNat + 256 * fromLE bs < 256 ^ bs.length * 256
    have := UInt8.toNat_lt b
    omega

theorem fromLE_toLE (k n : Nat) (h : n < 256 ^ k) : fromLE (toLE k n) = n := by
  induction k generalizing n with
  | zero => exact (Nat.lt_one_iff.mp h).symm
  | succ k ih =>
    rw [Nat.pow_succ] at h
    show (UInt8.ofNat (n % 256)).toNat + 256 * fromLE (toLE k (n / 256)) = n
    rw [ih _ (Nat.div_lt_of_lt_mul (Nat.mul_comm _ _ ▸ h)), UInt8.toNat_ofNat', show n % 256 % 2 ^ 8 = n % 256 from Nat.mod_mod n 256]
    exact Nat.mod_add_div n 256

theorem takeN_append {n : Nat} {a : Bytes} (h : a.length = n) (b : Bytes) : takeN n (a ++ b) = some (a, b) := by
  subst h; simp [takeN]

theorem takeN_spec {n : Nat} {bs x r : Bytes} (h : takeN n bs = some (x, r)) : bs = x ++ r ∧ x.length = n := by
  unfold takeN at h
  split at h
  · injection h with h
    injection h with h1 h2
    subst h1; subst h2
    exact ⟨(List.take_append_drop n bs).symm, List.length_take_of_le ‹_›⟩
  · cases h

theorem takeN_ext {n : Nat} {bs x r : Bytes} (t : Bytes) (h : takeN n bs = some (x, r)) :
    takeN n (bs ++ t) = some (x, r ++ t) := by
  obtain ⟨h1, h2⟩ := takeN_spec h
  subst h1
  rw [List.append_assoc]
  exact takeN_append h2 _

/-- the tail of every multi-byte branch of the varint readers -/
def rdLE (k : Nat) (bs : Bytes) : Option (Nat × Bytes) := (takeN k bs).map fun (x, r) => (fromLE x, r)

theorem rdLE_inv {k : Nat} {bs r : Bytes} {n : Nat} (h : rdLE k bs = some (n, r)) :
    ∃ x, takeN k bs = some (x, r) ∧ n = fromLE x := by
  unfold rdLE at h
  cases h' : takeN k bs with
  | none => rw [h'] at h; cases h
  | some p =>
    obtain ⟨x, r'⟩ := p
    rw [h'] at h
    simp only [Option.map_some] at h
    injection h with h
    injection h with h1 h2
    subst h1; subst h2
    exact ⟨x, rfl, rfl⟩

theorem rdLE_ext {k : Nat} {bs r : Bytes} {n : Nat} (t : Bytes) (h : rdLE k bs = some (n, r)) :
    rdLE k (bs ++ t) = some (n, r ++ t) := by
  obtain ⟨x, h1, h2⟩ := rdLE_inv h
  simp [rdLE, takeN_ext t h1, h2]

theorem rdLE_range {k : Nat} {bs r : Bytes} {n : Nat} (h : rdLE k bs = some (n, r)) :
    n < 256 ^ k ∧ ∃ x, bs = x ++ r ∧ x.length = k := by
  obtain ⟨x, h1, h2⟩ := rdLE_inv h
  obtain ⟨h3, h4⟩ := takeN_spec h1
  refine ⟨?_, x, h3, h4⟩
  rw [h2, ← h4]; exact fromLE_lt x

theorem rdLE_toLE (k n : Nat) (h : n < 256 ^ k) (rest : Bytes) : rdLE k (toLE k n ++ rest) = some (n, rest) := by
  simp [rdLE, takeN_append (toLE_length k n), fromLE_toLE k n h]

/-- `getVarint64` and `getVarint128` are one reader: only a `wide` one accepts the marker 254 -/
def getVarintW (wide : Bool) : Bytes → Option (Nat × Bytes)
  | [] => none
  | b :: rest =>
    if b.toNat ≤ 250 then some (b.toNat, rest)
    else if b.toNat = 251 then rdLE 2 rest
    else if b.toNat = 252 then rdLE 4 rest
    else if b.toNat = 253 then rdLE 8 rest
    else if b.toNat = 254 then (if wide then rdLE 16 rest else none)
    else none

theorem getVarint128_eq : getVarint128 = getVarintW true := by
  funext bs; cases bs <;> rfl

theorem getVarint64_eq : getVarint64 = getVarintW false := by
  funext bs
  cases bs with
  | nil => rfl
  | cons b rest => simp only [getVarintW, Bool.false_eq_true, if_false, ite_self]; rfl

/-- widest literal a reader accepts, in bytes -/
def maxWidth (wide : Bool) : Nat := bif wide then 16 else 8

theorem getVarintW_cons (w : Bool) (b : UInt8) :
    (b.toNat ≤ 250 ∧ ∀ rest, getVarintW w (b :: rest) = some (b.toNat, rest)) ∨
    (∃ k, k ≤ maxWidth w ∧ ∀ rest, getVarintW w (b :: rest) = rdLE k rest) ∨
    ∀ rest, getVarintW w (b :: rest) = none := by
  have le : ∀ k, k ≤ 8 → k ≤ maxWidth w := fun k hk => by
    cases w with
    | false => exact hk
    | true => exact Nat.le_trans hk (by decide)
  by_cases h0 : b.toNat ≤ 250
  · exact .inl ⟨h0, fun _ => if_pos h0⟩
  by_cases h1 : b.toNat = 251
  · exact .inr (.inl ⟨2, le 2 (by decide), fun _ => (if_neg h0).trans (if_pos h1)⟩)
  by_cases h2 : b.toNat = 252
  · exact .inr (.inl ⟨4, le 4 (by decide), fun _ => (if_neg h0).trans ((if_neg h1).trans (if_pos h2))⟩)
  by_cases h3 : b.toNat = 253
  · exact .inr (.inl ⟨8, le 8 (by decide), fun _ =>
      (if_neg h0).trans ((if_neg h1).trans ((if_neg h2).trans (if_pos h3)))⟩)
  have tail : ∀ rest, getVarintW w (b :: rest) = if b.toNat = 254 then (if w then rdLE 16 rest else none) else none :=
    fun _ => (if_neg h0).trans ((if_neg h1).trans ((if_neg h2).trans (if_neg h3)))
  by_cases h4 : b.toNat = 254 ∧ w = true
  · exact .inr (.inl ⟨16, by rw [h4.2]; decide, fun r => (tail r).trans (by rw [if_pos h4.1, if_pos h4.2])⟩)
  · refine .inr (.inr fun r => (tail r).trans ?_)
    by_cases h5 : b.toNat = 254
    · rw [if_pos h5, if_neg fun hw => h4 ⟨h5, hw⟩]
    · exact if_neg h5
theorem getVarintW_append {w : Bool} {bs r : Bytes} {n : Nat} (t : Bytes) (h : getVarintW w bs = some (n, r)) :
    getVarintW w (bs ++ t) = some (n, r ++ t) := by
  cases bs with
  | nil => cases h
  | cons b rest =>
    rw [List.cons_append]
    rcases getVarintW_cons w b with ⟨_, e⟩ | ⟨k, _, e⟩ | e <;> rw [e] at h
    · cases h; exact e _
    · rw [e]; exact rdLE_ext t h
    · cases h

theorem getVarintW_range {w : Bool} {bs rest : Bytes} {n : Nat} (h : getVarintW w bs = some (n, rest)) :
    n < 256 ^ maxWidth w ∧ ∃ used, bs = used ++ rest ∧ 1 ≤ used.length ∧ used.length ≤ maxWidth w + 1 := by
  cases bs with
  | nil => cases h
  | cons b rest' =>
    rcases getVarintW_cons w b with ⟨hb, e⟩ | ⟨k, hk, e⟩ | e <;> rw [e] at h
    · cases h
      refine ⟨?_, [b], rfl, Nat.le_refl 1, Nat.le_add_left 1 _⟩
      cases w <;> exact Nat.lt_of_le_of_lt hb (by decide)
    · obtain ⟨h1, x, h2, h3⟩ := rdLE_range h
      exact ⟨Nat.lt_of_lt_of_le h1 (Nat.pow_le_pow_right (by decide) hk), b :: x, by rw [h2]; rfl, Nat.le_add_left 1 _,
        Nat.succ_le_succ (h3 ▸ hk)⟩
    · cases h

theorem putVarint_cases (n : Nat) :
    (n ≤ 250 ∧ putVarint n = [UInt8.ofNat n] ∧ varintLen n = 1) ∨
    (250 < n ∧ n < 2 ^ 16 ∧ putVarint n = 251 :: toLE 2 n ∧ varintLen n = 3) ∨
    (2 ^ 16 ≤ n ∧ n < 2 ^ 32 ∧ putVarint n = 252 :: toLE 4 n ∧ varintLen n = 5) ∨
    (2 ^ 32 ≤ n ∧ n < 2 ^ 64 ∧ putVarint n = 253 :: toLE 8 n ∧ varintLen n = 9) ∨
    (2 ^ 64 ≤ n ∧ putVarint n = 254 :: toLE 16 n ∧ varintLen n = 17) := by
  by_cases h0 : n ≤ 250
  · exact .inl ⟨h0, if_pos h0, if_pos h0⟩
  by_cases h1 : n < 2 ^ 16
  · exact .inr (.inl ⟨Nat.lt_of_not_le h0, h1, (if_neg h0).trans (if_pos h1), (if_neg h0).trans (if_pos h1)⟩)
  by_cases h2 : n < 2 ^ 32
  · exact .inr (.inr (.inl ⟨Nat.le_of_not_lt h1, h2, (if_neg h0).trans ((if_neg h1).trans (if_pos h2)),
      (if_neg h0).trans ((if_neg h1).trans (if_pos h2))⟩))
  by_cases h3 : n < 2 ^ 64
  · exact .inr (.inr (.inr (.inl ⟨Nat.le_of_not_lt h2, h3, (if_neg h0).trans ((if_neg h1).trans ((if_neg h2).trans (if_pos h3))),
      (if_neg h0).trans ((if_neg h1).trans ((if_neg h2).trans (if_pos h3)))⟩)))
  · exact .inr (.inr (.inr (.inr ⟨Nat.le_of_not_lt h3, (if_neg h0).trans ((if_neg h1).trans ((if_neg h2).trans (if_neg h3))),
      (if_neg h0).trans ((if_neg h1).trans ((if_neg h2).trans (if_neg h3)))⟩)))

theorem varintLen_succ (n : Nat) : varintLen n ≤ varintLen (n + 1) ∧ varintLen (n + 1) ≤ varintLen n + 8 := by
  have a := putVarint_cases n
  have b := putVarint_cases (n + 1)
  omega

theorem varintLen_bounds (n : Nat) : 1 ≤ varintLen n ∧ varintLen n ≤ 17 := by
  have a := putVarint_cases n
  omega

theorem varintLen_le_nine (n : Nat) (h : n < 2 ^ 64) : varintLen n ≤ 9 := by
  have a := putVarint_cases n
  omega

theorem putVarint_length (n : Nat) : (putVarint n).length = varintLen n := by
  rcases putVarint_cases n with ⟨_, e, l⟩ | ⟨_, _, e, l⟩ | ⟨_, _, e, l⟩ | ⟨_, _, e, l⟩ | ⟨_, e, l⟩ <;>
    rw [e, l] <;> simp only [List.length_cons, List.length_nil, toLE_length]

theorem getVarintW_putVarint (w : Bool) (n : Nat) (h : n < 256 ^ maxWidth w) (rest : Bytes) :
    getVarintW w (putVarint n ++ rest) = some (n, rest) := by
  rcases putVarint_cases n with ⟨h1, e, _⟩ | ⟨_, h1, e, _⟩ | ⟨_, h1, e, _⟩ | ⟨_, h1, e, _⟩ | ⟨h1, e, _⟩ <;> rw [e]
  · have : (UInt8.ofNat n).toNat = n := by rw [UInt8.toNat_ofNat']; omega
    show (if (UInt8.ofNat n).toNat ≤ 250 then some ((UInt8.ofNat n).toNat, rest) else _) = _
    rw [this, if_pos h1]
  · exact rdLE_toLE 2 n h1 rest
  · exact rdLE_toLE 4 n h1 rest
  · exact rdLE_toLE 8 n h1 rest
  · cases w
    · exact absurd h (Nat.not_lt.mpr h1)
    · exact rdLE_toLE 16 n h rest

theorem getVarint64_append {bs r : Bytes} {n : Nat} (t : Bytes) (h : getVarint64 bs = some (n, r)) :
    getVarint64 (bs ++ t) = some (n, r ++ t) := by
  rw [getVarint64_eq] at h ⊢; exact getVarintW_append t h

theorem getVarint128_append {bs r : Bytes} {n : Nat} (t : Bytes) (h : getVarint128 bs = some (n, r)) :
    getVarint128 (bs ++ t) = some (n, r ++ t) := by
  rw [getVarint128_eq] at h ⊢; exact getVarintW_append t h

theorem decodeStakeDoc_inv {bs : Bytes} {d : StakeDoc} (h : decodeStakeDoc bs = some d) :
    ∃ r₁ r₂ r₃, takeN 32 bs = some (d.pubkey, r₁) ∧ getVarint64 r₁ = some (d.eStart, r₂) ∧
      getVarint64 r₂ = some (d.ePostEnd, r₃) ∧ getVarint128 r₃ = some (d.symsStaked, []) := by
  unfold decodeStakeDoc at h
  split at h
  · cases h
  split at h
  · cases h
  split at h
  · cases h
  split at h
  · cases h
  split at h
  · rename_i hr
    subst hr
    injection h with h
    subst h
    exact ⟨_, _, _, ‹_›, ‹_›, ‹_›, ‹_›⟩
  · cases h

theorem decodeStakeDoc_of {bs r₁ r₂ r₃ r₄ pk : Bytes} {e e' s : Nat} (h0 : takeN 32 bs = some (pk, r₁))
    (h1 : getVarint64 r₁ = some (e, r₂)) (h2 : getVarint64 r₂ = some (e', r₃)) (h3 : getVarint128 r₃ = some (s, r₄)) :
    decodeStakeDoc bs =
      if r₄ = [] then some { pubkey := pk, eStart := e, ePostEnd := e', symsStaked := s } else none := by
  unfold decodeStakeDoc
  simp only [h0, h1, h2, h3]

theorem getBytes_inv {bs x r : Bytes} (h : getBytes bs = some (x, r)) :
    ∃ len r', getVarint64 bs = some (len, r') ∧ takeN len r' = some (x, r) := by
  unfold getBytes at h
  split at h
  · cases h
  · exact ⟨_, _, ‹_›, h⟩

theorem decodePow_inv {bs proof : Bytes} {d : Nat} (h : decodePow bs = some (d, proof)) :
    d < 2 ^ 32 ∧ ∃ r₁ len r₂, getVarint64 bs = some (d, r₁) ∧ getVarint64 r₁ = some (len, r₂) ∧
      takeN len r₂ = some (proof, []) := by
  unfold decodePow at h
  split at h
  · cases h
  split at h
  · split at h
    · cases h
    split at h
    · rename_i hv hd _ _ _ hb hr
      subst hr
      injection h with h
      injection h with h1 h2
      subst h1; subst h2
      obtain ⟨len, r', hb1, hb2⟩ := getBytes_inv hb
      exact ⟨hd, _, _, _, hv, hb1, hb2⟩
    · cases h
  · cases h

theorem decodePow_of_some {bs r₁ r₂ r₃ proof : Bytes} {d len : Nat} (h0 : getVarint64 bs = some (d, r₁))
    (hd : d < 2 ^ 32) (h1 : getVarint64 r₁ = some (len, r₂)) (h2 : takeN len r₂ = some (proof, r₃)) :
    decodePow bs = if r₃ = [] then some (d, proof) else none := by
  unfold decodePow getBytes
  simp only [h0, hd, h1, h2, if_true]

theorem decodePow_of_none {bs r₁ r₂ : Bytes} {d len : Nat} (h0 : getVarint64 bs = some (d, r₁))
    (hd : d < 2 ^ 32) (h1 : getVarint64 r₁ = some (len, r₂)) (h2 : takeN len r₂ = none) :
    decodePow bs = none := by
  unfold decodePow getBytes
  simp only [h0, hd, h1, h2, if_true]

theorem coinDataLen_bounds (c : CoinData) :
    35 ≤ coinDataLen c ∧ coinDataLen c ≤ 83 + c.denom.toBytes.length + c.additionalData.length := by
  unfold coinDataLen
  have h1 := varintLen_bounds c.value
  have h2 := varintLen_bounds c.denom.toBytes.length
  have h3 := varintLen_bounds c.additionalData.length
  omega

theorem bytesLen_gt (b : Bytes) : b.length < bytesLen b := by
  unfold bytesLen
  have := varintLen_bounds b.length
  omega

theorem sum_coinDataLen_ge (l : List CoinData) : 35 * l.length ≤ (l.map coinDataLen).sum := by
  induction l with
  | nil => simp
  | cons c l ih =>
    have := (coinDataLen_bounds c).1
    simp only [List.length_cons, List.map_cons, List.sum_cons]
    omega

theorem sum_bytesLen_ge (l : List Bytes) : (l.map List.length).sum ≤ (l.map bytesLen).sum := by
  induction l with
  | nil => simp
  | cons b l ih =>
    have := bytesLen_gt b
    simp only [List.map_cons, List.sum_cons]
    omega

/-- the left side is written summand by summand in the order of `txLen`: seven bytes of tags and counts besides what the
    transaction carries -/
theorem size_lower_sum (tx : Tx) :
    1 + (1 + 33 * tx.inputs.length) + (1 + 35 * tx.outputs.length) + 1 + (1 + (tx.covenants.map List.length).sum) +
      (tx.data.length + 1) + (1 + (tx.sigs.map List.length).sum) ≤ txLen tx :=
  have v := fun n => (varintLen_bounds n).1
  Nat.add_le_add (Nat.add_le_add (Nat.add_le_add (Nat.add_le_add (Nat.add_le_add (Nat.add_le_add (Nat.le_refl 1)
    (Nat.add_le_add_right (v _) _)) (Nat.add_le_add (v _) (sum_coinDataLen_ge _))) (v _))
    (Nat.add_le_add (v _) (sum_bytesLen_ge _))) (bytesLen_gt _)) (Nat.add_le_add (v _) (sum_bytesLen_ge _))

end Mel.Stdcode

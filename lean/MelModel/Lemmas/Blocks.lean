/- headers, opening the next block, applying a block: what each returns (used by C06 / C07 / C08 and the run lemmas) -/
import MelModel.Chain
import MelModel.Lemmas.Counts
import MelModel.Lemmas.FeeMult
import MelModel.Lemmas.Phase
namespace Mel
open Mel.Gen

/-! ### the TIP flags are functions of height and network -/

theorem tipCondition_congr {a b : State} (hh : a.height = b.height) (hn : a.network = b.network) (act : Nat) :
    a.tipCondition act = b.tipCondition act := by
  unfold State.tipCondition
  rw [hh, hn]

theorem tip908_congr {a b : State} (hh : a.height = b.height) (hn : a.network = b.network) :
    a.tip908 = b.tip908 := by
  unfold State.tip908
  rw [tipCondition_congr hh hn, hn]

/-! ### headers -/

theorem headerOf_ok (env : Env) (ss : Sealed) (hdr : Header) (h : headerOf env ss = .ok hdr) :
    ∃ p, ((ss.st.height = 0 ∧ p = zeroHash) ∨
          (ss.st.height ≠ 0 ∧ ∃ ph, ss.st.history.get (ss.st.height - 1) = some ph ∧ p = env.hdrHash ph)) ∧
      hdr = { network := ss.st.network, previous := p, height := ss.st.height,
              historyHash := env.historyRoot ss.st.history, coinsHash := env.coinsRoot ss.st.coins,
              transactionsHash := env.txsRoot ss.st.tip908 ss.st.txs,
              feePool := ss.st.feePool, feeMultiplier := ss.st.feeMultiplier, doscSpeed := ss.st.doscSpeed,
              poolsHash := env.poolsRoot ss.st.pools, stakesHash := env.stakesRoot ss.st.stakes } := by
  unfold headerOf at h
  simp only at h
  obtain ⟨p, hp, h⟩ := Outcome.bind_eq_ok.mp h
  cases h
  refine ⟨p, ?_, rfl⟩
  split at hp
  · next h0 => cases hp; exact Or.inl ⟨h0, rfl⟩
  · next h0 =>
    split at hp
    · next ph hph => cases hp; exact Or.inr ⟨h0, ph, hph, rfl⟩
    · cases hp

theorem headerOf_total (env : Env) (ss : Sealed)
    (hprev : ss.st.height ≠ 0 → ∃ ph, ss.st.history.get (ss.st.height - 1) = some ph) :
    ∃ hdr, headerOf env ss = .ok hdr := by
  unfold headerOf
  simp only
  by_cases h0 : ss.st.height = 0
  · rw [if_pos h0]; exact ⟨_, rfl⟩
  · rw [if_neg h0]
    obtain ⟨ph, hph⟩ := hprev h0
    rw [hph]; exact ⟨_, rfl⟩

/-! ### opening the next block -/

theorem applyTip906Transition_coins (m : CoinMap) : (applyTip906Transition m).coins = m.coins := by
  have key : ∀ (l : List (CoinID × CoinDataHeight)) (acc : CoinMap), (l.foldl tip906Step acc).coins = acc.coins := by
    intro l
    induction l with
    | nil => intro acc; rfl
    | cons e rest ih => intro acc; rw [List.foldl_cons, ih, tip906Step_eq]
  exact key m.coins m

theorem nextUnsealed_shape {env : Env} {ss : Sealed} {s' : State} (h : nextUnsealed env ss = .ok s') :
    ∃ hdr c, headerOf env ss = .ok hdr ∧
      s' = { ss.st with history := ss.st.history.set ss.st.height hdr, height := ss.st.height + 1,
                        stakes := ss.st.stakes.unlockOld ((ss.st.height + 1) / STAKE_EPOCH), txs := [],
                        coins := c } ∧
      c = if s'.tip906 && !ss.st.tip906 then applyTip906Transition ss.st.coins else ss.st.coins := by
  unfold nextUnsealed at h
  obtain ⟨hdr, hh, h⟩ := Outcome.bind_eq_ok.mp h
  simp only at h
  split at h
  · next hc => cases h; exact ⟨hdr, _, hh, rfl, (if_pos hc).symm⟩
  · next hc => cases h; exact ⟨hdr, _, hh, rfl, (if_neg hc).symm⟩

theorem nextUnsealed_total (env : Env) (ss : Sealed) (hdr : Header) (h : headerOf env ss = .ok hdr) :
    ∃ s', nextUnsealed env ss = .ok s' := by
  unfold nextUnsealed
  rw [h]
  simp only [Outcome.bind]
  split <;> exact ⟨_, rfl⟩

theorem nextUnsealed_ok (env : Env) (ss : Sealed) (basis : State) (h : nextUnsealed env ss = .ok basis) :
    ∃ hdr, headerOf env ss = .ok hdr ∧ basis.history = ss.st.history.set ss.st.height hdr ∧
      basis.height = ss.st.height + 1 ∧ basis.network = ss.st.network := by
  obtain ⟨hdr, c, hh, e, -⟩ := nextUnsealed_shape h
  exact ⟨hdr, hh, congrArg State.history e, congrArg State.height e, (congrArg State.network e :)⟩

theorem nextUnsealed_txs {env : Env} {ss : Sealed} {s' : State} (h : nextUnsealed env ss = .ok s') : s'.txs = [] := by
  obtain ⟨hdr, c, -, e, -⟩ := nextUnsealed_shape h
  exact congrArg State.txs e

theorem nextUnsealed_getCoin {env : Env} {ss : Sealed} {s' : State} (h : nextUnsealed env ss = .ok s')
    (id : CoinID) : s'.coins.getCoin id = ss.st.coins.getCoin id := by
  obtain ⟨hdr, c, -, e, ec⟩ := nextUnsealed_shape h
  have : s'.coins.coins = ss.st.coins.coins := by
    rw [(congrArg State.coins e : s'.coins = c), ec]
    split
    · exact applyTip906Transition_coins _
    · rfl
  unfold CoinMap.getCoin
  rw [this]

theorem nextUnsealed_history (env : Env) (ss : Sealed) (basis : State)
    (h : nextUnsealed env ss = .ok basis) :
    ∃ hdr, headerOf env ss = .ok hdr ∧ basis.history.get (basis.height - 1) = some hdr := by
  obtain ⟨hdr, hh, e1, e2, -⟩ := nextUnsealed_ok env ss basis h
  exact ⟨hdr, hh, by rw [e1, e2]; exact AList.get_set_self _ _ _⟩

/-- `lastHeaderOf` does not look at its second argument, so this holds of every state and the hypothesis is not used -/
theorem lastHeaderOf_nextUnsealed (env : Env) (ss : Sealed) (basis : State)
    (_h : nextUnsealed env ss = .ok basis) (fb₁ fb₂ : Header) :
    lastHeaderOf basis fb₁ = lastHeaderOf basis fb₂ := rfl

theorem applyBatch_congr_lastHeader (env : Env) (s : State) (txs : List Tx) (fb₁ fb₂ : Header)
    (h : lastHeaderOf s fb₁ = lastHeaderOf s fb₂) :
    applyBatch env s txs fb₁ = applyBatch env s txs fb₂ := by
  unfold applyBatch
  simp only [h]

/-! ### applying a block -/

theorem applyBlock_of_steps {env : Env} {ss sealed : Sealed} {blk : Block} {basis applied : State} {hdr : Header}
    (h1 : nextUnsealed env ss = .ok basis) (hp : 2 ≤ basis.pools.length)
    (h2 : applyBatch env basis blk.transactions default = .ok applied)
    (h3 : sealState env applied blk.action = .ok sealed) (h4 : headerOf env sealed = .ok hdr) :
    applyBlock env ss blk = if hdr = blk.header then .ok sealed else .reject .wrongHeader := by
  unfold applyBlock
  simp only [h1, Outcome.bind, if_neg (Nat.not_lt.mpr hp), h2, h3, h4]

theorem applyBlock_eq_ok_iff (env : Env) (ss ss' : Sealed) (blk : Block) :
    applyBlock env ss blk = .ok ss' ↔
      ∃ basis applied, nextUnsealed env ss = .ok basis ∧ 2 ≤ basis.pools.length ∧
        applyBatch env basis blk.transactions default = .ok applied ∧
        sealState env applied blk.action = .ok ss' ∧ headerOf env ss' = .ok blk.header := by
  constructor
  · intro h
    unfold applyBlock at h
    obtain ⟨basis, h1, h⟩ := Outcome.bind_eq_ok.mp h
    split at h
    · cases h
    · next hp =>
      obtain ⟨applied, h2, h⟩ := Outcome.bind_eq_ok.mp h
      obtain ⟨sealed, h3, h⟩ := Outcome.bind_eq_ok.mp h
      obtain ⟨hd, h4, h⟩ := Outcome.bind_eq_ok.mp h
      split at h
      · next he =>
        cases h
        exact ⟨basis, applied, h1, by omega, h2, h3, he ▸ h4⟩
      · cases h
  · rintro ⟨basis, applied, h1, hp, h2, h3, h4⟩
    rw [applyBlock_of_steps h1 hp h2 h3 h4, if_pos rfl]

theorem sealState_action (env : Env) (s : State) (a : Option ProposerAction) (ss : Sealed)
    (h : sealState env s a = .ok ss) : ss.action = a :=
  let ⟨_, _, ha, _⟩ := sealState_eq_ok_iff.mp h
  ha

theorem collectProposerFee_congr (env : Env) (s : State) (a₁ a₂ : ProposerAction)
    (hd : a₁.rewardDest = a₂.rewardDest) :
    collectProposerFee env s a₁ = collectProposerFee env s a₂ := by
  unfold collectProposerFee
  simp only [hd]

end Mel

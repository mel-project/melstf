/- helper lemmas for the codec (C12) -/
import MelModel.VM.Codec
import MelModel.Lemmas.BytesL
namespace Mel.VM
open Mel Mel.Gen

theorem u16BE_eq (n : UInt16) :
    u16BE n = [UInt8.ofNat (n.toNat / 256 % 256), UInt8.ofNat (n.toNat % 256)] := by
  simp [u16BE, toBE]

theorem u16arg_u16BE (n : UInt16) (rest : Bytes) : u16arg (u16BE n ++ rest) = some (n, rest) := by
  have hn : n.toNat < 65536 := UInt16.toNat_lt n
  rw [u16BE_eq]
  simp only [List.cons_append, List.nil_append, u16arg, UInt8.toNat_ofNat']
  have h1 : n.toNat / 256 % 256 % 2 ^ 8 = n.toNat / 256 := by
    rw [Nat.mod_mod, Nat.mod_eq_of_lt (by omega)]
  have h2 : n.toNat % 256 % 2 ^ 8 = n.toNat % 256 := Nat.mod_mod _ _
  rw [h1, h2, Nat.div_add_mod', UInt16.ofNat_toNat]

theorem u16arg_eq_some {bs : Bytes} {n : UInt16} {rest : Bytes}
    (h : u16arg bs = some (n, rest)) : bs = u16BE n ++ rest := by
  match bs, h with
  | a :: b :: r, h =>
    obtain ⟨rfl, rfl⟩ := Prod.mk.inj (Option.some.inj h)
    have ha : a.toNat < 256 := UInt8.toNat_lt a
    have hb : b.toNat < 256 := UInt8.toNat_lt b
    rw [u16BE_eq, UInt16.toNat_ofNat', Nat.mod_eq_of_lt (show a.toNat * 256 + b.toNat < 2 ^ 16 by omega)]
    have h1 : (a.toNat * 256 + b.toNat) / 256 % 256 = a.toNat := by
      rw [Nat.add_comm, Nat.add_mul_div_right _ _ (by decide), Nat.div_eq_of_lt hb, Nat.zero_add, Nat.mod_eq_of_lt ha]
    have h2 : (a.toNat * 256 + b.toNat) % 256 = b.toNat := by
      rw [Nat.add_comm, Nat.add_mul_mod_self_right, Nat.mod_eq_of_lt hb]
    rw [h1, h2, UInt8.ofNat_toNat, UInt8.ofNat_toNat]
    rfl
theorem takeExact_append (a rest : Bytes) : takeExact a.length (a ++ rest) = some (a, rest) := by
  simp [takeExact]

theorem takeExact_eq_some {n : Nat} {bs a rest : Bytes} (h : takeExact n bs = some (a, rest)) :
    bs = a ++ rest ∧ a.length = n := by
  unfold takeExact at h
  split at h
  · simp only [Option.some.injEq, Prod.mk.injEq] at h
    obtain ⟨h1, h2⟩ := h
    subst h1 h2
    refine ⟨(List.take_append_drop n bs).symm, ?_⟩
    rw [List.length_take]; omega
  · cases h

theorem ite_some_ext {c : Prop} [Decidable c] {α β : Type} {a b : Option α} {a' b' : Option β} {x : α} {y : β}
    (h1 : a = some x → a' = some y) (h2 : b = some x → b' = some y) :
    (if c then a else b) = some x → (if c then a' else b') = some y := by
  split
  · exact h1
  · exact h2

/-- an opcode byte that decodes on its own decodes the same way in front of any `r`: one walk down the chain of
    `decodeOp`, the branches that read arguments fail on `[b]` -/
theorem decodeOp_singleton_ext {b : UInt8} {op : Op} (h : decodeOp [b] = some (op, [])) (r : Bytes) :
    decodeOp (b :: r) = some (op, r) := by
  revert h
  simp only [decodeOp]
  repeat' (refine ite_some_ext ?_ ?_)
  all_goals
    intro h
    cases h <;> rfl

/-- decoding an encoded instruction.  The 37 instructions without arguments are one byte of the generated table each:
    the kernel evaluates `decodeOp` on that byte (`simp` would compare it with every earlier entry of the chain,
    1225 comparisons in all); for the others `simp` walks the chain, deciding each comparison of two table bytes -/
theorem decodeOp_encodeOp (op : Op) (enc rest : Bytes) (h : encodeOp op = some enc) :
    decodeOp (enc ++ rest) = some (op, rest) := by
  cases op
  case pushb bs =>
    simp [encodeOp] at h
    obtain ⟨h1, h⟩ := h
    subst h
    have : (UInt8.ofNat bs.length).toNat = bs.length := by
      rw [UInt8.toNat_ofNat']; omega
    simp +decide [decodeOp, this, takeExact_append]
  case pushi v =>
    obtain rfl := Option.some.inj h
    have := takeExact_append (toBE 32 v.toNat) rest
    rw [toBE_length] at this
    simp +decide [decodeOp, this, fromBE_toBE_32]
  case pushic v =>
    obtain rfl := Option.some.inj h
    have hle := sigLen_u256_le v
    have h1 : (UInt8.ofNat (sigLen v.toNat)).toNat = sigLen v.toNat := by
      rw [UInt8.toNat_ofNat']; omega
    have := takeExact_append (toBE (sigLen v.toNat) v.toNat) rest
    rw [toBE_length] at this
    simp +decide [decodeOp, h1, hle, this, fromBE_toBE_sigLen]
  case exp | hash | sigeok | storeimm | loadimm | bez | bnz | jmp | loop =>
    all_goals
      obtain rfl := Option.some.inj h
      simp +decide [decodeOp, u16arg_u16BE]
  all_goals
    obtain rfl := Option.some.inj h
    exact decodeOp_singleton_ext (by decide +kernel) rest

theorem ite_some_elim {c : Prop} [Decidable c] {α : Type} {a b : Option α} {x : α} {P : Prop}
    (h1 : c → a = some x → P) (h2 : b = some x → P) :
    (if c then a else b) = some x → P := by
  intro h; split at h
  · exact h1 ‹_› h
  · exact h2 h

theorem encodeOp_decodeOp (bs rest : Bytes) (op : Op) (h : decodeOp bs = some (op, rest)) :
    ∃ enc, encodeOp op = some enc ∧ bs = enc ++ rest := by
  match bs, h with
  | b :: r, h =>
  simp only [decodeOp] at h
  -- one goal per branch of the chain of opcode tests
  repeat' (revert h; refine ite_some_elim (fun _ h => ?_) (fun h => ?_))
  all_goals try (simp only [Option.some.injEq, Prod.mk.injEq] at h; obtain ⟨rfl, rfl⟩ := h; subst_vars; exact ⟨_, rfl, rfl⟩)
  all_goals try (
    simp only [Option.map_eq_some_iff, Prod.exists, Prod.mk.injEq] at h
    obtain ⟨n, r', hu, rfl, rfl⟩ := h
    have := u16arg_eq_some hu
    subst_vars
    exact ⟨_, rfl, rfl⟩)
  · -- exp
    split at h
    · simp only [Option.some.injEq, Prod.mk.injEq] at h; obtain ⟨rfl, rfl⟩ := h
      subst_vars; exact ⟨_, rfl, rfl⟩
    · cases h
  · -- loop
    split at h
    · rename_i it r' hu
      simp only [Option.map_eq_some_iff, Prod.exists, Prod.mk.injEq] at h
      obtain ⟨n, r'', hu', rfl, rfl⟩ := h
      have h1 := u16arg_eq_some hu
      have h2 := u16arg_eq_some hu'
      subst_vars
      exact ⟨_, rfl, by simp [encLoop, decLoop]⟩
    · cases h
  · -- pushb
    split at h
    · rename_i len r'
      simp only [Option.map_eq_some_iff, Prod.exists, Prod.mk.injEq] at h
      obtain ⟨a, r'', ht, rfl, rfl⟩ := h
      obtain ⟨h1, h2⟩ := takeExact_eq_some ht
      have hl : len.toNat < 256 := UInt8.toNat_lt len
      subst_vars
      refine ⟨encPushB :: UInt8.ofNat a.length :: a, ?_, ?_⟩
      · simp [encodeOp]; omega
      · rw [h2, UInt8.ofNat_toNat]; rfl
    · cases h
  · -- pushi
    simp only [Option.map_eq_some_iff, Prod.exists, Prod.mk.injEq] at h
    obtain ⟨a, r'', ht, rfl, rfl⟩ := h
    obtain ⟨h1, h2⟩ := takeExact_eq_some ht
    subst_vars
    refine ⟨encPushI :: a, ?_, rfl⟩
    have hlt := fromBE_lt a
    rw [h2, pow_256_32] at hlt
    simp only [encodeOp, BitVec.toNat_ofNat, Nat.mod_eq_of_lt hlt]
    rw [← h2, toBE_fromBE]
  · -- pushic
    split at h
    · rename_i len r'
      split at h
      · cases h
      · rename_i hle
        split at h
        · rename_i a r'' ht
          split at h
          · rename_i hs
            simp only [Option.some.injEq, Prod.mk.injEq] at h; obtain ⟨rfl, rfl⟩ := h
            obtain ⟨h1, h2⟩ := takeExact_eq_some ht
            subst_vars
            have hlt : fromBE a < 2 ^ 256 := by
              rw [← pow_256_32]
              exact lt_pow_of_sigLen_le 32 _ (by omega)
            refine ⟨encPushIC :: len :: a, ?_, rfl⟩
            simp only [encodeOp, BitVec.toNat_ofNat, Nat.mod_eq_of_lt hlt]
            rw [hs, UInt8.ofNat_toNat, ← h2, toBE_fromBE]
          · cases h
        · cases h
    · cases h
  · cases h

theorem encodeOp_ne_nil {op : Op} {enc : Bytes} (h : encodeOp op = some enc) : enc ≠ [] := by
  rintro rfl
  exact nomatch decodeOp_encodeOp op [] [] h

theorem decodeOp_length_lt {bs rest : Bytes} {op : Op} (h : decodeOp bs = some (op, rest)) :
    rest.length < bs.length := by
  obtain ⟨enc, he, rfl⟩ := encodeOp_decodeOp bs rest op h
  have := encodeOp_ne_nil he
  cases enc with
  | nil => exact absurd rfl this
  | cons a l => simp; omega

theorem decodeFuel_nil (fuel : Nat) : decodeFuel fuel [] = some [] := by
  cases fuel <;> rfl

theorem decodeFuel_succ_cons (fuel : Nat) (b : UInt8) (r : Bytes) :
    decodeFuel (fuel + 1) (b :: r) =
      match decodeOp (b :: r) with
      | none => none
      | some (op, rest) => (decodeFuel fuel rest).map (op :: ·) := rfl

theorem encodeAll_cons (op : Op) (ops : List Op) :
    encodeAll (op :: ops) = (encodeOp op).bind fun a => (encodeAll ops).map fun b => a ++ b := by
  cases h1 : encodeOp op <;> cases h2 : encodeAll ops <;> simp [encodeAll, h1, h2]

theorem encodeAll_cons_eq_some {op : Op} {ops : List Op} {bs : Bytes} :
    encodeAll (op :: ops) = some bs ↔
      ∃ a b, encodeOp op = some a ∧ encodeAll ops = some b ∧ bs = a ++ b := by
  rw [encodeAll_cons]
  cases h1 : encodeOp op <;> cases h2 : encodeAll ops <;> simp [eq_comm]

theorem encodeAll_of_decodeFuel (fuel : Nat) (bs : Bytes) (ops : List Op)
    (h : decodeFuel fuel bs = some ops) : encodeAll ops = some bs := by
  induction fuel generalizing bs ops with
  | zero =>
    cases bs with
    | nil => rw [decodeFuel_nil] at h; cases h; rfl
    | cons b r => cases h
  | succ fuel ih =>
    cases bs with
    | nil => rw [decodeFuel_nil] at h; cases h; rfl
    | cons b r =>
      rw [decodeFuel_succ_cons] at h
      split at h
      · cases h
      · rename_i op rest hd
        simp only [Option.map_eq_some_iff] at h
        obtain ⟨ops', hf, rfl⟩ := h
        obtain ⟨enc, he, hb⟩ := encodeOp_decodeOp _ _ _ hd
        rw [encodeAll_cons_eq_some]
        exact ⟨enc, rest, he, ih _ _ hf, hb⟩

theorem decodeFuel_of_encodeAll (ops : List Op) (bs : Bytes) (h : encodeAll ops = some bs)
    (fuel : Nat) (hf : ops.length ≤ fuel) : decodeFuel fuel bs = some ops := by
  induction ops generalizing bs fuel with
  | nil =>
    simp [encodeAll] at h; subst h; exact decodeFuel_nil fuel
  | cons op ops ih =>
    rw [encodeAll_cons_eq_some] at h
    obtain ⟨a, b, ha, hb, rfl⟩ := h
    have hne := encodeOp_ne_nil ha
    have hd := decodeOp_encodeOp op a b ha
    cases fuel with
    | zero => simp at hf
    | succ fuel =>
      cases a with
      | nil => exact absurd rfl hne
      | cons x a =>
        rw [List.cons_append, decodeFuel_succ_cons, ← List.cons_append, hd]
        simp only [List.length_cons, Nat.add_le_add_iff_right] at hf
        simp [ih b hb fuel hf]

theorem encodeAll_length {ops : List Op} {bs : Bytes} (h : encodeAll ops = some bs) :
    ops.length ≤ bs.length := by
  induction ops generalizing bs with
  | nil => simp
  | cons op ops ih =>
    rw [encodeAll_cons_eq_some] at h
    obtain ⟨a, b, ha, hb, rfl⟩ := h
    have hne := encodeOp_ne_nil ha
    have := ih hb
    cases a with
    | nil => exact absurd rfl hne
    | cons x a => simp; omega

theorem encodeOp_isSome_iff (op : Op) :
    (encodeOp op).isSome ↔ ∀ bs, op = Op.pushb bs → bs.length ≤ 255 := by
  have hb (bs : Bytes) : (encodeOp (.pushb bs)).isSome ↔ bs.length ≤ 255 := by
    simp only [encodeOp]
    split <;> simp <;> omega
  constructor
  · rintro h bs rfl
    exact (hb bs).mp h
  · intro h
    cases op
    case pushb bs => exact (hb bs).mpr (h bs rfl)
    all_goals rfl

end Mel.VM

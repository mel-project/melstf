/-
  For C05 along a run (Props/C05Hist.lean): Melmint leaves the fee pool alone, the TIP-909 subsidy only adds to it,
  opening the next block keeps fee pool and tips; a batch that leaves the transaction list empty is empty.
-/
import MelModel.Chain
import MelModel.Lemmas.Restart
import MelModel.Lemmas.Perm
import MelModel.Lemmas.WholeL
import MelModel.Lemmas.Blocks
namespace Mel
namespace FeeHistL
open Mel.Gen

/-- the TIP-909 subsidy adds to the fee pool the MEL it swaps out of the MEL/SYM pool -/
theorem applyTip909_fee {s s' : State} (h : applyTip909 s = .ok s') : s.feePool ≤ s'.feePool := by
  obtain ⟨_, _, mel, e⟩ := applyTip909_state h
  rw [e]
  exact Nat.le_add_right _ mel

theorem sealPre_fees {env : Env} {u s1 s2 : State} (h1 : presealMelmint env u = .ok s1)
    (h2 : (if s1.tip909 then applyTip909 s1 else .ok s1) = .ok s2) :
    s1.feePool = u.feePool ∧ u.feePool ≤ s2.feePool ∧ s2.tips = u.tips ∧ s2.height = u.height := by
  have f1 := presealMelmint_frame h1
  refine ⟨f1.feePool, ?_⟩
  split at h2
  · have f2 := applyTip909_frame h2
    exact ⟨f1.feePool ▸ applyTip909_fee h2, f2.tips.trans f1.tips, f2.height.trans f1.height⟩
  · cases h2; exact ⟨Nat.le_of_eq f1.feePool.symm, f1.tips, f1.height⟩

theorem nextUnsealed_fee {env : Env} {ss : Sealed} {s' : State} (h : nextUnsealed env ss = .ok s') :
    s'.feePool = ss.st.feePool ∧ s'.tips = ss.st.tips ∧ s'.feeMultiplier = ss.st.feeMultiplier := by
  obtain ⟨hdr, c, -, e, -⟩ := nextUnsealed_shape h
  exact ⟨(congrArg State.feePool e :), (congrArg State.tips e :), (congrArg State.feeMultiplier e :)⟩

theorem insertTx_ne_nil (acc : List Tx) (tx : Tx) : State.insertTx acc tx ≠ [] := by
  unfold State.insertTx
  split
  · exact List.cons_ne_nil _ _
  · split
    · exact List.cons_ne_nil _ _
    · split <;> exact List.cons_ne_nil _ _

theorem foldl_insertTx_eq_nil : ∀ (txs acc : List Tx), txs.foldl State.insertTx acc = [] → txs = [] ∧ acc = [] := by
  intro txs
  induction txs with
  | nil => intro acc h; exact ⟨rfl, h⟩
  | cons t rest ih =>
    intro acc h
    rw [List.foldl_cons] at h
    exact absurd (ih _ h).2 (insertTx_ne_nil acc t)

theorem applyBatch_txs_nil {env : Env} {s s' : State} {txs : List Tx} {fb : Header}
    (h : applyBatch env s txs fb = .ok s') (h0 : s'.txs = []) : txs = [] ∧ s.txs = [] := by
  rw [(applyBatch_frame h).txsEq] at h0
  exact foldl_insertTx_eq_nil _ _ h0

end FeeHistL
end Mel

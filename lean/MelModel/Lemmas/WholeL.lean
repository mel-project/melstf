/- For Props/C01Whole.lean: what the peg adjustment, the builtin pools and the opening of the next block do to the
   supply; the reward coin's slot stays free while a block is sealed (`WInv`); sealing put together
   (`seal_potential`). -/
import MelModel.Seal
import MelModel.Chain
import MelModel.SupplyDefs
import MelModel.Lemmas.Supply
import MelModel.Lemmas.SupplySeal
import MelModel.Props.C01Seal
import MelModel.Lemmas.MelmintL
import MelModel.Lemmas.Blocks
namespace Mel
namespace WholeL
open Mel.Gen Mel.SupplySealL Mel.SettleBlockL

theorem swapLeft_le {sm sm' : PoolState} {x lw rw : Nat} (h : sm.swapMany x 0 = .ok (sm', lw, rw)) :
    sm'.lefts ≤ sm.lefts + x ∧ sm'.rights ≤ sm.rights := by
  have := swapMany_le h
  omega

theorem pegging_shape (s s' : State) (h : processPegging s = .ok s') :
    ∃ sm sm2, s.pools.get poolMelSym = some sm ∧ s' = { s with pools := s.pools.set poolMelSym sm2 } ∧
      sm2.lefts ≤ sm.lefts + U128_MAX / throttlerOf s ∧ sm2.rights ≤ sm.rights + U128_MAX / throttlerOf s := by
  obtain ⟨sm, sm1, sm2, dm, ds, hget, hdm, hds, h1, h2, rfl⟩ := processPegging_inv h
  refine ⟨sm, sm2, hget, rfl, ?_⟩
  have q1 : (dm - sm.lefts) / throttlerOf s ≤ U128_MAX / throttlerOf s :=
    Nat.div_le_div_right (Nat.le_trans (Nat.sub_le _ _) hdm)
  have q2 : (ds - sm1.rights) / throttlerOf s ≤ U128_MAX / throttlerOf s :=
    Nat.div_le_div_right (Nat.le_trans (Nat.sub_le _ _) hds)
  have b1 : sm1.lefts ≤ sm.lefts + U128_MAX / throttlerOf s ∧ sm1.rights ≤ sm.rights := by
    rcases pegStep1_inv h1 with rfl | ⟨_, _, hs⟩
    · exact ⟨Nat.le_add_right _ _, Nat.le_refl _⟩
    · have := swapMany_le hs
      omega
  have b2 : sm2.lefts ≤ sm1.lefts ∧ sm2.rights ≤ sm1.rights + U128_MAX / throttlerOf s := by
    rcases pegStep2_inv h2 with rfl | ⟨_, _, hs⟩
    · exact ⟨Nat.le_refl _, Nat.le_add_right _ _⟩
    · have := swapMany_le hs
      omega
  omega

/-- what the peg adjustment may add to the supply of `d` -/
def pegPart (s : State) (d : Denom) : Nat :=
  if d = .mel ∨ d = .sym then U128_MAX / throttlerOf s else 0

theorem pegging_supply (s s' : State) (h : processPegging s = .ok s') (hk : (s.pools.map (·.1)).Nodup)
    (d : Denom) : supply s' d ≤ supply s d + pegPart s d := by
  obtain ⟨sm, sm2, hget, rfl, hl, hr⟩ := pegging_shape s s' h
  have t := poolsTotal_set hk d poolMelSym sm2
  rw [AList.at?_some hget, pc_melSym, pc_melSym] at t
  unfold supply pegPart
  simp only
  generalize U128_MAX / throttlerOf s = Q at *
  by_cases h1 : d = .mel
  · subst h1
    simp at t ⊢
    omega
  · by_cases h2 : d = .sym
    · subst h2
      simp at t ⊢
      omega
    · simp [h1, h2] at t ⊢
      omega

theorem createBuiltins_sealPre (s : State) (hp : SealPre s) : SealPre (createBuiltins s) :=
  ⟨hp.coinKeys, createBuiltins_keys_nodup s hp.poolKeys, hp.txHashes, hp.faithful, hp.bounded⟩

theorem createBuiltins_noop (s : State)
    (hb : ∀ k ∈ [poolMelSym, poolMelErg, poolErgSym], ∃ p, s.pools.get k = some p ∧ p.liqs ≠ 0) :
    createBuiltins s = s := by
  have hm : ∀ k ∈ [poolMelSym, poolMelErg, poolErgSym], builtinMissing s.pools k = false := by
    intro k hk
    obtain ⟨p, hp, hl⟩ := hb k hk
    unfold builtinMissing
    rw [hp]
    simpa using hl
  have h1 := hm poolMelSym (by simp)
  have h2 := hm poolMelErg (by simp)
  have h3 := hm poolErgSym (by simp)
  unfold createBuiltins
  simp [h1, h2, h3]

theorem nextUnsealed_supply (env : Env) (ss : Sealed) (s' : State) (h : nextUnsealed env ss = .ok s')
    (d : Denom) : supply s' d = supply ss.st d := by
  obtain ⟨hdr, c, _, rfl, hc⟩ := nextUnsealed_shape h
  have : c.coins = ss.st.coins.coins := by
    rw [hc]
    split
    · exact applyTip906Transition_coins _
    · rfl
  unfold supply coinsTotal
  rw [this]

/-- the coin map `m` reached while sealing a block whose coin map was `c0` -/
structure CI (c0 m : CoinMap) : Prop where
  nodup : m.Nodup
  /-- settlement never creates or removes a coin with index 0 -/
  dom0 : ∀ h, (m.getCoin ⟨h, 0⟩).isSome = (c0.getCoin ⟨h, 0⟩).isSome

theorem CI.refl {c0 : CoinMap} (hn : c0.Nodup) : CI c0 c0 := ⟨hn, fun _ => rfl⟩

theorem CI.insert0 {c0 m : CoinMap} (h : CI c0 m) {x : Hash} (hex : (c0.getCoin ⟨x, 0⟩).isSome = true)
    (c : CoinDataHeight) (t : Bool) : CI c0 (m.insertCoin ⟨x, 0⟩ c t) where
  nodup := CoinMap.Nodup_insertCoin h.nodup _ _ _
  dom0 := by
    intro y
    rw [CoinMap.getCoin_insertCoin]
    split
    · next e =>
      injection e with e1 _
      rw [e1, hex]; rfl
    · exact h.dom0 y

theorem CI.insert1 {c0 m : CoinMap} (h : CI c0 m) (x : Hash) (c : CoinDataHeight) (t : Bool) :
    CI c0 (m.insertCoin ⟨x, 1⟩ c t) where
  nodup := CoinMap.Nodup_insertCoin h.nodup _ _ _
  dom0 := by
    intro y
    rw [CoinMap.getCoin_insertCoin]
    split
    · next e => injection e with _ e2; cases e2
    · exact h.dom0 y

theorem CI.remove1 {c0 m m' : CoinMap} (h : CI c0 m) {x : Hash} {t : Bool}
    (hr : m.removeCoin ⟨x, 1⟩ t = .ok m') : CI c0 m' where
  nodup := CoinMap.Nodup_removeCoin h.nodup hr
  dom0 := by
    intro y
    rw [CoinMap.getCoin_removeCoin hr]
    split
    · next e => injection e with _ e2; cases e2
    · exact h.dom0 y

/-- what holds of the state all through the sealing of a block that started with coin map `c0`, height `H` and
    network `N` (no assumption about the pools or the transactions) -/
structure WInv (c0 : CoinMap) (H : Nat) (N : NetID) (st : State) : Prop where
  height : st.height = H
  network : st.network = N
  coins : CI c0 st.coins

theorem CI.request0 {c0 m : CoinMap} (hi : CI c0 m) {tx : Tx}
    (h : (m.getCoin (outCoinID tx 0)).isSome = true) : (c0.getCoin ⟨tx.hash, 0⟩).isSome = true := by
  rw [← hi.dom0]; exact h

/-- every step of Melmint keeps `WInv`: a request's coin at index 0 is overwritten, never created; its coin at
    index 1 may come or go -/
theorem winv_closed (env : Env) (c0 : CoinMap) (H : Nat) (N : NetID) : MelmintClosed env (WInv c0 H N) where
  builtins hi := ⟨hi.height, hi.network, hi.coins⟩
  swap h0 hi _ h := by
    obtain ⟨_, _, _, _, coins, _, _, hfold, rfl⟩ := processSwapsForPool_inv h
    refine ⟨hi.height, hi.network, Outcome.foldlM'_inv_mem (CI c0) _ _ ?_ _ _ hi.coins hfold⟩
    intro b tx b' htx hb hf
    obtain ⟨cd, _, hf⟩ := Outcome.bind_eq_ok.mp hf
    cases hf
    have hsel := (List.mem_filter.mp (mem_transactionsForPool htx)).2
    obtain ⟨_, _, _, _, _, _, hc, _⟩ := isSwapRequest_iff.mp hsel
    exact hb.insert0 (h0.coins.request0 hc) _ _
  deposit h0 hi _ h := by
    obtain ⟨_, _, _, ⟨_, rfl⟩ | ⟨_, coins, hfold, rfl⟩⟩ := processDepositsForPool_inv h
    · exact hi
    refine ⟨hi.height, hi.network, Outcome.foldlM'_inv_mem (CI c0) _ _ ?_ _ _ hi.coins hfold⟩
    intro b tx b' htx hb hf
    obtain ⟨v, _, hf⟩ := Outcome.bind_eq_ok.mp hf
    have hsel := (List.mem_filter.mp (mem_transactionsForPool htx)).2
    obtain ⟨_, _, _, _, _, _, _, _, hc, _⟩ := isDepositRequest_iff.mp hsel
    dsimp only at hf
    split at hf
    · cases hf; exact hb.insert0 (h0.coins.request0 hc) _ _
    · exact CI.remove1 (hb.insert0 (h0.coins.request0 hc) _ _) hf
  withdraw h0 hi _ h := by
    obtain ⟨_, _, ⟨_, rfl⟩ | ⟨_, _, _, _, coins, _, hfold, rfl⟩⟩ := processWithdrawalsForPool_inv h
    · exact hi
    refine ⟨hi.height, hi.network, Outcome.foldlM'_inv_mem (CI c0) _ _ ?_ _ _ hi.coins hfold⟩
    intro b tx b' htx hb hf
    obtain ⟨vl, _, hf⟩ := Outcome.bind_eq_ok.mp hf
    obtain ⟨vr, _, hf⟩ := Outcome.bind_eq_ok.mp hf
    cases hf
    have hsel := (List.mem_filter.mp (mem_transactionsForPool htx)).2
    obtain ⟨_, _, _, _, _, hc, _⟩ := isWithdrawRequest_iff.mp hsel
    exact (hb.insert0 (h0.coins.request0 hc) _ _).insert1 _ _ _
  peg hi h := by
    obtain ⟨_, rfl⟩ := processPegging_state h
    exact ⟨hi.height, hi.network, hi.coins⟩

theorem sealPre_winv {env : Env} {s s2 : State} (hk : s.coins.Nodup) (h : sealPre env s = .ok s2) :
    WInv s.coins s.height s.network s2 := by
  refine sealPre_induct (winv_closed env _ _ _) (fun hi h => ?_) h ⟨rfl, rfl, CI.refl hk⟩
  obtain ⟨_, _, _, rfl⟩ := applyTip909_state h
  exact ⟨hi.height, hi.network, hi.coins⟩

theorem fresh_of_winv {c0 : CoinMap} {H : Nat} {N : NetID} {st : State} (hi : WInv c0 H N st) {x : Hash}
    (hf : c0.getCoin ⟨x, 0⟩ = none) : st.coins.getCoin ⟨x, 0⟩ = none := by
  have := hi.coins.dom0 x
  rw [hf] at this
  exact Option.isSome_eq_false_iff.mp this |> Option.isNone_iff_eq_none.mp

/-- what sealing (before the proposer action) may add to the supply of `d`, beyond the builtin pools -/
def midPart (s : State) (d : Denom) : Nat :=
  pegPart s d + (if s.tip909 = true then subsidyPart s d else 0)

/-- Sealing, for every denomination: `d` is either no canonical pool's token, or the token of `k` only. What
    exists of `d`, less the liquidity `k` records when `d` is `k`'s token, grows by no more than the builtin pools
    (made before the settlement, and again after it), the peg adjustment and the subsidy. For a `d` that is no
    pool's token this is conservation up to the allowances (C01); for `k`'s token all allowances vanish and it
    says that `k` stays backed (C16). The reward coin's slot need not be free: a coin the reward overwrites only
    disappears. -/
theorem seal_potential {env : Env} {s : State} {a : Option ProposerAction} {ss : Sealed}
    (h : sealState env s a = .ok ss) (hp : SealPre s) (hl : legacyDeposit s = false) (d : Denom) (k : PoolKey)
    (hdk : ∀ k', canonicalPoolKey k'.toBytes = some k' → liqTokenDenom env k' = d → k' = k) :
    supply ss.st d + (if liqTokenDenom env k = d then BackL.liqsAt s.pools k else 0) ≤
      supply (createBuiltins s) d + builtinsCreated (settled env s) d + midPart s d +
        (if liqTokenDenom env k = d then BackL.liqsAt ss.st.pools k else 0) := by
  obtain ⟨s2, h2, _, h3⟩ := sealState_eq_ok_iff.mp h
  obtain ⟨s1, h1, _, h2⟩ := sealPre_eq_ok_iff.mp h2
  obtain ⟨s3, hset, hpeg⟩ := presealMelmint_settle h1
  -- settlement
  obtain ⟨g, l⟩ := settle_chain hset (createBuiltins_sealPre s hp) hl d k hdk
  have q0 := ite_le_ite (P := liqTokenDenom env k = d) ((BackL.createBuiltins_back s [] hp.poolKeys).2.2 k)
  have le0 : supply s3 d + (if liqTokenDenom env k = d then BackL.liqsAt (createBuiltins s).pools k else 0) ≤
      supply (createBuiltins s) d + (if liqTokenDenom env k = d then BackL.liqsAt s3.pools k else 0) := by
    unfold BackL.Step cp at l
    unfold supply
    rw [g.feePool, g.tips]
    omega
  -- the builtin pools again, pegging
  have le1 := C01_builtins_sharp s3 d g.poolKeys
  have q3 := ite_le_ite (P := liqTokenDenom env k = d) ((BackL.createBuiltins_back s3 [] g.poolKeys).2.2 k)
  have hk3 := createBuiltins_keys_nodup s3 g.poolKeys
  have le2 := pegging_supply (createBuiltins s3) s1 hpeg hk3 d
  have n1 := BackL.processPegging_back hpeg hk3 []
  have f1 := presealMelmint_frame h1
  rw [show pegPart (createBuiltins s3) d = pegPart s d by
    unfold pegPart throttlerOf; rw [((processPegging_frame hpeg).tip902).symm.trans f1.tip902]] at le2
  rw [settled_eq hset]
  -- subsidy
  have le3 : supply s2 d ≤ supply s1 d + (if s.tip909 = true then subsidyPart s d else 0) ∧
      BackL.liqsAt s2.pools k = BackL.liqsAt s1.pools k ∧ s2.coins.Nodup := by
    have c1 : s1.coins.Nodup := by rw [n1.coins]; exact g.coinKeys
    rw [f1.tip909] at h2
    split at h2
    · next h9 =>
      have n2 := BackL.applyTip909_back h2 n1.poolKeys []
      have := tip909_supply s1 s2 h2 n1.poolKeys d
      rw [show subsidyPart s1 d = subsidyPart s d by unfold subsidyPart; rw [f1.height]] at this
      exact ⟨by rw [if_pos h9]; exact this, n2.liqs k, by rw [n2.coins]; exact c1⟩
    · next h9 => cases h2; exact ⟨by rw [if_neg h9]; exact Nat.le_refl _, rfl, c1⟩
  -- the proposer action
  have le4 : supply ss.st d ≤ supply s2 d ∧ ss.st.pools = s2.pools := by
    cases a with
    | none => rw [h3]; exact ⟨Nat.le_refl _, rfl⟩
    | some act => exact ⟨reward_supply_le h3 le3.2.2 d, by rw [(applyProposerAction_eq_ok_iff.mp h3).2]⟩
  rw [le4.2, le3.2.1, n1.liqs k]
  unfold midPart
  omega

theorem seal_sharp (env : Env) (s : State) (a : Option ProposerAction) (ss : Sealed)
    (h : sealState env s a = .ok ss) (hp : SealPre s) (hl : legacyDeposit s = false)
    (d : Denom) (hd : ∀ k : PoolKey, d ≠ liqTokenDenom env k) :
    supply ss.st d ≤ supply (createBuiltins s) d + builtinsCreated (settled env s) d + midPart s d := by
  have := seal_potential h hp hl d poolMelSym (fun k' _ e => absurd e.symm (hd k'))
  rwa [if_neg (fun e => hd _ e.symm), if_neg (fun e => hd _ e.symm)] at this

/-- the reward coin's slot is still free after the subsidy (`sealPre_winv`), so the reward only moves MEL out of the fee
    pool and the tips -/
theorem seal_action {env : Env} {s s2 : State} {a : Option ProposerAction} {ss : Sealed}
    (h : sealState env s a = .ok ss) (h2 : sealPre env s = .ok s2) (hk : s.coins.Nodup)
    (hfresh : s.coins.getCoin { txhash := env.rewardId s.height, index := 0 } = none) (d : Denom) :
    supply ss.st d = supply s2 d := by
  obtain ⟨s2', h2', _, h3⟩ := sealState_eq_ok_iff.mp h
  cases Outcome.ok.inj (h2'.symm.trans h2)
  have hi := sealPre_winv hk h2
  cases a with
  | none => rw [h3]
  | some act =>
    have hf : s2.coins.getCoin { txhash := env.rewardId s2.height, index := 0 } = none := by
      rw [hi.height]; exact fresh_of_winv hi hfresh
    exact C01_reward env _ ss.st act h3 hi.coins.nodup hf d

theorem midPart_eq (s : State) (d : Denom) :
    midPart s d =
      (if d = .mel ∨ d = .sym then U128_MAX / (if s.tip902 then THROTTLER_902 else THROTTLER_PRE) else 0) +
      (if d = .sym ∧ s.tip909 = true then
        2 ^ SUBSIDY_LOG2 / 2 ^ ((s.height - TIP_909_HEIGHT) / SUBSIDY_HALVING) else 0) := by
  unfold midPart pegPart subsidyPart throttlerOf tip909Reward
  by_cases h9 : s.tip909 = true <;> by_cases hs : d = .sym <;> simp [h9, hs]

theorem midPart_zero (s : State) (d : Denom) (hmel : d ≠ .mel) (hsym : d ≠ .sym) : midPart s d = 0 := by
  rw [midPart_eq]
  simp [hmel, hsym]

/-! ### a concrete witness: a MEL/SYM pool and one swap request, sealed without an action -/

namespace Witness

def env : Env := {
  vm := { hash := id, sigOk := fun _ _ _ => true },
  liqHash := id, fdp := fun h => 9 :: h, rewardId := fun _ => [], hdrHash := fun _ => [],
  powOk := fun _ _ _ _ => .invalid, isGrandfathered := fun _ => false,
  historyRoot := fun _ => [], coinsRoot := fun _ => [], txsRoot := fun _ _ => [],
  poolsRoot := fun _ => [], stakesRoot := fun _ => [] }

/-- a swap of 100 MEL against the MEL/SYM pool (`[115]` spells the pool's name) -/
def swapTx : Tx := {
  kind := .swap, inputs := [], outputs := [(⟨[7], 100, .mel, []⟩ : CoinData)], fee := 0,
  covenants := [], data := [115], sigs := [], hash := [2], rawLen := 0, covHashes := [] }

def st : State := {
  network := .custom02, height := 10, history := [],
  coins := { coins := [(⟨[2], 0⟩, ⟨⟨[7], 100, .mel, []⟩, 10⟩)], counts := [([7], 1)] },
  txs := [swapTx], feePool := 0, feeMultiplier := 0, tips := 0, doscSpeed := 0,
  pools := [(poolMelSym, ⟨1000, 1000, 0, 1000⟩)], stakes := [] }

theorem isRequest : isSwapRequest st swapTx = true := by decide

theorem sealPre_st : SealPre st := by
  refine ⟨?_, ?_, ?_, ?_, ?_⟩
  · show ([⟨[2], 0⟩] : List CoinID).Nodup
    decide
  · show ([poolMelSym] : List PoolKey).Nodup
    decide
  · show ([[2]] : List Hash).Nodup
    decide
  · intro tx htx i o c ho hc
    simp only [st, List.mem_cons, List.not_mem_nil, or_false] at htx
    subst htx
    match i with
    | 0 =>
      simp only [swapTx, List.getElem?_cons_zero, Option.some.injEq] at ho
      subst ho
      have : c = ⟨⟨[7], 100, .mel, []⟩, 10⟩ := by
        have h2 : st.coins.getCoin ⟨swapTx.hash, 0⟩ = some ⟨⟨[7], 100, .mel, []⟩, 10⟩ := rfl
        rw [h2] at hc; exact (Option.some.inj hc).symm
      subst this
      exact ⟨rfl, rfl⟩
    | n + 1 => simp [swapTx] at ho
  · intro d
    refine Nat.le_trans (coinsTotal_le_sum _ d) ?_
    simp only [st, List.map_cons, List.map_nil, List.sum_cons, List.sum_nil]
    decide

theorem seals : (sealState env st none).isOk = true := by decide +kernel

end Witness

end WholeL
end Mel

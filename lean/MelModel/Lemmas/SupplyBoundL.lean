/-
  For Props/C09Supply.lean: totality (C09) under a per-denomination supply bound.

  Seal part: `sealState_ok_of_bounds` (Lemmas/TotalSeal.lean) asks for bounds on what the requests a phase selects
  pay into the MEL/SYM pool; `inflow_le` bounds `swapMelIn + depMelIn` by the MEL held in coins.

  Apply part.  `applyBatch_noCrash_d` (Lemmas/Total.lean) asks that the amounts fit per denomination;
  `outAll_le_of_wellFormed` bounds what one well-formed transaction creates.
-/
import MelModel.SupplyDefs
import MelModel.Lemmas.ReachSealL
import MelModel.Lemmas.SupplySeal
import MelModel.Lemmas.Supply
import MelModel.Props.C01Seal
namespace Mel
namespace SupplyBoundL
open Mel.Gen Mel.SettleBlockL

/-- the MEL the swap requests selected in `st0` pay into the MEL/SYM pool (before saturation) -/
def swapMelIn (st0 : State) : Nat :=
  ((transactionsForPool (st0.txs.filter (isSwapRequest st0)) poolMelSym).map fun tx =>
    if (tx.outputs.headD default).denom = .mel then (tx.outputs.headD default).value else 0).sum

/-- the MEL the deposit requests selected in `st0` pay into the MEL/SYM pool (before saturation) -/
def depMelIn (st0 : State) : Nat :=
  ((transactionsForPool (st0.txs.filter (isDepositRequest st0)) poolMelSym).map fun tx =>
    (tx.outputs.headD default).value).sum

theorem swapTL_le_swapMelIn (st0 : State) : swapTL poolMelSym (swapReqs st0 poolMelSym) ≤ swapMelIn st0 := by
  unfold swapTL swapMelIn swapReqs
  rw [poolMelSym_left]
  exact satSum_le_sum _

theorem depTL_le_depMelIn (st0 : State) : depTL (depReqs st0 poolMelSym) ≤ depMelIn st0 :=
  satSum_le_sum _

/-- the selected requests are distinct transactions of the block (distinct hashes), each backed by its own MEL coin of
    the state being sealed -/
theorem inflow_le {s s1 : State} (hkeys : (s.coins.coins.map (·.1)).Nodup) (hn : (s.txs.map (·.hash)).Nodup)
    (hf : Mel.Faithful s) (h1 : processSwaps (createBuiltins s) = .ok s1) :
    swapMelIn (createBuiltins s) + depMelIn s1 ≤ coinsTotal s.coins .mel := by
  have htxs1 : s1.txs = s.txs := (processSwaps_frame h1).txs
  obtain ⟨swapL, hswapL⟩ : ∃ l, l = swapReqs (createBuiltins s) poolMelSym := ⟨_, rfl⟩
  obtain ⟨depL, hdepL⟩ : ∃ l, l = depReqs s1 poolMelSym := ⟨_, rfl⟩
  have hsw : ∀ tx ∈ swapL, tx ∈ s.txs ∧ isSwapRequest (createBuiltins s) tx = true := by
    intro tx htx
    rw [hswapL] at htx
    exact List.mem_filter.mp (mem_transactionsForPool htx)
  have hdp : ∀ tx ∈ depL, tx ∈ s.txs ∧ isDepositRequest s1 tx = true ∧
      canonicalPoolKey tx.data = some poolMelSym := by
    intro tx htx
    rw [hdepL] at htx
    obtain ⟨h2, h3⟩ := mem_transactionsForPool_iff.mp htx
    obtain ⟨h4, h5⟩ := List.mem_filter.mp h2
    exact ⟨htxs1 ▸ h4, h5, h3⟩
  let w : Tx → Nat := fun tx => cwAt s.coins .mel ⟨tx.hash, 0⟩
  have hA : swapMelIn (createBuiltins s) ≤ (swapL.map w).sum := by
    unfold swapMelIn
    rw [hswapL]
    refine sum_map_le _ _ _ ?_
    intro tx htx
    obtain ⟨hm, hreq⟩ := hsw tx (hswapL ▸ htx)
    obtain ⟨_, k, o, rest, c, _, ho, hc0, hv, hd, _⟩ :=
      BackL.swapRequest_backed (st := createBuiltins s) (hf tx hm) rfl hreq
    have hh : tx.outputs.headD default = o := by rw [ho]; rfl
    show _ ≤ cwAt s.coins .mel ⟨tx.hash, 0⟩
    rw [hh, cwAt_some hc0, cval, hv, hd]
    exact Nat.le_refl _
  have hBd : depMelIn s1 ≤ (depL.map w).sum := by
    unfold depMelIn
    rw [hdepL]
    refine sum_map_le _ _ _ ?_
    intro tx htx
    obtain ⟨hm, hreq, hck⟩ := hdp tx (hdepL ▸ htx)
    have hkd : tx.kind = .liqDeposit := (isDepositRequest_iff.mp hreq).1
    obtain ⟨_, k, o0, o1, rest, c0, c1, hck', ho, hc0, hv0, hd0, _⟩ := BackL.depositRequest_backed (hf tx hm)
      (processSwaps_keeps_others h1 hn tx hm (by rw [hkd]; decide)) hreq
    cases hck.symm.trans hck'
    have hh : tx.outputs.headD default = o0 := by rw [ho]; rfl
    show _ ≤ cwAt s.coins .mel ⟨tx.hash, 0⟩
    rw [hh, cwAt_some hc0, cval, hv0, hd0, poolMelSym_left, if_pos rfl]
    exact Nat.le_refl _
  have hhash : ((swapL ++ depL).map (·.hash)).Nodup := by
    rw [List.map_append, List.nodup_append]
    refine ⟨?_, ?_, ?_⟩
    · rw [hswapL]; exact transactionsForPool_nodup (nodup_map_filter _ _ hn) _
    · rw [hdepL, depReqs, htxs1]; exact transactionsForPool_nodup (nodup_map_filter _ _ hn) _
    · intro a ha b hb e
      obtain ⟨t1, ht1, rfl⟩ := List.mem_map.mp ha
      obtain ⟨t2, ht2, rfl⟩ := List.mem_map.mp hb
      obtain ⟨m1, r1⟩ := hsw t1 ht1
      obtain ⟨m2, r2, _⟩ := hdp t2 ht2
      have hk1 : t1.kind = .swap := (isSwapRequest_iff.mp r1).1
      have hk2 : t2.kind = .liqDeposit := (isDepositRequest_iff.mp r2).1
      rw [eq_of_nodup_map _ hn m1 m2 e, hk2] at hk1
      cases hk1
  have hC := sum_values_le s.coins hkeys .mel (swapL ++ depL) 0 w hhash (fun _ _ => Nat.le_refl _)
  rw [List.map_append, List.sum_append] at hC
  omega

theorem melSym_reserve_le_poolsTotal {pools : AList PoolKey PoolState} {p : PoolState}
    (h : pools.get poolMelSym = some p) : p.lefts ≤ poolsTotal pools .mel := by
  have hm := AList.mem_of_get_eq_some h
  unfold poolsTotal
  refine Nat.le_trans ?_ (le_sum_of_mem (List.mem_map.mpr ⟨_, hm, rfl⟩))
  simp only [poolMelSym_left, if_true]
  omega

theorem supply_mel_split (s : State) :
    supply s .mel = coinsTotal s.coins .mel + poolsTotal s.pools .mel + (s.feePool + s.tips) := by
  unfold supply
  rw [if_pos rfl]

/-- a MEL supply of at most `S`: coins `C`, the reserve `R` of MEL/SYM within all reserves `P`, fee pool `F`, tips `T`;
    the requests pay in `V1 + V2 ≤ C` -/
theorem supply_bounds_fit {S C P R F T V1 V2 X Y : Nat} (hS : C + P + (F + T) ≤ S) (hR : R ≤ P) (hV : V1 + V2 ≤ C)
    (hcap : S + X + Y ≤ U128_MAX) :
    F + (R + X + V1 + V2 + Y) ≤ U128_MAX ∧ (F + (R + X + V1 + V2 + Y)) / 65536 + T ≤ U128_MAX := by
  have := Nat.div_le_self (F + (R + X + V1 + V2 + Y)) 65536
  omega

/-- `S` bounds the MEL supply of the state, `2^125` the reserve of a builtin pool made afresh, `U128_MAX / 200` the peg
    adjustment -/
theorem sealState_ok_supply (env : Env) (s : State) (action : Option ProposerAction) (S : Nat)
    (hcounts : s.tip906 = true → CountsOk s.coins)
    (hfaith : TotalSealL.Faithful s.txs s.coins)
    (hn : (s.txs.map (·.hash)).Nodup)
    (hsane : ∀ k p, s.pools.get k = some p → (p.liqs ≠ 0 → 0 < p.lefts ∧ 0 < p.rights))
    (hkeys : (s.coins.coins.map (·.1)).Nodup)
    (hf : Mel.Faithful s)
    (hS : supply s .mel ≤ S)
    (hcap : S + 2 ^ 125 + U128_MAX / 200 ≤ U128_MAX)
    (hh : s.height < TIP_909_HEIGHT + 128 * SUBSIDY_HALVING) :
    ∃ ss, sealState env s action = .ok ss ∧ PoolsOk s.tip902 ss.st.pools := by
  rw [supply_mel_split] at hS
  obtain ⟨s1, h1⟩ := processSwaps_total (createBuiltins s)
  have hin := inflow_le hkeys hn hf h1
  obtain ⟨R, hR1, hR2⟩ : ∃ R, (∀ p, s.pools.get poolMelSym = some p → p.lefts ≤ R) ∧
      R ≤ poolsTotal s.pools .mel := by
    cases hg : s.pools.get poolMelSym with
    | none => exact ⟨0, fun p hp => (by cases hp), Nat.zero_le _⟩
    | some q =>
      exact ⟨q.lefts, fun p hp => (by cases hp; exact Nat.le_refl _), melSym_reserve_le_poolsTotal hg⟩
  obtain ⟨hfee, hrew⟩ := supply_bounds_fit hS hR2 hin hcap
  exact sealState_ok_of_bounds env s action (R + 2 ^ 125) (swapMelIn (createBuiltins s)) (depMelIn s1) hcounts hfaith
    hn hsane (Nat.le_add_left _ _) (fun p hp => Nat.le_trans (hR1 p hp) (Nat.le_add_right _ _))
    (swapTL_le_swapMelIn _)
    (fun s1' h1' => by cases Outcome.ok.inj (h1'.symm.trans h1); exact depTL_le_depMelIn _) hfee hrew hh

theorem outAll_le_of_wellFormed {tx : Tx} (h : tx.isWellFormed = true) (d : Denom) :
    outAll tx d ≤ 255 * MAX_COINVAL := by
  simp only [Tx.isWellFormed, Bool.and_eq_true, decide_eq_true_eq, List.all_eq_true] at h
  obtain ⟨⟨h1, _⟩, h3⟩ := h
  have key : ∀ l : List CoinData, (∀ o ∈ l, o.value ≤ MAX_COINVAL) →
      (l.map (outVal tx d)).sum ≤ l.length * MAX_COINVAL := by
    intro l
    induction l with
    | nil => intro _; simp
    | cons o rest ih =>
      intro hl
      have h4 := hl o List.mem_cons_self
      have h5 := ih (fun x hx => hl x (List.mem_cons_of_mem _ hx))
      have h6 : outVal tx d o ≤ MAX_COINVAL := by
        unfold outVal
        split
        · exact h4
        · exact Nat.zero_le _
      simp only [List.map_cons, List.sum_cons, List.length_cons, Nat.add_mul, Nat.one_mul]
      omega
  refine Nat.le_trans (key tx.outputs h1) (Nat.mul_le_mul_right _ h3)

end SupplyBoundL
end Mel

/-
  Runs with their events exposed, for Props/C17Hist.lean, Props/C19Hist.lean, Props/C04Hist.lean and
  Props/C14Hist.lean.

  `RunTrace env s tr s'` is `ChainRun env s s'` (Props/C13Life.lean) with the list of events of the run exposed:
  every accepted batch (its transactions and the fallback header passed) and every block seal (the proposer action,
  or `none`), oldest first.  `BatchRun env s u` is a run made of accepted batches only — the life of one block.
-/
import MelModel.Chain
import MelModel.Props.C13Life
import MelModel.Lemmas.SeqL
import MelModel.Lemmas.FeeHistL
import MelModel.Lemmas.FeeMult
import MelModel.Lemmas.ChainL
namespace Mel
open Mel.Gen

inductive Event where
  | batch (txs : List Tx) (fb : Header)
  | block (a : Option ProposerAction)

/-- `ChainStep` with the event exposed -/
inductive EvStep (env : Env) : State → Event → State → Prop
  | batch {s s' : State} {txs : List Tx} {fb : Header} :
      applyBatch env s txs fb = .ok s' → EvStep env s (.batch txs fb) s'
  | block {s s' : State} {ss : Sealed} {a : Option ProposerAction} :
      sealState env s a = .ok ss → nextUnsealed env ss = .ok s' → EvStep env s (.block a) s'

/-- `ChainRun` with the events exposed, oldest first -/
inductive RunTrace (env : Env) : State → List Event → State → Prop
  | refl (s : State) : RunTrace env s [] s
  | step {s m s' : State} {tr : List Event} {e : Event} :
      RunTrace env s tr m → EvStep env m e s' → RunTrace env s (tr ++ [e]) s'

/-- any number of accepted batches, no seal: what happens to a block between its opening and its sealing -/
inductive BatchRun (env : Env) : State → State → Prop
  | refl (s : State) : BatchRun env s s
  | step {s m s' : State} {txs : List Tx} {fb : Header} :
      BatchRun env s m → applyBatch env m txs fb = .ok s' → BatchRun env s s'

/-- the proposer's multiplier delta is an `i8` (it is one by typing in the implementation; the model's
    `ProposerAction.feeMultiplierDelta` is an unbounded integer) -/
def DeltaIsI8 (a : Option ProposerAction) : Prop :=
  ∀ act, a = some act → -128 ≤ act.feeMultiplierDelta ∧ act.feeMultiplierDelta ≤ 127

namespace MiscHistL

theorem EvStep.toStep {env : Env} {s s' : State} {e : Event} (h : EvStep env s e s') : ChainStep env s s' := by
  cases h with
  | batch hb => exact .batch hb
  | block h1 h2 => exact .block h1 h2

theorem chainRun_trans {env : Env} {a b c : State} (h1 : ChainRun env a b) (h2 : ChainRun env b c) :
    ChainRun env a c := by
  induction h2 with
  | refl => exact h1
  | step _ hs ih => exact .step ih hs

theorem RunTrace.toRun {env : Env} {s s' : State} {tr : List Event} (h : RunTrace env s tr s') :
    ChainRun env s s' := by
  induction h with
  | refl => exact .refl _
  | step _ hs ih => exact .step ih (EvStep.toStep hs)

theorem ChainRun.toTrace {env : Env} {s s' : State} (h : ChainRun env s s') : ∃ tr, RunTrace env s tr s' := by
  induction h with
  | refl => exact ⟨[], .refl _⟩
  | step _ hs ih =>
    obtain ⟨tr, htr⟩ := ih
    cases hs with
    | batch hb => exact ⟨_, .step htr (.batch hb)⟩
    | block h1 h2 => exact ⟨_, .step htr (.block h1 h2)⟩

theorem RunTrace.mem_split {env : Env} {s s' : State} {tr : List Event} (h : RunTrace env s tr s')
    {e : Event} (he : e ∈ tr) : ∃ m m', ChainRun env s m ∧ EvStep env m e m' ∧ ChainRun env m' s' := by
  induction h with
  | refl => cases he
  | @step m s' tr e0 hr hs ih =>
    rcases List.mem_append.mp he with he | he
    · obtain ⟨x, x', h1, h2, h3⟩ := ih he
      exact ⟨x, x', h1, h2, .step h3 (EvStep.toStep hs)⟩
    · simp only [List.mem_cons, List.not_mem_nil, or_false] at he
      subst he
      exact ⟨m, s', RunTrace.toRun hr, hs, .refl _⟩

theorem BatchRun.toRun {env : Env} {s u : State} (h : BatchRun env s u) : ChainRun env s u := by
  induction h with
  | refl => exact .refl _
  | step _ hb ih => exact .step ih (.batch hb)

theorem next_fm {env : Env} {ss : Sealed} {s' : State} (h : nextUnsealed env ss = .ok s') :
    s'.feeMultiplier = ss.st.feeMultiplier :=
  (FeeHistL.nextUnsealed_fee h).2.2

theorem batchRun_keeps {env : Env} {s u : State} (h : BatchRun env s u) :
    u.feeMultiplier = s.feeMultiplier ∧ u.height = s.height ∧ u.network = s.network ∧ u.history = s.history := by
  induction h with
  | refl => exact ⟨rfl, rfl, rfl, rfl⟩
  | step _ hb ih =>
    have f := applyBatch_frame hb
    obtain ⟨i1, i2, i3, i4⟩ := ih
    exact ⟨f.feeMultiplier.trans i1, f.height.trans i2, f.network.trans i3, f.history.trans i4⟩

theorem next_stakes {env : Env} {ss : Sealed} {s' : State} (h : nextUnsealed env ss = .ok s') :
    s'.stakes = ss.st.stakes.unlockOld ((ss.st.height + 1) / STAKE_EPOCH) := by
  obtain ⟨hdr, c, -, e, -⟩ := nextUnsealed_shape h
  exact (congrArg State.stakes e :)

theorem next_keys_nodup {env : Env} {ss : Sealed} {s' : State} (h : nextUnsealed env ss = .ok s')
    (hu : (ss.st.stakes.map (·.1)).Nodup) : (s'.stakes.map (·.1)).Nodup := by
  rw [next_stakes h]
  exact List.Nodup.sublist (List.Sublist.map _ List.filter_sublist) hu

theorem move_le_u128 (m : Nat) (δ : Int) (b : Bool) (hm : m ≤ U128_MAX) : moveFeeMultiplier m δ b ≤ U128_MAX := by
  rw [moveFeeMultiplier_eq]
  split
  · exact Nat.min_le_right _ _
  · exact Nat.le_trans (Nat.sub_le _ _) hm

theorem votes_filter (st : StakeSet) (epoch : Nat) (key : Bytes) (p : Hash × StakeDoc → Bool)
    (hp : ∀ e ∈ st, p e = false → StakeSet.active epoch e.2 = false) :
    st.votes epoch key = StakeSet.votes (st.filter p) epoch key := by
  unfold StakeSet.votes
  rw [List.filter_filter]
  congr 2
  apply List.filter_congr
  intro e he
  cases hpe : p e with
  | true => simp
  | false => simp [hp e he hpe]

theorem totalVotes_filter (st : StakeSet) (epoch : Nat) (p : Hash × StakeDoc → Bool)
    (hp : ∀ e ∈ st, p e = false → StakeSet.active epoch e.2 = false) :
    st.totalVotes epoch = StakeSet.totalVotes (st.filter p) epoch := by
  unfold StakeSet.totalVotes
  rw [List.filter_filter]
  congr 2
  apply List.filter_congr
  intro e he
  cases hpe : p e with
  | true => simp
  | false => simp [hp e he hpe]

theorem votes_del_inactive (st : StakeSet) (hn : (st.map (·.1)).Nodup) (k : Hash) (d : StakeDoc)
    (hg : st.getStake k = some d) (epoch : Nat) (hina : StakeSet.active epoch d = false) :
    (∀ key, st.votes epoch key = StakeSet.votes (AList.del st k) epoch key) ∧
    st.totalVotes epoch = StakeSet.totalVotes (AList.del st k) epoch := by
  have hp : ∀ e ∈ st, (decide (e.1 ≠ k)) = false → StakeSet.active epoch e.2 = false := by
    intro e he hpe
    have hek : e.1 = k := by simpa using hpe
    have hge : AList.get st e.1 = some e.2 := AList.get_eq_some_of_mem hn (by cases e; exact he)
    rw [hek] at hge
    have : e.2 = d := Option.some.inj (hge.symm.trans hg)
    rw [this]; exact hina
  exact ⟨fun key => votes_filter st epoch key _ hp, totalVotes_filter st epoch _ hp⟩

end MiscHistL
end Mel

/- the fee-multiplier move in one normal form (`moveFeeMultiplier_k`); the code before the fix for F7
   (`moveFeeMultiplierOld`): where it agrees with the repaired code, and where it overflows -/
import MelModel.Seal
import MelModel.Lemmas.OutcomeL
namespace Mel
open Mel.Gen

/-- the largest movement allowed in one block: 1/128 of the multiplier, at least 2 once TIP-901 -/
def maxMove (m : Nat) (tip901 : Bool) : Nat := if tip901 then max (m / 128) 2 else m / 128

/-- the specified step: `trunc(maxMove × δ / 128)` (truncation toward zero) -/
def specStep (m : Nat) (δ : Int) (tip901 : Bool) : Int := Int.tdiv ((maxMove m tip901 : Int) * δ) 128

/-- `moveFeeMultiplier` with the generated constants evaluated (breaks if a constant changes) -/
theorem moveFeeMultiplier_eq (m : Nat) (δ : Int) (tip901 : Bool) :
    moveFeeMultiplier m δ tip901 =
      if δ ≥ 0 then min (m + maxMove m tip901 * δ.natAbs / 128) U128_MAX
      else m - maxMove m tip901 * δ.natAbs / 128 := by
  simp [moveFeeMultiplier, maxMove, satAdd128, FEEMULT_SHIFT, FEEMULT_FLOOR, FEEMULT_DIV]

theorem tdiv_mul_of_nonneg (mm : Nat) (δ : Int) (h : 0 ≤ δ) :
    Int.tdiv ((mm : Int) * δ) 128 = ((mm * δ.natAbs / 128 : Nat) : Int) := by
  obtain ⟨d, rfl⟩ := Int.eq_ofNat_of_zero_le h
  rw [← Int.natCast_mul, Int.natCast_tdiv_eq_ediv, Int.natAbs_natCast]
  exact (Int.natCast_ediv _ _).symm

theorem tdiv_mul_of_neg (mm : Nat) (δ : Int) (h : δ < 0) :
    Int.tdiv ((mm : Int) * δ) 128 = -((mm * δ.natAbs / 128 : Nat) : Int) := by
  have h' : 0 ≤ -δ := by omega
  have := tdiv_mul_of_nonneg mm (-δ) h'
  rw [Int.mul_neg, Int.neg_tdiv, Int.natAbs_neg] at this
  omega

theorem scaled_le (mm d : Nat) (hd : d ≤ 128) : mm * d / 128 ≤ mm := by
  have : mm * d ≤ mm * 128 := Nat.mul_le_mul_left mm hd
  omega

theorem natAbs_le_128 (δ : Int) (hδ : -128 ≤ δ ∧ δ ≤ 127) : δ.natAbs ≤ 128 := by omega

theorem maxMove_le (m : Nat) (tip901 : Bool) : maxMove m tip901 ≤ max (m / 128) 2 := by
  unfold maxMove; split <;> omega

theorem maxMove_range_fits {m : Nat} (hm : m ≤ 2 ^ 127) : m + max (m / 128) 2 ≤ U128_MAX := by
  have : (2 : Nat) ^ 127 + 2 ^ 127 / 128 + 2 ≤ U128_MAX := by decide
  omega

/-- the move in one normal form: the multiplier goes up (saturating) or down (stopping at 0) by an amount
    `k ≤ maxMove`, and the specified step is `k` with the sign of `δ` -/
theorem moveFeeMultiplier_k (m : Nat) (δ : Int) (tip901 : Bool) (hδ : -128 ≤ δ ∧ δ ≤ 127) :
    ∃ k, k ≤ maxMove m tip901 ∧
      specStep m δ tip901 = (if 0 ≤ δ then (k : Int) else -(k : Int)) ∧
      moveFeeMultiplier m δ tip901 = if 0 ≤ δ then min (m + k) U128_MAX else m - k := by
  refine ⟨maxMove m tip901 * δ.natAbs / 128, scaled_le _ _ (natAbs_le_128 δ hδ), ?_, moveFeeMultiplier_eq m δ tip901⟩
  unfold specStep
  split
  · next h => exact tdiv_mul_of_nonneg _ _ h
  · next h => exact tdiv_mul_of_neg _ _ (by omega)

theorem move_fits {m k : Nat} {tip901 : Bool} (h2 : 2 ≤ m) (hm : m ≤ 2 ^ 127) (hk : k ≤ maxMove m tip901) :
    k ≤ m ∧ m + k ≤ U128_MAX :=
  have hk' := Nat.le_trans hk (maxMove_le m tip901)
  ⟨Nat.le_trans hk' (Nat.max_le.mpr ⟨Nat.div_le_self _ _, h2⟩),
    Nat.le_trans (Nat.add_le_add_left hk' _) (maxMove_range_fits hm)⟩

theorem move_clamped {m k U : Nat} (c : Prop) [Decidable c] (hm : m ≤ U) :
    ((if c then min (m + k) U else m - k : Nat) : Int) =
      max 0 (min ((m : Int) + (if c then (k : Int) else -(k : Int))) (U : Int)) := by
  split
  · rw [Int.max_eq_right (Int.le_min.mpr ⟨Int.add_nonneg (Int.natCast_nonneg _) (Int.natCast_nonneg _),
      Int.natCast_nonneg _⟩), ← Int.natCast_add]
    rcases Nat.le_total (m + k) U with h | h
    · rw [Nat.min_eq_left h, Int.min_eq_left (Int.ofNat_le.mpr h)]
    · rw [Nat.min_eq_right h, Int.min_eq_right (Int.ofNat_le.mpr h)]
  · rw [Int.min_eq_left (by omega), ← Int.sub_eq_add_neg, ← Int.toNat_sub, Int.toNat_eq_max, Int.max_comm]

theorem move_exact {m k U : Nat} (c : Prop) [Decidable c] (hk : k ≤ m) (hfit : m + k ≤ U) :
    ((if c then min (m + k) U else m - k : Nat) : Int) = (m : Int) + (if c then (k : Int) else -(k : Int)) := by
  split
  · rw [Nat.min_eq_left hfit, Int.natCast_add]
  · rw [Int.natCast_sub hk, Int.sub_eq_add_neg]

theorem move_near {m k M U : Nat} (c : Prop) [Decidable c] (hm : m ≤ U) (hk : k ≤ M) :
    (if c then min (m + k) U else m - k) ≤ U ∧ (if c then min (m + k) U else m - k) ≤ m + M ∧
      m ≤ (if c then min (m + k) U else m - k) + M := by
  split
  · exact ⟨Nat.min_le_right _ _, Nat.le_trans (Nat.min_le_left _ _) (Nat.add_le_add_left hk _),
      Nat.le_trans (Nat.le_min.mpr ⟨Nat.le_add_right _ _, hm⟩) (Nat.le_add_right _ _)⟩
  · exact ⟨Nat.le_trans (Nat.sub_le _ _) hm, Nat.le_trans (Nat.sub_le _ _) (Nat.le_add_right _ _), by omega⟩

/-! ### the code before the fix for F7 -/

/-- `as i64` of a `u128` -/
def asI64 (n : Nat) : Int := if n % 2 ^ 64 < 2 ^ 63 then ((n % 2 ^ 64 : Nat) : Int) else ((n % 2 ^ 64 : Nat) : Int) - 2 ^ 64

/-- the old code from the point where the maximum movement `mm` (an `i64`) has been computed -/
def moveOldFrom (m : Nat) (mm δ : Int) : Option Nat :=
  if mm * δ < -(2 ^ 63) ∨ mm * δ ≥ 2 ^ 63 then none
  else
    if Int.tdiv (mm * δ) 128 ≥ 0 then
      (if m + (Int.tdiv (mm * δ) 128).toNat > U128_MAX then none else some (m + (Int.tdiv (mm * δ) 128).toNat))
    else (if (Int.tdiv (mm * δ) 128).natAbs > m then none else some (m - (Int.tdiv (mm * δ) 128).natAbs))

theorem moveFeeMultiplierOld_eq (m : Nat) (δ : Int) (tip901 : Bool) :
    moveFeeMultiplierOld m δ tip901 =
      moveOldFrom m (if tip901 then max (asI64 (m / 128)) 2 else asI64 (m / 128)) δ := rfl

theorem asI64_of_lt {n : Nat} (h : n < 2 ^ 63) : asI64 n = n := by
  unfold asI64
  have e : n % 2 ^ 64 = n := Nat.mod_eq_of_lt (by omega)
  rw [e, if_pos h]

theorem moveOldFrom_of_fit {m k : Nat} {mm δ : Int} (hlo : -(2 ^ 63) ≤ mm * δ) (hhi : mm * δ < 2 ^ 63)
    (hs : Int.tdiv (mm * δ) 128 = (if 0 ≤ δ then (k : Int) else -(k : Int)))
    (hk : k ≤ m) (hfit : m + k ≤ U128_MAX) :
    moveOldFrom m mm δ = some (if 0 ≤ δ then min (m + k) U128_MAX else m - k) := by
  unfold moveOldFrom
  rw [if_neg (by omega), hs]
  clear hs hlo hhi
  by_cases hd : 0 ≤ δ
  · rw [if_pos hd, if_pos hd, if_pos (Int.natCast_nonneg k), Int.toNat_natCast, if_neg (by omega),
      Nat.min_eq_left hfit]
  · rw [if_neg hd, if_neg hd, Int.natAbs_neg, Int.natAbs_natCast]
    by_cases hk0 : k = 0
    · subst hk0
      rw [if_pos (by omega)]
      show (if m + 0 > U128_MAX then none else some (m + 0)) = some (m - 0)
      rw [if_neg (by omega)]; rfl
    · rw [if_neg (by omega), if_neg (by omega)]

theorem prod_fits_i64 {mm : Nat} {δ : Int} (hmm : mm < 2 ^ 56) (hδ : -128 ≤ δ ∧ δ ≤ 127) :
    -(2 ^ 63) ≤ (mm : Int) * δ ∧ (mm : Int) * δ < 2 ^ 63 := by
  have h1 : (mm : Int) * δ ≤ (mm : Int) * 127 := Int.mul_le_mul_of_nonneg_left hδ.2 (Int.natCast_nonneg _)
  have h2 : (mm : Int) * (-128) ≤ (mm : Int) * δ := Int.mul_le_mul_of_nonneg_left hδ.1 (Int.natCast_nonneg _)
  omega

theorem moveFeeMultiplierOld_agrees (m : Nat) (δ : Int) (tip901 : Bool) (h2 : 2 ≤ m) (hm : m < 2 ^ 63)
    (hδ : -128 ≤ δ ∧ δ ≤ 127) :
    moveFeeMultiplierOld m δ tip901 = some (moveFeeMultiplier m δ tip901) := by
  obtain ⟨k, hk, hspec, hmove⟩ := moveFeeMultiplier_k m δ tip901 hδ
  obtain ⟨hkm, hU⟩ := move_fits h2 (Nat.le_trans (Nat.le_of_lt hm) (by decide)) hk
  have hmm : maxMove m tip901 < 2 ^ 56 :=
    Nat.lt_of_le_of_lt (maxMove_le m tip901) (Nat.max_lt.mpr ⟨Nat.div_lt_of_lt_mul hm, by decide⟩)
  -- the `i64` the old code computes is `maxMove`
  have hI : (if tip901 = true then max (asI64 (m / 128)) 2 else asI64 (m / 128)) = (maxMove m tip901 : Int) := by
    rw [asI64_of_lt (Nat.lt_of_le_of_lt (Nat.div_le_self _ _) hm)]
    unfold maxMove; split
    · omega
    · rfl
  obtain ⟨hlo, hhi⟩ := prod_fits_i64 hmm hδ
  rw [moveFeeMultiplierOld_eq, hI, hmove]
  exact moveOldFrom_of_fit hlo hhi hspec hkm hU

/-- with TIP-901 on, `2^70 >> 7 = 2^63` wraps to `i64::MIN` and is then floored to 2: no panic there -/
theorem moveFeeMultiplierOld_2p70_true : moveFeeMultiplierOld (2 ^ 70) 127 true = some (2 ^ 70 + 1) := by
  decide
/-- i64 overflow witnesses of the pre-fix code -/
theorem moveFeeMultiplierOld_2p64_true : moveFeeMultiplierOld (2 ^ 64) 127 true = none := by decide
theorem moveFeeMultiplierOld_2p70_false : moveFeeMultiplierOld (2 ^ 70) 127 false = none := by decide

def SameFM (s s' : State) : Prop :=
  s'.feeMultiplier = s.feeMultiplier ∧ s'.height = s.height ∧ s'.network = s.network

theorem SameFM.tip901 {s s' : State} (h : SameFM s s') : s'.tip901 = s.tip901 := by
  unfold State.tip901 State.tipCondition; rw [h.2.1, h.2.2]

end Mel

/- helper lemmas for the cost theorems (C11) -/
import MelModel.Lemmas.Exec
namespace Mel.VM
open Mel Mel.Gen

theorem opWeight_pos (op : Op) : 1 ≤ opWeight op := by
  cases op
  case exp k => exact Nat.le_trans (by decide : 1 ≤ wExpBase) (Nat.le_add_right _ _)
  case hash n => exact Nat.le_trans (by decide : 1 ≤ wHashBase) (Nat.le_add_right _ _)
  case sigeok n => exact Nat.le_trans (by decide : 1 ≤ wSigEOkBase) (Nat.le_add_right _ _)
  -- the others are numerals of the generated table
  all_goals exact Nat.le_of_ble_eq_true rfl

theorem weightUF_fuel_indep : ∀ (f1 f2 : Nat) (l : List Op),
    l.length < f1 → l.length < f2 → weightUF f1 l = weightUF f2 l := by
  intro f1
  induction f1 with
  | zero => intro f2 l h; omega
  | succ f1 ih =>
    intro f2 l h1 h2
    cases f2 with
    | zero => omega
    | succ f2 =>
      cases l with
      | nil => simp [weightUF]
      | cons op rest =>
        simp only [List.length_cons] at h1 h2
        simp only [weightUF]
        rw [ih f2 rest (by omega) (by omega)]
        split
        · rename_i it n
          rw [ih f2 (rest.take n.toNat) (by simp only [List.length_take]; omega)
            (by simp only [List.length_take]; omega)]
        · rfl

/-- car weight (`opcodes_car_weight`) in terms of `weightU` -/
def carU (op : Op) (rest : List Op) : Nat :=
  match op with
  | .loop it n => weightU (rest.take n.toNat) * it.toNat + wLoopExtra
  | op => opWeight op

theorem carU_nonloop (op : Op) (rest : List Op) (h : ∀ it n, op ≠ Op.loop it n) :
    carU op rest = opWeight op := by
  unfold carU
  split
  · exact absurd rfl (h _ _)
  · rfl

@[simp] theorem weightU_nil : weightU [] = 0 := by simp [weightU, weightUF]

theorem weightU_cons (op : Op) (rest : List Op) :
    weightU (op :: rest) = carU op rest + weightU rest := by
  unfold weightU
  simp only [List.length_cons, weightUF]
  split
  · rename_i it n
    rw [weightUF_fuel_indep (rest.length + 1) ((rest.take n.toNat).length + 1) (rest.take n.toNat)
      (by simp only [List.length_take]; omega) (by omega)]
    rfl
  · rename_i h
    rw [carU_nonloop _ _ fun it n e => h it n e]

theorem opWeight_le_carU (op : Op) (rest : List Op) : opWeight op ≤ carU op rest := by
  unfold carU
  split
  · exact Nat.le_add_left _ _
  · exact Nat.le_refl _

theorem weightU_drop_le (l : List Op) (k : Nat) : weightU (l.drop k) ≤ weightU l := by
  induction k generalizing l with
  | zero => simp
  | succ k ih =>
    cases l with
    | nil => simp
    | cons op rest =>
      rw [List.drop_succ_cons, weightU_cons]
      exact Nat.le_trans (ih rest) (Nat.le_add_left _ _)

/-- weight of the window `[a, b)` of the program (clipped to the program) -/
def winW (ops : List Op) (a b : Nat) : Nat := weightU ((ops.take b).drop a)

theorem winW_eq_zero (ops : List Op) {a b : Nat} (h : b ≤ a) : winW ops a b = 0 := by
  unfold winW
  rw [List.drop_eq_nil_of_le (by simp only [List.length_take]; omega)]
  exact weightU_nil

theorem winW_anti (ops : List Op) {a a' : Nat} (b : Nat) (h : a ≤ a') :
    winW ops a' b ≤ winW ops a b := by
  unfold winW
  have : (ops.take b).drop a' = ((ops.take b).drop a).drop (a' - a) := by
    rw [List.drop_drop]; congr 1; omega
  rw [this]
  exact weightU_drop_le _ _

theorem winW_clip (ops : List Op) (a b : Nat) : winW ops a (min b ops.length) = winW ops a b := by
  unfold winW
  congr 1
  rw [← List.take_take, List.take_length]

theorem winW_unfold (ops : List Op) {a b : Nat} (hab : a < b) (ha : a < ops.length) :
    winW ops a b = carU ops[a] ((ops.take b).drop (a + 1)) + winW ops (a + 1) b := by
  unfold winW
  have hlen : a < (ops.take b).length := by simp only [List.length_take]; omega
  rw [List.drop_eq_getElem_cons hlen, weightU_cons]
  simp [List.getElem_take]

theorem winW_ge_opWeight (ops : List Op) {a b : Nat} (hab : a < b) (ha : a < ops.length) :
    opWeight ops[a] + winW ops (a + 1) b ≤ winW ops a b := by
  rw [winW_unfold ops hab ha]
  exact Nat.add_le_add_right (opWeight_le_carU ops[a] _) _

theorem winW_loop (ops : List Op) {a b : Nat} (hab : a < b) (ha : a < ops.length)
    {it n : UInt16} (hop : ops[a] = Op.loop it n) :
    winW ops a b =
      winW ops (a + 1) (min (a + 1 + n.toNat) b) * it.toNat + wLoopExtra + winW ops (a + 1) b := by
  rw [winW_unfold ops hab ha, hop]
  simp only [carU, winW]
  rw [List.take_drop, List.take_take]

theorem winW_lt_opWeight (ops : List Op) {a a' b : Nat} (hab : a < b) (ha : a < ops.length)
    (h : a < a') : opWeight ops[a] + winW ops a' b ≤ winW ops a b :=
  Nat.le_trans (Nat.add_le_add_left (winW_anti ops b h) _) (winW_ge_opWeight ops hab ha)

/-- potential of a machine state: an upper bound on the number of steps still to be executed -/
def phi (ops : List Op) (pc : Nat) : List LoopState → Nat
  | [] => winW ops pc ops.length
  | st :: rest =>
    winW ops pc (st.end_ + 1) + st.left * winW ops st.begin_ (st.end_ + 1)
      + phi ops (max pc (st.end_ + 1)) rest

theorem phi_anti (ops : List Op) (loops : List LoopState) {p p' : Nat} (h : p ≤ p') :
    phi ops p' loops ≤ phi ops p loops := by
  induction loops generalizing p p' with
  | nil => exact winW_anti ops _ h
  | cons st rest ih =>
    exact Nat.add_le_add (Nat.add_le_add_right (winW_anti ops (st.end_ + 1) h) _)
      (ih (Nat.max_le.mpr ⟨Nat.le_trans h (Nat.le_max_left _ _), Nat.le_max_right _ _⟩))

theorem phi_lt_opWeight (ops : List Op) (loops : List LoopState) {p p' : Nat} (hp : p < ops.length)
    (h : p < p') : opWeight ops[p] + phi ops p' loops ≤ phi ops p loops := by
  induction loops generalizing p p' with
  | nil => exact winW_lt_opWeight ops hp hp h
  | cons st rest ih =>
    simp only [phi]
    by_cases hpe : p < st.end_ + 1
    · -- inside the frame its window pays
      rw [← Nat.add_assoc, ← Nat.add_assoc]
      exact Nat.add_le_add (Nat.add_le_add_right (winW_lt_opWeight ops hpe hp h) _)
        (phi_anti ops rest (Nat.max_le.mpr ⟨Nat.le_trans (Nat.le_of_lt h) (Nat.le_max_left _ _), Nat.le_max_right _ _⟩))
    · -- past its end the frame contributes the same on both sides
      have hp' : st.end_ + 1 ≤ p' := by omega
      rw [Nat.max_eq_left (Nat.le_of_not_lt hpe), Nat.max_eq_left hp', Nat.add_left_comm]
      exact Nat.add_le_add (Nat.add_le_add_right (winW_anti ops (st.end_ + 1) (Nat.le_of_lt h)) _) (ih hp h)

theorem phi_ge_opWeight (ops : List Op) (loops : List LoopState) {p : Nat} (hp : p < ops.length) :
    opWeight ops[p] ≤ phi ops p loops :=
  Nat.le_trans (Nat.le_add_right _ _) (phi_lt_opWeight ops loops hp (Nat.lt_succ_self p))

theorem phi_updatePc (ops : List Op) (pc : Nat) (loops : List LoopState) :
    phi ops (updatePc pc loops).1 (updatePc pc loops).2 ≤ phi ops pc loops := by
  induction loops with
  | nil => exact Nat.le_refl _
  | cons st rest ih =>
    rw [updatePc]
    split
    · rename_i hgt
      split
      · rename_i hk
        -- the frame starts another pass: one of its `left` passes becomes the current one
        obtain ⟨k, hk'⟩ : ∃ k, st.left = k + 1 := ⟨st.left - 1, by omega⟩
        have e : pc = st.end_ + 1 := by omega
        simp only [phi, hk', Nat.add_sub_cancel, Nat.succ_mul, e, Nat.max_self, winW_eq_zero ops (Nat.le_refl _),
          Nat.zero_add]
        rw [Nat.add_comm (k * _)]
        exact Nat.add_le_add_left (phi_anti ops rest (Nat.le_max_right _ _)) _
      · rw [phi, Nat.max_eq_left hgt]
        exact Nat.le_trans ih (Nat.le_add_left _ _)
    · exact Nat.le_refl _

theorem mul_pred_add (x k : Nat) (hk : 0 < k) : x + (k - 1) * x = x * k := by
  obtain ⟨j, rfl⟩ : ∃ j, k = j + 1 := ⟨k - 1, by omega⟩
  simp only [Nat.add_sub_cancel, Nat.mul_succ, Nat.mul_comm x j]
  omega

theorem enter_arith {x V A B T : Nat} (R : Nat) (hB : B ≤ A) (hT : T = V + x + A) :
    x + (V + (B + R)) ≤ T + R := by
  omega

/-- entering a loop: the new frame's share of the potential and the table weight of the `loop` instruction are
    paid for by the window weight of the loop in the enclosing frame (`winW_loop`) -/
theorem phi_enter (ops : List Op) {p : Nat} (hp : p < ops.length) {it n : UInt16}
    (hop : ops[p] = Op.loop it n) (hit : 0 < it.toNat) (Ls : List LoopState)
    (hchk : ∀ last tl, Ls = last :: tl → p + n.toNat ≤ last.end_) :
    wLoopExtra + phi ops (p + 1) ({ begin_ := p + 1, end_ := p + n.toNat, left := it.toNat - 1 } :: Ls)
      ≤ phi ops p Ls := by
  simp only [phi, Nat.add_right_comm p n.toNat 1, Nat.max_eq_right (Nat.le_add_right (p + 1) n.toNat),
    mul_pred_add (winW ops (p + 1) (p + 1 + n.toNat)) it.toNat hit]
  cases Ls with
  | nil =>
    have h1 := winW_loop ops hp hp hop
    rw [winW_clip] at h1
    exact enter_arith 0 (winW_anti ops ops.length (Nat.le_add_right (p + 1) n.toNat)) h1
  | cons last tl =>
    have hle : p + 1 + n.toNat ≤ last.end_ + 1 := by have := hchk last tl rfl; omega
    have h1 := winW_loop ops (show p < last.end_ + 1 by omega) hp hop
    rw [Nat.min_eq_left hle] at h1
    simp only [phi]
    rw [Nat.max_eq_right hle, Nat.max_eq_right (show p ≤ last.end_ + 1 by omega),
      Nat.add_assoc (winW ops p _), Nat.add_assoc (winW ops (p + 1 + n.toNat) _)]
    exact enter_arith _ (winW_anti ops (last.end_ + 1) (Nat.le_add_right (p + 1) n.toNat)) h1

/-- a successful instruction body decreases the potential by at least its table weight (for `Loop` the table weight
    is that of the instruction itself, `wLoopExtra`; the instructions of the body are charged when they are executed,
    on each iteration) -/
theorem phi_execOp_opWeight {o : Oracles} {ops : List Op} {st st' : Exec} (hpc : st.pc < ops.length)
    (h : execOp o ops[st.pc] st = some st') :
    opWeight ops[st.pc] + phi ops st'.pc st'.loops ≤ phi ops st.pc st.loops := by
  rcases execOp_cases h with ⟨hl, hlt⟩ | ⟨it, n, hop, hit, hpc', hl', hchk⟩
  · rw [hl]; exact phi_lt_opWeight ops _ hpc hlt
  · rw [hpc', hl', hop]
    exact phi_enter ops hpc hop hit _ hchk

theorem phi_step_opWeight {o : Oracles} {ops : List Op} {st st' : Exec} (hpc : st.pc < ops.length)
    (h : step o ops st = some st') :
    opWeight ops[st.pc] + phi ops st'.pc st'.loops ≤ phi ops st.pc st.loops := by
  rw [step_eq_map (List.getElem?_eq_getElem hpc)] at h
  obtain ⟨st1, hex, rfl⟩ := Option.map_eq_some_iff.mp h
  exact Nat.le_trans (Nat.add_le_add_left (phi_updatePc ops st1.pc st1.loops) _) (phi_execOp_opWeight hpc hex)

theorem phi_step {o : Oracles} {ops : List Op} {st st' : Exec} (hpc : st.pc < ops.length)
    (h : step o ops st = some st') :
    1 + phi ops st'.pc st'.loops ≤ phi ops st.pc st.loops :=
  Nat.le_trans (Nat.add_le_add_right (opWeight_pos _) _) (phi_step_opWeight hpc h)

theorem runFuel_fuel_indep (o : Oracles) (ops : List Op) : ∀ (f1 f2 : Nat) (st : Exec) (n : Nat),
    phi ops st.pc st.loops < f1 → phi ops st.pc st.loops < f2 →
    runFuel o ops f1 st n = runFuel o ops f2 st n := by
  intro f1
  induction f1 with
  | zero => intro f2 st n h; omega
  | succ f1 ih =>
    intro f2 st n h1 h2
    cases f2 with
    | zero => omega
    | succ f2 =>
      simp only [runFuel]
      split
      · rename_i hpc
        split
        · rfl
        · rename_i st' hs
          have h3 := phi_step hpc hs
          exact ih f2 st' (n + 1) (by omega) (by omega)
      · rfl

theorem phi_init (ops : List Op) (heap : Heap) :
    phi ops (initExec heap).pc (initExec heap).loops = weightU ops := by
  simp [initExec, phi, winW]

theorem min_mul_sat (a c M : Nat) : min (min a M * c) M = min (a * c) M := by
  by_cases h : a ≤ M
  · rw [Nat.min_eq_left h]
  · have hM : M < a := by omega
    rw [Nat.min_eq_right (Nat.le_of_lt hM)]
    cases c with
    | zero => simp
    | succ c =>
      have h1 : M ≤ M * (c + 1) := Nat.le_mul_of_pos_right _ (by omega)
      have h2 : M * (c + 1) ≤ a * (c + 1) := Nat.mul_le_mul_right _ (Nat.le_of_lt hM)
      omega

theorem min_add_min_l (a b M : Nat) : min (min a M + b) M = min (a + b) M := by
  rcases Nat.le_total a M with h | h
  · rw [Nat.min_eq_left h]
  · rw [Nat.min_eq_right h, Nat.min_eq_right (Nat.le_add_right M b),
      Nat.min_eq_right (Nat.le_trans h (Nat.le_add_right a b))]

theorem min_add_min_r (a b M : Nat) : min (a + min b M) M = min (a + b) M := by
  rw [Nat.add_comm, min_add_min_l, Nat.add_comm]

theorem weightSF_eq (fuel : Nat) (l : List Op) :
    weightSF fuel l = min (weightUF fuel l) U128_MAX := by
  induction fuel generalizing l with
  | zero => simp [weightSF, weightUF]
  | succ fuel ih =>
    cases l with
    | nil => simp [weightSF, weightUF]
    | cons op rest =>
      simp only [weightSF, weightUF, ih, satAdd128, satMul128]
      split
      · simp only [min_mul_sat, min_add_min_l, min_add_min_r]
      · rw [min_add_min_r]

theorem weight_eq (ops : List Op) : weight ops = min (weightU ops) U128_MAX :=
  weightSF_eq _ _

/-- `n ≤ m + 1` stacked `Loop _ m`: no body slice is clipped, every loop doubles the count -/
theorem weighWorkF_replicate (it m : UInt16) : ∀ (f n : Nat), n < f → n ≤ m.toNat + 1 →
    weighWorkF f (List.replicate n (Op.loop it m)) + 1 = 2 ^ n := by
  intro f
  induction f with
  | zero => intro n h; omega
  | succ f ih =>
    intro n h hn
    cases n with
    | zero => simp [weighWorkF]
    | succ k =>
      simp only [List.replicate_succ, weighWorkF]
      rw [List.take_of_length_le (by simp only [List.length_replicate]; omega)]
      have := ih k (by omega) (by omega)
      rw [Nat.pow_succ]
      omega

/-- one more (`m + 2`) and the outermost body slice is clipped: the count stops doubling -/
theorem weighWorkF_replicate_clipped (it m : UInt16) (f k : Nat) (hk : k = m.toNat) (hf : k + 2 < f) :
    weighWorkF f (List.replicate (k + 2) (Op.loop it m)) + 1 = 3 * 2 ^ k := by
  obtain ⟨f', rfl⟩ : ∃ f', f = f' + 1 := ⟨f - 1, by omega⟩
  simp only [List.replicate_succ (n := k + 1), weighWorkF]
  have e : (List.replicate (k + 1) (Op.loop it m)).take m.toNat = List.replicate k (Op.loop it m) := by
    rw [List.take_replicate, ← hk, Nat.min_eq_left (Nat.le_succ k)]
  rw [e]
  have h0 := weighWorkF_replicate it m f' k (by omega) (by omega)
  have h1 := weighWorkF_replicate it m f' (k + 1) (by omega) (by omega)
  rw [Nat.pow_succ] at h1
  omega

end Mel.VM

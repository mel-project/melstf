/-
  A coin that is absent stays absent (for Props/C02Hist.lean): through an accepted batch none of whose
  transactions has the coin's hash (and none of whose faucet markers lands on it), and through sealing, index by index:
  settlement writes only at slot 0 of a pool request whose slot-0 coin is still there, and at slot 1 of a liquidity
  withdrawal; the proposer action writes only the reward coin.
-/
import MelModel.Chain
import MelModel.Lemmas.Batch
import MelModel.Lemmas.Swap
import MelModel.Lemmas.Perm
import MelModel.Lemmas.ChainL
import MelModel.Lemmas.BlockHistL
namespace Mel
namespace SpentL
open Mel.Gen

theorem nextFold_absent (env : Env) (t : Bool) (id : CoinID) :
    ∀ (txs : List Tx) (st st' : State), Outcome.foldlM' (nextStep env t) st txs = .ok st' →
      (∀ tx ∈ txs, ¬ (insertsMarker env tx = true ∧ id = BatchL.markerOf env tx)) →
      (id ∈ txs.flatMap (·.inputs) ∨ st.coins.getCoin id = none) → st'.coins.getCoin id = none := by
  intro txs
  induction txs with
  | nil =>
    intro st st' h _ hor
    rw [Outcome.foldlM'_nil_ok] at h
    subst h
    rcases hor with hin | hn
    · simp at hin
    · exact hn
  | cons tx rest ih =>
    intro st st' h hm hor
    rw [Outcome.foldlM'_cons_ok] at h
    obtain ⟨st1, h1, h2⟩ := h
    have hstep := getCoin_nextStep h1 id
    apply ih st1 st' h2 (fun x hx => hm x (List.mem_cons_of_mem _ hx))
    by_cases c1 : id ∈ tx.inputs
    · right; rw [hstep, if_pos c1]
    · rw [if_neg c1, if_neg (hm tx List.mem_cons_self)] at hstep
      rcases hor with hin | hn
      · simp only [List.flatMap_cons, List.mem_append] at hin
        rcases hin with hin | hin
        · exact absurd hin c1
        · exact Or.inl hin
      · right; rw [hstep]; exact hn

theorem insFold_other (rel : Relevant) (t : Bool) (txs : List Tx) (coins : CoinMap) (id : CoinID)
    (hne : ∀ tx ∈ txs, tx.hash ≠ id.txhash) :
    ((outputIds txs).foldl (insStep rel t) coins).getCoin id = coins.getCoin id := by
  rw [getCoin_insFold, if_neg]
  intro hmem
  simp only [outputIds, List.mem_flatMap, List.mem_map] at hmem
  obtain ⟨tx, htx, i, -, rfl⟩ := hmem
  exact hne tx htx rfl

theorem applyBatch_absent {env : Env} {s s' : State} {txs : List Tx} {fb : Header} {id : CoinID}
    (h : applyBatch env s txs fb = .ok s')
    (hm : ∀ tx ∈ txs, tx.kind = .faucet → env.isGrandfathered tx.hash = false → env.fdp tx.hash ≠ id.txhash)
    (hor : id ∈ txs.flatMap (·.inputs) ∨ (s.coins.getCoin id = none ∧ ∀ tx ∈ txs, tx.hash ≠ id.txhash)) :
    s'.coins.getCoin id = none := by
  obtain ⟨rel, ns, next, -, -, -, h4, h5⟩ := applyBatch_ok h
  rw [createNextState_eq] at h4
  rw [h5]
  refine nextFold_absent env _ id txs _ _ h4 ?_ ?_
  · rintro tx htx ⟨him, hid⟩
    simp only [insertsMarker, Bool.and_eq_true, decide_eq_true_eq, Bool.not_eq_true'] at him
    exact hm tx htx him.1 him.2 (by rw [hid]; rfl)
  · rcases hor with hin | ⟨hn, hne⟩
    · exact Or.inl hin
    · right
      show ((outputIds txs).foldl (insStep rel s.tip906) s.coins).getCoin id = none
      rw [insFold_other rel _ txs _ id hne]
      exact hn

theorem applyBatch_mem_txs {env : Env} {s s' : State} {txs : List Tx} {fb : Header}
    (h : applyBatch env s txs fb = .ok s') {x : Tx} (hx : x ∈ s'.txs) : x ∈ txs ∨ x ∈ s.txs := by
  rw [(applyBatch_frame h).txsEq] at hx
  have : ∀ (l acc : List Tx), x ∈ l.foldl State.insertTx acc → x ∈ l ∨ x ∈ acc := by
    intro l
    induction l with
    | nil => intro acc h; exact Or.inr h
    | cons a rest ih =>
      intro acc h
      rcases ih _ h with h | h
      · exact Or.inl (List.mem_cons_of_mem _ h)
      · rcases C3.mem_insertTx_imp h with rfl | h
        · exact Or.inl List.mem_cons_self
        · exact Or.inr h
  exact this txs s.txs hx

theorem ne_of_present {m : CoinMap} {id id' : CoinID} (hn : m.getCoin id = none)
    (hp : (m.getCoin id').isSome = true) : id ≠ id' := by
  intro e; subst e; rw [hn] at hp; cases hp

theorem settleKeeps_absent (env : Env) (s : State) (id : CoinID)
    (hw : id.index = 1 → ∀ tx ∈ s.txs, tx.hash = id.txhash → tx.kind ≠ .liqWithdraw) :
    ReachL.SettleKeeps env s (fun c => c.getCoin id = none) where
  swap := by
    intro s1 tx k lw rw tl tr c c' i1 _ hr hb hf
    obtain ⟨-, _, _, _, _, -, hex, -⟩ := isSwapRequest_iff.mp hr
    obtain ⟨cd, -, hf⟩ := Outcome.bind_eq_ok.mp hf
    cases hf
    rw [CoinMap.getCoin_insertCoin_ne _ _ _ (ne_of_present i1 hex)]
    exact hb
  deposit := by
    intro s1 tx k minted tw c c' i1 _ hr hb hf
    obtain ⟨-, _, _, _, _, -, -, -, hex, -⟩ := isDepositRequest_iff.mp hr
    obtain ⟨v, -, hf⟩ := Outcome.bind_eq_ok.mp hf
    have h0 := ne_of_present i1 hex
    dsimp only at hf
    split at hf
    · cases hf
      rw [CoinMap.getCoin_insertCoin_ne _ _ _ h0]
      exact hb
    · rw [CoinMap.getCoin_removeCoin hf id]
      split
      · rfl
      · rw [CoinMap.getCoin_insertCoin_ne _ _ _ h0]
        exact hb
  withdraw := by
    intro s1 tx k tl tr total c c' i1 hm hr hb hf
    obtain ⟨hk, _, _, -, -, hex, -⟩ := isWithdrawRequest_iff.mp hr
    obtain ⟨vl, -, hf⟩ := Outcome.bind_eq_ok.mp hf
    obtain ⟨vr, -, hf⟩ := Outcome.bind_eq_ok.mp hf
    cases hf
    have h1 : id ≠ outCoinID tx 1 := fun e => hw (by rw [e]; rfl) tx hm (by rw [e]; rfl) hk
    rw [CoinMap.getCoin_insertCoin_ne _ _ _ h1, CoinMap.getCoin_insertCoin_ne _ _ _ (ne_of_present i1 hex)]
    exact hb

/-- `hrew`, `hw`: the coin is neither the proposer's reward coin nor slot 1 of a liquidity withdrawal of the block (the
    second payout coin), both of which sealing creates -/
theorem sealState_absent {env : Env} {s : State} {a : Option ProposerAction} {ss : Sealed} {id : CoinID}
    (h : sealState env s a = .ok ss) (hn : s.coins.getCoin id = none)
    (hrew : env.rewardId s.height ≠ id.txhash)
    (hw : id.index = 1 → ∀ tx ∈ s.txs, tx.hash = id.txhash → tx.kind ≠ .liqWithdraw) :
    ss.st.coins.getCoin id = none := by
  obtain ⟨s2, h2, -, h3⟩ := sealState_eq_ok_iff.mp h
  have n2 : s2.coins.getCoin id = none := (settleKeeps_absent env s id hw).sealPre h2 hn
  cases a with
  | none => rw [h3]; exact n2
  | some act =>
    rw [(applyProposerAction_eq_ok_iff.mp h3).2]
    show (CoinMap.insertCoin _ _ _ _).getCoin id = none
    rw [CoinMap.getCoin_insertCoin_ne, n2]
    intro e
    exact hrew (by rw [e, (sealPre_frame h2).height])

end SpentL
end Mel

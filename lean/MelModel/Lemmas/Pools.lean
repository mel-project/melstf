/- `create_builtins` key by key; sealing writes pools only at builtin keys and keys that requests name; pro-rata shares -/
import MelModel.Seal
import MelModel.Lemmas.Counts
import MelModel.Lemmas.FeeMult
import MelModel.Lemmas.Phase
namespace Mel
open Mel.Gen

/-- the pool `create_builtins` leaves under a builtin key, given what was there -/
def fixedPool : Option PoolState → PoolState
  | none => builtinDefault
  | some p => if p.liqs = 0 then builtinDefault else p

/-- the step `create_builtins` applies for each builtin key -/
def fixBuiltin (m : AList PoolKey PoolState) (k : PoolKey) : AList PoolKey PoolState :=
  if builtinMissing m k then m.set k builtinDefault else m

theorem builtinMissing_none {m : AList PoolKey PoolState} {k : PoolKey} (h : m.get k = none) :
    builtinMissing m k = true := by simp [builtinMissing, h]

theorem builtinMissing_some {m : AList PoolKey PoolState} {k : PoolKey} {p : PoolState} (h : m.get k = some p) :
    builtinMissing m k = decide (p.liqs = 0) := by simp [builtinMissing, h]

theorem builtinMissing_true {m : AList PoolKey PoolState} {k : PoolKey} (h : builtinMissing m k = true) :
    ((m.get k).map (·.liqs)).getD 0 = 0 := by
  unfold builtinMissing at h
  cases e : m.get k with
  | none => rfl
  | some p => rw [e] at h; simpa using h

theorem get_fixBuiltin_self (m : AList PoolKey PoolState) (k : PoolKey) :
    (fixBuiltin m k).get k = some (fixedPool (m.get k)) := by
  unfold fixBuiltin
  cases h : m.get k with
  | none => rw [builtinMissing_none h, if_pos rfl, AList.get_set_self]; rfl
  | some q =>
    rw [builtinMissing_some h]
    by_cases hq : q.liqs = 0
    · rw [if_pos (by simpa using hq), AList.get_set_self]; simp [fixedPool, hq]
    · rw [if_neg (by simpa using hq), h]; simp [fixedPool, hq]

theorem get_fixBuiltin_ne (m : AList PoolKey PoolState) {k k' : PoolKey} (hne : k' ≠ k) :
    (fixBuiltin m k).get k' = m.get k' := by
  unfold fixBuiltin
  split
  · exact AList.get_set_ne m _ hne
  · rfl

theorem createBuiltins_pools (s : State) : (createBuiltins s).pools =
    if s.tip902 then fixBuiltin (fixBuiltin (fixBuiltin s.pools poolMelSym) poolMelErg) poolErgSym
    else fixBuiltin (fixBuiltin s.pools poolMelSym) poolMelErg := by
  unfold createBuiltins fixBuiltin
  cases s.tip902 <;> simp

theorem createBuiltins_get_fixed (s : State) (k : PoolKey)
    (hk : k = poolMelSym ∨ k = poolMelErg ∨ (s.tip902 = true ∧ k = poolErgSym)) :
    (createBuiltins s).pools.get k = some (fixedPool (s.pools.get k)) := by
  have h12 := poolMelSym_ne_poolMelErg
  have h13 := poolMelSym_ne_poolErgSym
  have h23 := poolMelErg_ne_poolErgSym
  rw [createBuiltins_pools]
  rcases hk with rfl | rfl | ⟨ht, rfl⟩
  · split
    · rw [get_fixBuiltin_ne _ h13, get_fixBuiltin_ne _ h12, get_fixBuiltin_self]
    · rw [get_fixBuiltin_ne _ h12, get_fixBuiltin_self]
  · split
    · rw [get_fixBuiltin_ne _ h23, get_fixBuiltin_self, get_fixBuiltin_ne _ h12.symm]
    · rw [get_fixBuiltin_self, get_fixBuiltin_ne _ h12.symm]
  · rw [if_pos ht, get_fixBuiltin_self, get_fixBuiltin_ne _ h23.symm, get_fixBuiltin_ne _ h13.symm]

theorem fixBuiltin_keys_nodup {m : AList PoolKey PoolState} (k : PoolKey) (h : (AList.keys m).Nodup) :
    (AList.keys (fixBuiltin m k)).Nodup := by
  unfold fixBuiltin
  split
  · exact AList.keys_nodup_set _ _ h
  · exact h

theorem createBuiltins_keys_nodup (s : State) (h : (AList.keys s.pools).Nodup) :
    (AList.keys (createBuiltins s).pools).Nodup := by
  rw [createBuiltins_pools]
  split
  · exact fixBuiltin_keys_nodup _ (fixBuiltin_keys_nodup _ (fixBuiltin_keys_nodup _ h))
  · exact fixBuiltin_keys_nodup _ (fixBuiltin_keys_nodup _ h)

theorem fixedPool_cases (v : Option PoolState) :
    fixedPool v = builtinDefault ∨ ∃ q, v = some q ∧ q.liqs ≠ 0 ∧ fixedPool v = q := by
  cases v with
  | none => exact Or.inl rfl
  | some q =>
    by_cases hz : q.liqs = 0
    · left; simp only [fixedPool, hz, if_true]
    · right; exact ⟨q, rfl, hz, by simp only [fixedPool, hz, if_false]⟩

theorem fixedPool_liqs_ne (v : Option PoolState) : (fixedPool v).liqs ≠ 0 := by
  unfold fixedPool
  split
  · decide
  · split
    · decide
    · assumption

theorem fixBuiltin_setAt {K : PoolKey → Prop} (m : AList PoolKey PoolState) {k : PoolKey} (hk : K k) :
    SetAt K m (fixBuiltin m k) := by
  unfold fixBuiltin
  split
  · exact .one k _ hk
  · exact .refl m

section
variable {env : Env} {K : PoolKey → Prop} (hb : K poolMelSym ∧ K poolMelErg ∧ K poolErgSym)
  (hk : ∀ reqs k, k ∈ extractPoolKeysSorted reqs → K k)
include hb

theorem createBuiltins_setAt (s : State) : SetAt K s.pools (createBuiltins s).pools := by
  rw [createBuiltins_pools]
  split
  · exact ((fixBuiltin_setAt _ hb.1).trans (fixBuiltin_setAt _ hb.2.1)).trans (fixBuiltin_setAt _ hb.2.2)
  · exact (fixBuiltin_setAt _ hb.1).trans (fixBuiltin_setAt _ hb.2.1)

theorem applyTip909_setAt {s s' : State} (h : applyTip909 s = .ok s') : SetAt K s.pools s'.pools := by
  obtain ⟨sm', es', _, e⟩ := applyTip909_state h
  rw [e]
  exact .set _ es' hb.2.2 (.one _ sm' hb.1)

include hk

theorem MelmintClosed.of_setAt (a : AList PoolKey PoolState) :
    MelmintClosed env (fun s => SetAt K a s.pools) where
  builtins h := h.trans (createBuiltins_setAt hb _)
  swap _ h hm hs := by
    obtain ⟨_, p', _, _, _, _, _, _, e⟩ := processSwapsForPool_inv hs
    rw [e]; exact .set _ p' (hk _ _ hm) h
  deposit _ h hm hs := by
    obtain ⟨p', _, _, ⟨_, e⟩ | ⟨_, _, _, e⟩⟩ := processDepositsForPool_inv hs
    · rw [e]; exact h
    · rw [e]; exact .set _ p' (hk _ _ hm) h
  withdraw _ h hm hs := by
    obtain ⟨_, _, ⟨_, e⟩ | ⟨_, p', _, _, _, _, _, e⟩⟩ := processWithdrawalsForPool_inv hs
    · rw [e]; exact h
    · rw [e]; exact .set _ p' (hk _ _ hm) h
  peg h hs := by
    obtain ⟨sm2, e⟩ := processPegging_state hs
    rw [e]; exact .set _ sm2 hb.1 h

theorem sealState_setAt {s : State} {action : Option ProposerAction} {ss : Sealed}
    (h : sealState env s action = .ok ss) : SetAt K s.pools ss.st.pools :=
  sealState_induct (I := fun s' => SetAt K s.pools s'.pools) (.of_setAt hb hk _)
    (fun h ht => h.trans (applyTip909_setAt hb ht))
    (fun h ha => by rw [(applyProposerAction_eq_ok_iff.mp ha).2]; exact h) h (.refl _)

theorem sealState_setAt_builtins {s : State} {action : Option ProposerAction} {ss : Sealed}
    (h : sealState env s action = .ok ss) : SetAt K (createBuiltins s).pools ss.st.pools := by
  have hI : MelmintClosed env (fun s' => SetAt K (createBuiltins s).pools s'.pools) := .of_setAt hb hk _
  obtain ⟨s2, h2, _, h3⟩ := sealState_eq_ok_iff.mp h
  obtain ⟨s1, h1, _, ht⟩ := sealPre_eq_ok_iff.mp h2
  obtain ⟨_, t1, t2, t3, g1, g2, g3, g4⟩ := presealMelmint_eq_ok_iff.mp h1
  have i1 := hI.peg (hI.builtins (hI.withdrawals g3 (hI.deposits g2 (hI.swaps g1 (.refl _))))) g4
  have i2 : SetAt K (createBuiltins s).pools s2.pools := by
    split at ht
    · exact i1.trans (applyTip909_setAt hb ht)
    · cases ht; exact i1
  cases action with
  | none => rw [h3]; exact i2
  | some a => rw [(applyProposerAction_eq_ok_iff.mp h3).2]; exact i2

end

theorem sealState_grow {env : Env} {s : State} {action : Option ProposerAction} {ss : Sealed}
    (h : sealState env s action = .ok ss) {k : PoolKey} (hk : ((createBuiltins s).pools.get k).isSome = true) :
    (ss.st.pools.get k).isSome = true :=
  (sealState_setAt_builtins (K := fun _ => True) ⟨trivial, trivial, trivial⟩ (fun _ _ _ => trivial) h).isSome_get hk

theorem shares_sum_mul_le (T S U : Nat) (ws : List Nat) :
    (ws.map fun w => min (T * w / S) U).sum * S ≤ T * ws.sum := by
  induction ws with
  | nil => simp
  | cons w ws ih =>
    simp only [List.map_cons, List.sum_cons, Nat.add_mul, Nat.mul_add]
    have h1 : min (T * w / S) U * S ≤ T * w :=
      Nat.le_trans (Nat.mul_le_mul_right S (Nat.min_le_left _ _)) (Nat.div_mul_le_self _ _)
    omega

/-! the iteration of `Nat.sqrt` is irreducible, so `decide` cannot evaluate it -/

theorem sqrt_one : Nat.sqrt 1 = 1 := by simp [Nat.sqrt]

theorem sqrt_two : Nat.sqrt 2 = 1 := by
  unfold Nat.sqrt
  rw [if_neg (by decide)]
  have h : (1 <<< (Nat.log2 2 / 2 + 1)) = 2 := by decide
  rw [h]
  unfold Nat.sqrt.iter
  simp
  unfold Nat.sqrt.iter
  simp

end Mel

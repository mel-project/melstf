/-
  For Props/C16Run.lean: every key of the pool map of a state is spelled canonically
  (`canonical_pool_key` accepts the key's own bytes), and every step of the chain keeps it so — pools are only ever
  written under the three builtin names (`create_builtins`, pegging, the TIP-909 subsidy) and under a name that
  `canonical_pool_key` returned for the data of a swap / deposit / withdrawal transaction.
-/
import MelModel.Chain
import MelModel.Lemmas.BackL
import MelModel.Lemmas.WholeL
import MelModel.Lemmas.ReachSealL
import MelModel.Lemmas.MapL
namespace Mel
namespace BackRunL
open Mel.Gen

/-- every key of the pool map is in the one spelling settlement accepts -/
def PoolsCanon (pools : AList PoolKey PoolState) : Prop :=
  ∀ k p, pools.get k = some p → canonicalPoolKey k.toBytes = some k

theorem poolsCanon_nil : PoolsCanon [] := fun _ _ h => nomatch h

theorem PoolsCanon.set {pools : AList PoolKey PoolState} (h : PoolsCanon pools) {k : PoolKey}
    (hk : canonicalPoolKey k.toBytes = some k) (v : PoolState) : PoolsCanon (pools.set k v) := by
  intro k' p hg
  by_cases e : k' = k
  · subst e; exact hk
  · rw [AList.get_set_ne _ _ e] at hg
    exact h k' p hg

theorem canon_of_parsed {data : Bytes} {k : PoolKey} (h : canonicalPoolKey data = some k) :
    canonicalPoolKey k.toBytes = some k := by
  rw [(canonicalPoolKey_some h).2.2.2]
  exact h

theorem canon_melSym : canonicalPoolKey poolMelSym.toBytes = some poolMelSym := by decide
theorem canon_melErg : canonicalPoolKey poolMelErg.toBytes = some poolMelErg := by decide
theorem canon_ergSym : canonicalPoolKey poolErgSym.toBytes = some poolErgSym := by decide

theorem canon_of_extracted {txs : List Tx} {k : PoolKey} (h : k ∈ extractPoolKeysSorted txs) :
    canonicalPoolKey k.toBytes = some k := by
  obtain ⟨tx, _, hk⟩ := mem_extractPoolKeysSorted h
  exact canon_of_parsed hk

theorem PoolsCanon.of_setAt {a b : AList PoolKey PoolState}
    (h : SetAt (fun k => canonicalPoolKey k.toBytes = some k) a b) (hc : PoolsCanon a) : PoolsCanon b := by
  induction h with
  | refl => exact hc
  | set k p hk _ ih => exact ih.set hk p

theorem sealState_canon {env : Env} {s : State} {a : Option ProposerAction} {ss : Sealed}
    (h : sealState env s a = .ok ss) (hc : PoolsCanon s.pools) : PoolsCanon ss.st.pools :=
  .of_setAt (sealState_setAt ⟨canon_melSym, canon_melErg, canon_ergSym⟩ (fun _ _ => canon_of_extracted) h) hc

theorem block_canon {env : Env} {s s' : State} {a : Option ProposerAction} {ss : Sealed}
    (hs : sealState env s a = .ok ss) (hn : nextUnsealed env ss = .ok s') (hc : PoolsCanon s.pools) :
    PoolsCanon s'.pools := by
  rw [ReachSealL.nextUnsealed_pools hn]
  exact sealState_canon hs hc

theorem batch_canon {env : Env} {s s' : State} {txs : List Tx} {fb : Header}
    (h : applyBatch env s txs fb = .ok s') (hc : PoolsCanon s.pools) : PoolsCanon s'.pools := by
  rw [BackL.applyBatch_pools h]
  exact hc

end BackRunL
end Mel

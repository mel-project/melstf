/- What the request selectors demand; coins away from the outputs of requests stay as they are (`NoRequestAt`,
   `sealState_coins`); the arithmetic of `swap_many` (`swapMany_keeps_reserves`, `swap_product`) -/
import MelModel.Seal
import MelModel.Lemmas.Counts
import MelModel.Lemmas.FeeMult
import MelModel.Lemmas.OutcomeL
import MelModel.Lemmas.MapL
import MelModel.Lemmas.CoinsL
import MelModel.Lemmas.MelmintL
import MelModel.Lemmas.Phase
namespace Mel
open Mel.Gen
open SettleBlockL

theorem canonicalPoolKey_some {data : Bytes} {k : PoolKey} (h : canonicalPoolKey data = some k) :
    bytesLt k.left.toBytes k.right.toBytes = true ∧ k.left ≠ .newCustom ∧ k.right ≠ .newCustom ∧
      k.toBytes = data := by
  unfold canonicalPoolKey at h
  split at h
  · next k' _ =>
    split at h
    · next hc =>
      cases h
      simp only [Bool.and_eq_true, decide_eq_true_eq, ne_eq] at hc
      exact ⟨hc.1.1.1, hc.1.1.2, hc.1.2, hc.2⟩
    · cases h
  · cases h

theorem isSwapRequest_spec {s : State} {tx : Tx} (h : isSwapRequest s tx = true) :
    tx.kind = .swap ∧ ∃ k o, canonicalPoolKey tx.data = some k ∧ tx.outputs.head? = some o ∧
      (o.denom = k.left ∨ o.denom = k.right) := by
  obtain ⟨hk, o, rest, k, p, ho, _, _, hck, _, _, _, hd⟩ := isSwapRequest_iff.mp h
  exact ⟨hk, k, o, hck, by rw [ho]; rfl, hd⟩

theorem isDepositRequest_spec {s : State} {tx : Tx} (h : isDepositRequest s tx = true) :
    tx.kind = .liqDeposit ∧ ∃ k, canonicalPoolKey tx.data = some k := by
  obtain ⟨hk, _, _, _, k, _, _, _, _, _, hck, _⟩ := isDepositRequest_iff.mp h
  exact ⟨hk, k, hck⟩

theorem isWithdrawRequest_spec {env : Env} {s : State} {tx : Tx} (h : isWithdrawRequest env s tx = true) :
    tx.kind = .liqWithdraw ∧ ∃ k, canonicalPoolKey tx.data = some k := by
  obtain ⟨hk, _, k, _, _, _, hck, _⟩ := isWithdrawRequest_iff.mp h
  exact ⟨hk, k, hck⟩

def CoinsSameAt (id : CoinID) (s s' : State) : Prop :=
  s'.coins.getCoin id = s.coins.getCoin id ∧ s'.txs = s.txs ∧ s'.height = s.height

theorem CoinsSameAt.refl (id : CoinID) (s : State) : CoinsSameAt id s s := ⟨rfl, rfl, rfl⟩

theorem CoinsSameAt.trans {id : CoinID} {a b c : State} (h1 : CoinsSameAt id a b)
    (h2 : CoinsSameAt id b c) : CoinsSameAt id a c :=
  ⟨h2.1.trans h1.1, h2.2.1.trans h1.2.1, h2.2.2.trans h1.2.2⟩

theorem outCoinID_ne {tx : Tx} {id : CoinID} (i : Nat) (h : tx.hash ≠ id.txhash) : id ≠ outCoinID tx i := by
  intro e; apply h; rw [e]; rfl

/-- `step` on `tx` changes no coin other than the first `n` outputs of `tx` -/
def WritesSlots (n : Nat) (step : CoinMap → Tx → Outcome CoinMap) : Prop :=
  ∀ c tx c' id, step c tx = .ok c' → (∀ i < n, id ≠ outCoinID tx i) → c'.getCoin id = c.getCoin id

theorem fold_untouched {n : Nat} {step : CoinMap → Tx → Outcome CoinMap} (hw : WritesSlots n step) {l : List Tx}
    {c0 c' : CoinMap} (h : Outcome.foldlM' step c0 l = .ok c') {id : CoinID}
    (hid : ∀ tx ∈ l, ∀ i < n, id ≠ outCoinID tx i) : c'.getCoin id = c0.getCoin id :=
  Outcome.foldlM'_inv_mem (fun c : CoinMap => c.getCoin id = c0.getCoin id) _ l
    (fun b tx b' htx hb hf => (hw b tx b' id hf (hid tx htx)).trans hb) _ _ rfl h

theorem swapStep_writes {k : PoolKey} {height : Nat} {tip : Bool} {lw rw tl tr : Nat} :
    WritesSlots 1 (swapStep k height tip lw rw tl tr) := by
  intro c tx c' id h hid
  obtain ⟨cd, _, h⟩ := Outcome.bind_eq_ok.mp h
  cases h
  exact CoinMap.getCoin_insertCoin_ne _ _ _ (hid 0 (by decide))

theorem depStep_writes {env : Env} {k : PoolKey} {height : Nat} {tip legacy : Bool} {minted tw : Nat} :
    WritesSlots 2 (depStep env k height tip legacy minted tw) := by
  intro c tx c' id h hid
  obtain ⟨v, _, h⟩ := Outcome.bind_eq_ok.mp h
  dsimp only at h
  split at h
  · cases h
    exact CoinMap.getCoin_insertCoin_ne _ _ _ (hid 0 (by decide))
  · rw [CoinMap.getCoin_removeCoin_ne h (hid 1 (by decide))]
    exact CoinMap.getCoin_insertCoin_ne _ _ _ (hid 0 (by decide))

theorem wdStep_writes {k : PoolKey} {height : Nat} {tip : Bool} {tl tr total : Nat} :
    WritesSlots 2 (wdStep k height tip tl tr total) := by
  intro c tx c' id h hid
  obtain ⟨vl, _, h⟩ := Outcome.bind_eq_ok.mp h
  obtain ⟨vr, _, h⟩ := Outcome.bind_eq_ok.mp h
  cases h
  rw [CoinMap.getCoin_insertCoin_ne _ _ _ (hid 1 (by decide))]
  exact CoinMap.getCoin_insertCoin_ne _ _ _ (hid 0 (by decide))

theorem MelmintFrame.coinsSameAt {id : CoinID} {s s' : State} (h : MelmintFrame s s')
    (hc : s'.coins.getCoin id = s.coins.getCoin id) : CoinsSameAt id s s' := ⟨hc, h.txs, h.height⟩

theorem processSwapsForPool_coins (id : CoinID) (k : PoolKey) (s : State) (swaps : List Tx) (s' : State)
    (h : processSwapsForPool k s swaps = .ok s') (hne : ∀ tx ∈ swaps, tx.hash ≠ id.txhash) :
    CoinsSameAt id s s' := by
  refine (processSwapsForPool_frame h).coinsSameAt ?_
  obtain ⟨_, _, _, _, _, _, _, hc, e⟩ := processSwapsForPool_inv h
  rw [e]
  exact fold_untouched swapStep_writes hc (fun tx htx i _ => outCoinID_ne i (hne tx htx))

theorem processDepositsForPool_coins (id : CoinID) (env : Env) (k : PoolKey) (s : State) (deps : List Tx)
    (s' : State) (h : processDepositsForPool env k s deps = .ok s')
    (hne : ∀ tx ∈ deps, tx.hash ≠ id.txhash) : CoinsSameAt id s s' := by
  refine (processDepositsForPool_frame h).coinsSameAt ?_
  obtain ⟨_, _, _, ⟨_, e⟩ | ⟨_, _, hc, e⟩⟩ := processDepositsForPool_inv h
  · rw [e]
  · rw [e]
    exact fold_untouched depStep_writes hc (fun tx htx i _ => outCoinID_ne i (hne tx htx))

theorem processWithdrawalsForPool_coins (id : CoinID) (k : PoolKey) (s : State) (reqs : List Tx)
    (s' : State) (h : processWithdrawalsForPool k s reqs = .ok s')
    (hne : ∀ tx ∈ reqs, tx.hash ≠ id.txhash) : CoinsSameAt id s s' := by
  refine (processWithdrawalsForPool_frame h).coinsSameAt ?_
  obtain ⟨_, _, ⟨_, e⟩ | ⟨_, _, _, _, _, _, hc, e⟩⟩ := processWithdrawalsForPool_inv h
  · rw [e]
  · rw [e]
    exact fold_untouched wdStep_writes hc (fun tx htx i _ => outCoinID_ne i (hne tx htx))

theorem phase_coins {id : CoinID} {F : PoolKey → State → List Tx → Outcome State} {q : Tx → Bool}
    {txs : List Tx}
    (hF : ∀ k st l st', F k st l = .ok st' → (∀ tx ∈ l, tx.hash ≠ id.txhash) → CoinsSameAt id st st')
    (hne : ∀ tx ∈ txs, q tx = true → tx.hash ≠ id.txhash) {ks : List PoolKey} {s s' : State}
    (h : Outcome.foldlM' (fun st k => F k st (transactionsForPool (txs.filter q) k)) s ks = .ok s') :
    CoinsSameAt id s s' :=
  Outcome.foldlM'_inv (CoinsSameAt id s) _ (fun b k b' hb hf => hb.trans (hF k b _ b' hf (fun tx htx =>
    let m := List.mem_filter.mp (mem_transactionsForPool htx)
    hne tx m.1 m.2))) _ _ _ (CoinsSameAt.refl id s) h

theorem processSwaps_coins (id : CoinID) (s s' : State) (h : processSwaps s = .ok s')
    (hne : ∀ tx ∈ s.txs, isSwapRequest s tx = true → tx.hash ≠ id.txhash) : CoinsSameAt id s s' :=
  phase_coins (F := fun k st l => processSwapsForPool k st l) (processSwapsForPool_coins id) hne h

theorem processDeposits_coins (id : CoinID) (env : Env) (s s' : State) (h : processDeposits env s = .ok s')
    (hne : ∀ tx ∈ s.txs, isDepositRequest s tx = true → tx.hash ≠ id.txhash) : CoinsSameAt id s s' :=
  phase_coins (F := fun k st l => processDepositsForPool env k st l) (processDepositsForPool_coins id env) hne h

theorem applyTip909_coins (id : CoinID) (s s' : State) (h : applyTip909 s = .ok s') :
    CoinsSameAt id s s' :=
  ⟨by rw [applyTip909_coins_eq h], (applyTip909_frame h).txs, (applyTip909_frame h).height⟩

/-- the hypothesis of `C15_kind_filter`: no transaction with the hash of `id` can be selected as a request -/
def NoRequestAt (id : CoinID) (txs : List Tx) : Prop :=
  ∀ tx ∈ txs, tx.hash = id.txhash →
    (tx.kind ≠ .swap ∧ tx.kind ≠ .liqDeposit ∧ tx.kind ≠ .liqWithdraw) ∨ canonicalPoolKey tx.data = none

theorem NoRequestAt.ne {id : CoinID} {txs : List Tx} (h : NoRequestAt id txs) {q : Tx → Bool} {k : PoolKey} {tx : Tx}
    (htx : tx ∈ transactionsForPool (txs.filter q) k)
    (hkind : tx.kind = .swap ∨ tx.kind = .liqDeposit ∨ tx.kind = .liqWithdraw) : tx.hash ≠ id.txhash := by
  obtain ⟨hf, hck⟩ := mem_transactionsForPool_iff.mp htx
  intro he
  rcases h tx (List.mem_filter.mp hf).1 he with hh | hh
  · rcases hkind with e | e | e
    · exact hh.1 e
    · exact hh.2.1 e
    · exact hh.2.2 e
  · rw [hck] at hh; cases hh

theorem MelmintClosed.of_noRequestAt {id : CoinID} {env : Env} {s : State} (hnr : NoRequestAt id s.txs) :
    MelmintClosed env (CoinsSameAt id s) where
  builtins i := i.trans ⟨rfl, rfl, rfl⟩
  swap i0 i _ hs := i.trans (processSwapsForPool_coins id _ _ _ _ hs fun tx htx =>
    (i0.2.1 ▸ hnr : NoRequestAt id _).ne htx
      (Or.inl (isSwapRequest_iff.mp (List.mem_filter.mp (mem_transactionsForPool htx)).2).1))
  deposit i0 i _ hs := i.trans (processDepositsForPool_coins id _ _ _ _ _ hs fun tx htx =>
    (i0.2.1 ▸ hnr : NoRequestAt id _).ne htx
      (Or.inr (Or.inl (isDepositRequest_iff.mp (List.mem_filter.mp (mem_transactionsForPool htx)).2).1)))
  withdraw i0 i _ hs := i.trans (processWithdrawalsForPool_coins id _ _ _ _ hs fun tx htx =>
    (i0.2.1 ▸ hnr : NoRequestAt id _).ne htx
      (Or.inr (Or.inr (isWithdrawRequest_iff.mp (List.mem_filter.mp (mem_transactionsForPool htx)).2).1)))
  peg i hs := i.trans ((processPegging_frame hs).coinsSameAt (by rw [processPegging_coins_eq hs]))

theorem presealMelmint_coins (id : CoinID) (env : Env) (s s' : State) (h : presealMelmint env s = .ok s')
    (hnr : NoRequestAt id s.txs) : CoinsSameAt id s s' :=
  presealMelmint_induct (.of_noRequestAt hnr) h (.refl id s)

theorem sealState_coins (id : CoinID) (env : Env) (s : State) (a : Option ProposerAction) (ss : Sealed)
    (h : sealState env s a = .ok ss) (hnr : NoRequestAt id s.txs)
    (hrw : id.txhash ≠ env.rewardId s.height) : ss.st.coins.getCoin id = s.coins.getCoin id :=
  (sealState_induct (I := CoinsSameAt id s) (.of_noRequestAt hnr)
    (fun i ht => i.trans (applyTip909_coins id _ _ ht))
    (fun i ha => i.trans (by
      rw [(applyProposerAction_eq_ok_iff.mp ha).2]
      exact ⟨CoinMap.getCoin_insertCoin_ne _ _ _ (fun e => hrw (by rw [e, i.2.2])), rfl, rfl⟩))
    h (.refl id s)).1

theorem satAdd128_facts {a b : Nat} (ha : 0 < a) (hb : b ≤ U128_MAX) :
    0 < satAdd128 a b ∧ b ≤ satAdd128 a b ∧ satAdd128 a b ≤ a + b :=
  ⟨Nat.lt_min.mpr ⟨Nat.add_pos_left ha _, U128_MAX_pos⟩, Nat.le_min.mpr ⟨Nat.le_add_left _ _, hb⟩,
    Nat.min_le_left _ _⟩

theorem mul_div_lt {a q n : Nat} (hq : q < n) (ha : 0 < a) : a * q / n < a :=
  Nat.div_lt_of_lt_mul (by rw [Nat.mul_comm n]; exact Nat.mul_lt_mul_of_pos_left hq ha)

/-- the constant-product share of `B`, less the 0.5% fee, that `swap_many` pays out for `a` -/
theorem share_le {a A B : Nat} (ha : a ≤ A) : a * B * 995 / (A * 1000) ≤ B := by
  apply Nat.div_le_of_le_mul
  have h1 : a * B ≤ A * B := Nat.mul_le_mul_right B ha
  have e : A * 1000 * B = A * B * 1000 := by ac_rfl
  rw [e]; omega

theorem share_lt {a A B : Nat} (ha : a ≤ A) (hA : 0 < A) (hB : 0 < B) : a * B * 995 / (A * 1000) < B := by
  have hpos : 0 < A * 1000 := by omega
  rw [Nat.div_lt_iff_lt_mul hpos]
  have h1 : a * B ≤ A * B := Nat.mul_le_mul_right B ha
  have h2 : 0 < A * B := Nat.mul_pos hA hB
  have e : B * (A * 1000) = A * B * 1000 := by ac_rfl
  rw [e]; omega

/-- when the sums fit a u128 nothing in `swap_many` saturates -/
theorem swapLW_of_fit {p : PoolState} {l r : Nat} (hfit : p.lefts + l ≤ U128_MAX ∧ p.rights + r ≤ U128_MAX) :
    p.swapL l = p.lefts + l ∧ p.swapR r = p.rights + r ∧
    p.swapLW l r = r * (p.lefts + l) * 995 / ((p.rights + r) * 1000) ∧
    p.swapRW l r = l * (p.rights + r) * 995 / ((p.lefts + l) * 1000) := by
  have eL : p.swapL l = p.lefts + l := satAdd128_of_le hfit.1
  have eR : p.swapR r = p.rights + r := satAdd128_of_le hfit.2
  have hl : l * (p.rights + r) * 995 / ((p.lefts + l) * 1000) ≤ p.rights + r := share_le (by omega)
  have hr : r * (p.lefts + l) * 995 / ((p.rights + r) * 1000) ≤ p.lefts + l := share_le (by omega)
  refine ⟨eL, eR, ?_, ?_⟩
  · unfold PoolState.swapLW satU128; rw [eL, eR]; exact Nat.min_eq_left (Nat.le_trans hr hfit.1)
  · unfold PoolState.swapRW satU128; rw [eL, eR]; exact Nat.min_eq_left (Nat.le_trans hl hfit.2)

theorem swapMany_ok {p p' : PoolState} {l r lw rw : Nat}
    (hfit : p.lefts + l ≤ U128_MAX ∧ p.rights + r ≤ U128_MAX)
    (h : p.swapMany l r = .ok (p', lw, rw)) :
    0 < p.lefts + l ∧ 0 < p.rights + r ∧
    rw = l * (p.rights + r) * 995 / ((p.lefts + l) * 1000) ∧
    lw = r * (p.lefts + l) * 995 / ((p.rights + r) * 1000) ∧
    p'.lefts = p.lefts + l - lw ∧ p'.rights = p.rights + r - rw ∧ p'.liqs = p.liqs := by
  obtain ⟨hR, hL, _, _, _, e⟩ := PoolState.swapMany_eq_ok_iff.mp h
  obtain ⟨eL, eR, elw, erw⟩ := swapLW_of_fit hfit
  cases e
  rw [eL] at hL
  rw [eR] at hR
  refine ⟨Nat.pos_of_ne_zero hL, Nat.pos_of_ne_zero hR, erw, elw, ?_, ?_, rfl⟩
  · show p.swapL l - _ = _; rw [eL]
  · show p.swapR r - _ = _; rw [eR]

/-- a swap never empties a pool: the right reserve is guarded, and what is paid out on the left is a proper
    share (less the fee) of the left reserve because the right reserve includes what was paid in -/
theorem swapMany_keeps_reserves {p p' : PoolState} {l r lw rw : Nat} (hr : r ≤ U128_MAX)
    (h : p.swapMany l r = .ok (p', lw, rw)) : 0 < p'.lefts ∧ 0 < p'.rights := by
  obtain ⟨hR, hL, _, _, hR', e⟩ := PoolState.swapMany_eq_ok_iff.mp h
  cases e
  refine ⟨?_, Nat.pos_of_ne_zero hR'⟩
  show 0 < p.swapL l - p.swapLW l r
  have hrR : r ≤ p.swapR r := Nat.le_min.mpr ⟨Nat.le_add_left _ _, hr⟩
  have hq := share_lt hrR (Nat.pos_of_ne_zero hR) (Nat.pos_of_ne_zero hL)
  have : p.swapLW l r ≤ r * p.swapL l * 995 / (p.swapR r * 1000) := Nat.min_le_left _ _
  omega

theorem mul_1000_le {x y : Nat} (h : x * 1000 ≤ y * 995) : x ≤ y := by omega

theorem swap_product_aux {pl pr l r L R x y : Nat} (hLd : L = pl + l) (hRd : R = pr + r)
    (hL : 0 < L) (hR : 0 < R) (hx : x * (R * 1000) ≤ r * L * 995) (hy : y * (L * 1000) ≤ l * R * 995) :
    pl * pr ≤ (L - x) * (R - y) := by
  have h1 : x * R ≤ r * L := mul_1000_le (by rw [← Nat.mul_assoc] at hx; exact hx)
  have h2 : y * L ≤ l * R := mul_1000_le (by rw [← Nat.mul_assoc] at hy; exact hy)
  have a1 : L * pr ≤ (L - x) * R := by
    rw [Nat.sub_mul]
    have : L * R = L * pr + r * L := by rw [hRd, Nat.mul_add, Nat.mul_comm L r]
    omega
  have a2 : R * pl ≤ (R - y) * L := by
    rw [Nat.sub_mul]
    have : R * L = R * pl + l * R := by rw [hLd, Nat.mul_add, Nat.mul_comm R l]
    omega
  have a3 := Nat.mul_le_mul a1 a2
  rw [Nat.mul_mul_mul_comm L pr R pl, Nat.mul_comm (L * R), Nat.mul_comm pr pl,
    Nat.mul_mul_mul_comm (L - x) R (R - y) L, Nat.mul_comm R L] at a3
  exact Nat.le_of_mul_le_mul_right a3 (Nat.mul_pos hL hR)

theorem swap_product {pl pr l r : Nat} (hL : 0 < pl + l) (hR : 0 < pr + r) :
    pl * pr ≤ (pl + l - r * (pl + l) * 995 / ((pr + r) * 1000)) *
              (pr + r - l * (pr + r) * 995 / ((pl + l) * 1000)) :=
  swap_product_aux rfl rfl hL hR (Nat.div_mul_le_self _ _) (Nat.div_mul_le_self _ _)

end Mel

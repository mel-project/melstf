/- helper lemmas for the execution-cost theorems (C11Cost): executed weight, flattened bytes, value depth -/
import MelModel.VM.Cost
import MelModel.Lemmas.StructL
namespace Mel.VM
open Mel Mel.Gen

theorem runCost_fst_steps (o : Oracles) (ops : List Op) : ∀ (fuel : Nat) (st : Exec) (c : Cost),
    (runCost o ops fuel st c).1 = (runFuel o ops fuel st c.steps).1 ∧
    (runCost o ops fuel st c).2.steps = (runFuel o ops fuel st c.steps).2 := by
  intro fuel
  induction fuel with
  | zero => intro st c; simp [runCost, runFuel]
  | succ fuel ih =>
    intro st c
    simp only [runCost, runFuel]
    split
    · cases hs : step o ops st with
      | none => simp [Cost.charge]
      | some st' => exact ih st' (c.charge o ops st)
    · simp

theorem opWeightAt_eq (ops : List Op) {pc : Nat} (h : pc < ops.length) :
    opWeightAt ops pc = opWeight ops[pc] := by
  simp [opWeightAt, List.getElem?_eq_getElem h]

theorem runCost_xw_le (o : Oracles) (ops : List Op) : ∀ (fuel : Nat) (st : Exec) (c : Cost),
    (runCost o ops fuel st c).2.xw ≤ c.xw + phi ops st.pc st.loops := by
  intro fuel
  induction fuel with
  | zero => intro st c; simp [runCost]
  | succ fuel ih =>
    intro st c
    simp only [runCost]
    split
    · rename_i hpc
      have hw := opWeightAt_eq ops hpc
      split
      · have := phi_ge_opWeight ops st.loops hpc
        simp only [Cost.charge]
        omega
      · rename_i st' hs
        have h1 := phi_step_opWeight hpc hs
        have h2 := ih st' (c.charge o ops st)
        simp only [Cost.charge] at h2 ⊢
        omega
    · simp

theorem runCost_inv (o : Oracles) (ops : List Op) (P : Cost → Prop)
    (hP : ∀ (c : Cost) (st : Exec), st.pc < ops.length → P c → P (c.charge o ops st)) :
    ∀ (fuel : Nat) (st : Exec) (c : Cost), P c → P (runCost o ops fuel st c).2 := by
  intro fuel
  induction fuel with
  | zero => intro st c h; exact h
  | succ fuel ih =>
    intro st c h
    simp only [runCost]
    split
    · rename_i hpc
      split
      · exact hP c st hpc h
      · exact ih _ _ (hP c st hpc h)
    · exact h

theorem runCost_steps_le_xw (o : Oracles) (ops : List Op) (fuel : Nat) (st : Exec) (c : Cost) :
    c.steps ≤ c.xw → (runCost o ops fuel st c).2.steps ≤ (runCost o ops fuel st c).2.xw :=
  runCost_inv o ops (fun c => c.steps ≤ c.xw) (fun c st hpc h => by
    have := opWeight_pos ops[st.pc]
    simp only [Cost.charge, opWeightAt_eq ops hpc]
    omega) fuel st c

/-- steps ≤ executed weight ≤ potential -/
theorem runFuel_steps_le (o : Oracles) (ops : List Op) (fuel : Nat) (st : Exec) (n : Nat) :
    (runFuel o ops fuel st n).2 ≤ n + phi ops st.pc st.loops := by
  have h1 := (runCost_fst_steps o ops fuel st { steps := n, xw := n }).2
  have h2 := runCost_steps_le_xw o ops fuel st { steps := n, xw := n } (Nat.le_refl _)
  have h3 := runCost_xw_le o ops fuel st { steps := n, xw := n }
  simp only at h1 h3
  omega

theorem opFlat_le_opWeight (op : Op) (s : List Value) : opFlat op s ≤ opWeight op := by
  unfold opFlat
  split
  next n =>
    rw [show opWeight (.hash n) = wHashBase + n.toNat from rfl, wHashBase]
    split
    · split <;> omega
    · omega
  next n =>
    rw [show opWeight (.sigeok n) = wSigEOkBase + n.toNat from rfl, wSigEOkBase]
    split
    · split
      · split
        · omega
        · split
          · omega
          · split
            · split
              · omega
              · split
                · split <;> omega
                · omega
            · omega
      · omega
    · omega
  next =>
    rw [show opWeight .btoi = wBtoI from rfl, wBtoI]
    split
    · split <;> omega
    · omega
  next => exact Nat.zero_le _

theorem stepFlat_le_opWeightAt (o : Oracles) (ops : List Op) (st : Exec) :
    stepFlat o ops st ≤ opWeightAt ops st.pc := by
  unfold stepFlat opWeightAt
  cases ops[st.pc]? with
  | none => exact Nat.le_refl _
  | some op => exact opFlat_le_opWeight op st.stack

theorem runCost_flat_le_xw (o : Oracles) (ops : List Op) (fuel : Nat) (st : Exec) (c : Cost) :
    c.flat ≤ c.xw → (runCost o ops fuel st c).2.flat ≤ (runCost o ops fuel st c).2.xw :=
  runCost_inv o ops (fun c => c.flat ≤ c.xw) (fun c st _ h => by
    have := stepFlat_le_opWeightAt o ops st
    simp only [Cost.charge]
    omega) fuel st c

open Value.depth (depthList)

@[simp] theorem depth_int (v : U256) : (Value.int v).depth = 0 := by simp [Value.depth]
@[simp] theorem depth_bytes (b : Bytes) : (Value.bytes b).depth = 0 := by simp [Value.depth]
@[simp] theorem depth_vec (l : List Value) : (Value.vec l).depth = 1 + depthList l := by simp [Value.depth]
@[simp] theorem dl_nil : depthList [] = 0 := by simp [Value.depth.depthList]
@[simp] theorem dl_cons (v : Value) (l : List Value) : depthList (v :: l) = max v.depth (depthList l) := by
  simp [Value.depth.depthList]
@[simp] theorem depth_ofBool (b : Bool) : (Value.ofBool b).depth = 0 := by simp [Value.ofBool]
@[simp] theorem depth_ofNat (n : Nat) : (Value.ofNat n).depth = 0 := by simp [Value.ofNat]

theorem dl_append (a b : List Value) : depthList (a ++ b) = max (depthList a) (depthList b) := by
  induction a with
  | nil => simp
  | cons x xs ih => rw [List.cons_append, dl_cons, dl_cons, ih, Nat.max_assoc]

/-- `depthList` is the least bound on the depths of the elements: the facts about sublists come from membership -/
theorem dl_le_iff {l : List Value} {d : Nat} : depthList l ≤ d ↔ ∀ v ∈ l, v.depth ≤ d := by
  induction l with
  | nil => simp
  | cons x xs ih => rw [dl_cons, Nat.max_le, ih, List.forall_mem_cons]

theorem depth_le_of_mem {l : List Value} {v : Value} (h : v ∈ l) : v.depth ≤ depthList l :=
  dl_le_iff.mp (Nat.le_refl _) v h

theorem dl_slice (l : List Value) (b e : Nat) : depthList (slice l b e) ≤ depthList l :=
  dl_le_iff.mpr fun _ hv => depth_le_of_mem (List.mem_of_mem_drop (List.mem_of_mem_take hv))

theorem dl_listSet (l : List Value) (i : Nat) (v : Value) (l' : List Value)
    (h : listSet l i v = some l') : depthList l' ≤ max (depthList l) v.depth := by
  rw [listSet_eq] at h
  split at h
  · obtain rfl := Option.some.inj h
    refine dl_le_iff.mpr fun w hw => ?_
    rcases List.mem_or_eq_of_mem_set hw with hw | rfl
    · exact Nat.le_trans (depth_le_of_mem hw) (Nat.le_max_left _ _)
    · exact Nat.le_max_right _ _
  · cases h

theorem Heap.depth_get : ∀ (h : Heap) (k : Nat) (v : Value), h.get k = some v → v.depth ≤ h.depth := by
  intro h
  induction h with
  | nil => intro k v hg; simp [Heap.get] at hg
  | cons e rest ih =>
    intro k v hg
    obtain ⟨k', w⟩ := e
    simp only [Heap.get] at hg
    simp only [Heap.depth]
    split at hg
    · simp at hg; subst hg; omega
    · have := ih k v hg; omega

@[simp] theorem Heap.depth_set (h : Heap) (k : Nat) (v : Value) :
    (h.set k v).depth = max v.depth h.depth := by
  simp [Heap.set, Heap.depth]

/-- frame: an instruction in normal form leaves the heap alone, so only the new stack matters -/
theorem depth_of_next {x : Option (List Value)} {st st' : Exec}
    (h : (x.bind fun s => some (st.next s)) = some st')
    (hx : ∀ s', x = some s' → depthList s' ≤ depthList st.stack + 1) :
    depthList st'.stack ≤ st.maxDepth + 1 ∧ Heap.depth st'.heap ≤ st.maxDepth := by
  obtain ⟨s', hs, rfl⟩ := bind_next_eq_some.mp h
  exact ⟨Nat.le_trans (hx s' hs) (Nat.succ_le_succ (Nat.le_max_left _ _)), Nat.le_max_right _ _⟩

theorem Exec.depth_le_of_mem_stack (st : Exec) {w : Value} (h : w ∈ st.stack) : w.depth ≤ st.maxDepth :=
  Nat.le_trans (depth_le_of_mem h) (Nat.le_max_left _ _)

theorem Exec.heap_le_maxDepth (st : Exec) : Heap.depth st.heap ≤ st.maxDepth := Nat.le_max_right _ _

theorem Exec.depth_le_of_heap_get (st : Exec) {k : Nat} {v : Value} (h : st.heap.get k = some v) :
    v.depth ≤ st.maxDepth :=
  Nat.le_trans (Heap.depth_get _ _ _ h) st.heap_le_maxDepth

theorem Exec.depth_set_le (st : Exec) (k : Nat) {v : Value} (h : v.depth ≤ st.maxDepth) :
    Heap.depth (st.heap.set k v) ≤ st.maxDepth :=
  Nat.le_trans (Nat.le_of_eq (Heap.depth_set ..)) (Nat.max_le.mpr ⟨h, st.heap_le_maxDepth⟩)

/-- an instruction that puts nothing new on the stack or the heap -/
theorem depth_of_le {st st' : Exec}
    (h : (∀ w ∈ st'.stack, w.depth ≤ st.maxDepth) ∧ Heap.depth st'.heap ≤ st.maxDepth) :
    depthList st'.stack ≤ st.maxDepth + 1 ∧ Heap.depth st'.heap ≤ st.maxDepth :=
  ⟨Nat.le_succ_of_le (dl_le_iff.mpr h.1), h.2⟩

theorem dl_replace_prefix {v : Value} (a : List Value) {rest : List Value} (hv : v.depth ≤ depthList a + 1) :
    depthList (v :: rest) ≤ depthList (a ++ rest) + 1 := by
  rw [dl_cons, dl_append]; omega

theorem monop_dl {s s' : List Value} {f : Value → Option Value} (h : monop s f = some s')
    (hf : ∀ x, OptAll (fun v => v.depth ≤ x.depth + 1) (f x)) : depthList s' ≤ depthList s + 1 := by
  match s, h with
  | x :: rest, h =>
    obtain ⟨v, hv, rfl⟩ := Option.map_eq_some_iff.mp h
    exact dl_replace_prefix [x] (by simpa using hf x v hv)
  | [], h => cases h

theorem binop_dl {s s' : List Value} {f : Value → Value → Option Value} (h : binop s f = some s')
    (hf : ∀ x y, OptAll (fun v => v.depth ≤ max x.depth y.depth + 1) (f x y)) : depthList s' ≤ depthList s + 1 := by
  match s, h with
  | x :: y :: rest, h =>
    obtain ⟨v, hv, rfl⟩ := Option.map_eq_some_iff.mp h
    exact dl_replace_prefix [x, y] (by simpa using hf x y v hv)
  | [], h | [_], h => cases h

theorem triop_dl {s s' : List Value} {f : Value → Value → Value → Option Value}
    (h : triop s f = some s')
    (hf : ∀ x y z, OptAll (fun v => v.depth ≤ max x.depth (max y.depth z.depth) + 1) (f x y z)) :
    depthList s' ≤ depthList s + 1 := by
  match s, h with
  | x :: y :: z :: rest, h =>
    obtain ⟨v, hv, rfl⟩ := Option.map_eq_some_iff.mp h
    exact dl_replace_prefix [x, y, z] (by simpa using hf x y z v hv)
  | [], h | [_], h | [_, _], h => cases h

/-- a result that, if there is one, is an integer or a byte string -/
abbrev Scalar : Option Value → Prop := OptAll fun v => v.depth = 0

theorem monop_dl0 {s s' : List Value} {f : Value → Option Value} (h : monop s f = some s')
    (hf : ∀ x, Scalar (f x)) : depthList s' ≤ depthList s + 1 :=
  monop_dl h fun x v hv => Nat.le_trans (Nat.le_of_eq (hf x v hv)) (Nat.zero_le _)

theorem binop_dl0 {s s' : List Value} {f : Value → Value → Option Value} (h : binop s f = some s')
    (hf : ∀ x y, Scalar (f x y)) : depthList s' ≤ depthList s + 1 :=
  binop_dl h fun x y v hv => Nat.le_trans (Nat.le_of_eq (hf x y v hv)) (Nat.zero_le _)

theorem triop_dl0 {s s' : List Value} {f : Value → Value → Value → Option Value} (h : triop s f = some s')
    (hf : ∀ x y z, Scalar (f x y z)) : depthList s' ≤ depthList s + 1 :=
  triop_dl h fun x y z v hv => Nat.le_trans (Nat.le_of_eq (hf x y z v hv)) (Nat.zero_le _)

theorem intBin_scalar (g : U256 → U256 → Option U256) (x y : Value) : Scalar (intBin g x y) := by
  unfold intBin
  split
  · exact .map depth_int
  · exact .none

theorem intoVec_some {x : Value} {l : List Value} (h : x.intoVec = some l) : x = .vec l := by
  cases x <;> simp [Value.intoVec] at h; subst h; rfl

theorem execOp_depth {o : Oracles} {op : Op} {st st' : Exec} (h : execOp o op st = some st') :
    depthList st'.stack ≤ st.maxDepth + 1 ∧ Heap.depth st'.heap ≤ st.maxDepth := by
  cases op
  case add | sub | mul | div | rem | exp | and | or | xor | eql | lt | gt | shl | shr =>
    all_goals exact depth_of_next h fun _ hx => binop_dl0 hx (intBin_scalar _)
  case vempty | bempty | pushb | pushi | pushic =>
    all_goals
      refine depth_of_next (x := some _) h fun _ hx => ?_
      obtain rfl := Option.some.inj hx
      simp only [dl_cons, depth_vec, depth_bytes, depth_int, dl_nil]
      omega
  case not =>
    exact depth_of_next h fun _ hx => monop_dl0 hx fun _ => .map depth_int
  case itob =>
    exact depth_of_next h fun _ hx => monop_dl0 hx fun _ => .map fun _ => depth_bytes _
  case hash =>
    exact depth_of_next h fun _ hx => monop_dl0 hx fun x => by
      cases x
      case bytes => exact .ite .none (.some (depth_bytes _))
      all_goals exact .none
  case btoi =>
    exact depth_of_next h fun _ hx => monop_dl0 hx fun x => by
      cases x
      case bytes => exact .ite (.some (depth_ofNat _)) .none
      all_goals exact .none
  case vlength =>
    exact depth_of_next h fun _ hx => monop_dl0 hx fun x => by
      cases x
      case vec => exact .some (depth_ofNat _)
      all_goals exact .none
  case blength =>
    exact depth_of_next h fun _ hx => monop_dl0 hx fun x => by
      cases x
      case bytes => exact .some (depth_ofNat _)
      all_goals exact .none
  case typeq =>
    exact depth_of_next h fun _ hx => monop_dl0 hx fun x => by
      cases x <;> exact .some (depth_ofNat _)
  case bref =>
    exact depth_of_next h fun _ hx => binop_dl0 hx fun _ _ =>
      .bind fun _ _ => .bind fun _ _ => .bind fun _ _ => .some (depth_ofNat _)
  case bappend | bpush | bcons =>
    all_goals
      exact depth_of_next h fun _ hx => binop_dl0 hx fun _ _ =>
        .bind fun _ _ => .bind fun _ _ => .ite .none (.some (depth_bytes _))
  case sigeok =>
    -- key, then message, then signature: the result follows the nesting of the tests, and is a truth value if any
    exact depth_of_next h fun _ hx => triop_dl0 hx fun msg pk sig => by
      cases pk
      case bytes =>
        refine .ite (.some (depth_ofBool _)) (.ite .none ?_)
        cases msg
        case bytes =>
          refine .ite .none ?_
          cases sig
          case bytes =>
            exact .ite (.some (depth_ofBool _)) (.ite (.some (depth_ofBool _)) (.some (depth_ofBool _)))
          all_goals exact .none
        all_goals exact .none
      all_goals exact .none
  case bslice =>
    exact depth_of_next h fun _ hx => triop_dl0 hx fun x _ _ => .bind fun _ _ => .bind fun _ _ => by
      cases x
      case bytes => exact .ite (.some (depth_bytes _)) (.some (depth_bytes _))
      all_goals exact .none
  case bset =>
    exact depth_of_next h fun _ hx => triop_dl0 hx fun _ _ _ =>
      .bind fun _ _ => .bind fun _ _ => .ite (.bind fun _ _ => .map depth_bytes) .none
  case vref =>
    exact depth_of_next h fun _ hx => binop_dl hx fun x y => .bind fun i _ => .bind fun l hl v hv => by
      have := depth_le_of_mem (List.mem_of_getElem? hv)
      rw [intoVec_some hl, depth_vec]
      omega
  case vappend =>
    exact depth_of_next h fun _ hx => binop_dl hx fun x y => .bind fun a ha => .bind fun b hb => .ite .none <| .some <| by
      rw [intoVec_some ha, intoVec_some hb]
      simp only [depth_vec, dl_append]
      omega
  case vpush | vcons =>
    all_goals
      exact depth_of_next h fun _ hx => binop_dl hx fun x y => .bind fun l hl => .ite .none <| .some <| by
        rw [intoVec_some hl]
        simp only [depth_vec, dl_append, dl_cons, dl_nil]
        omega
  case vset =>
    exact depth_of_next h fun _ hx => triop_dl hx fun x y z => .bind fun i _ => .bind fun l hl v hv => by
      obtain ⟨l', hs, rfl⟩ := Option.map_eq_some_iff.mp hv
      have := dl_listSet l i z l' hs
      rw [intoVec_some hl]
      simp only [depth_vec]
      omega
  case vslice =>
    exact depth_of_next h fun _ hx => triop_dl hx fun x y z => .bind fun b _ => .bind fun e _ => by
      cases x
      case vec l =>
        have := dl_slice l b e
        exact .ite (.some (by simp only [depth_vec, dl_nil]; omega)) (.some (by simp only [depth_vec]; omega))
      all_goals exact .none
  -- the ten others put no value on the stack or the heap that was not on one of them
  all_goals
    refine depth_of_le ((?_ : OptAll (fun st' : Exec =>
      (∀ w ∈ st'.stack, w.depth ≤ st.maxDepth) ∧ Heap.depth st'.heap ≤ st.maxDepth) _) st' h)
  case noop | jmp => all_goals exact .some ⟨fun _ => st.depth_le_of_mem_stack, st.heap_le_maxDepth⟩
  case loop =>
    have same : (∀ w ∈ st.stack, w.depth ≤ st.maxDepth) ∧ Heap.depth st.heap ≤ st.maxDepth :=
      ⟨fun _ => st.depth_le_of_mem_stack, st.heap_le_maxDepth⟩
    simp only [execOp]
    refine .ite ?_ (.some same)
    split
    · exact .ite .none (.some same)
    · exact .some same
  case bez | bnz =>
    all_goals
      simp only [execOp]
      split
      · rename_i top rest hs
        have hr (w : Value) (hw : w ∈ rest) := st.depth_le_of_mem_stack (hs ▸ List.mem_cons_of_mem top hw)
        exact .ite (.some ⟨hr, st.heap_le_maxDepth⟩) (.some ⟨hr, st.heap_le_maxDepth⟩)
      · exact .none
  case dup =>
    simp only [execOp]
    split
    · rename_i v rest hs
      refine .some ⟨fun w hw => st.depth_le_of_mem_stack (hs ▸ ?_), st.heap_le_maxDepth⟩
      rcases List.mem_cons.mp hw with rfl | hw
      · exact List.mem_cons_self
      · exact hw
    · exact .none
  case storeimm =>
    simp only [execOp]
    split
    · rename_i v rest hs
      exact .some ⟨fun w hw => st.depth_le_of_mem_stack (hs ▸ List.mem_cons_of_mem v hw),
        st.depth_set_le _ (st.depth_le_of_mem_stack (hs ▸ List.mem_cons_self))⟩
    · exact .none
  case store =>
    simp only [execOp]
    split
    · rename_i a v rest hs
      exact .map fun _ => ⟨fun w hw => st.depth_le_of_mem_stack (hs ▸ List.mem_cons_of_mem a (List.mem_cons_of_mem v hw)),
        st.depth_set_le _ (st.depth_le_of_mem_stack (hs ▸ List.mem_cons_of_mem a List.mem_cons_self))⟩
    · exact .none
  case load =>
    simp only [execOp]
    split
    · rename_i a rest hs
      refine .bind fun v hv => .some ⟨fun w hw => ?_, st.heap_le_maxDepth⟩
      obtain ⟨addr, _, hg⟩ := Option.bind_eq_some_iff.mp hv
      rcases List.mem_cons.mp hw with rfl | hw
      · exact st.depth_le_of_heap_get hg
      · exact st.depth_le_of_mem_stack (hs ▸ List.mem_cons_of_mem a hw)
    · exact .none
  case loadimm =>
    refine .bind fun v hg => .some ⟨fun w hw => ?_, st.heap_le_maxDepth⟩
    rcases List.mem_cons.mp hw with rfl | hw
    · exact st.depth_le_of_heap_get hg
    · exact st.depth_le_of_mem_stack hw

theorem step_maxDepth {o : Oracles} {ops : List Op} {st st' : Exec} (h : step o ops st = some st') :
    st'.maxDepth ≤ st.maxDepth + 1 := by
  unfold step at h
  split at h
  · simp at h
  · split at h
    · simp at h
    · rename_i st1 hex
      simp only [Option.some.injEq] at h
      subst h
      have := execOp_depth hex
      simp only [Exec.maxDepth] at *
      omega

theorem stepN_maxDepth (o : Oracles) (ops : List Op) : ∀ (k : Nat) (st st' : Exec),
    stepN o ops k st = some st' → st'.maxDepth ≤ st.maxDepth + k := by
  intro k
  induction k with
  | zero => intro st st' h; simp [stepN] at h; subst h; omega
  | succ k ih =>
    intro st st' h
    simp only [stepN, Option.bind_eq_some_iff] at h
    obtain ⟨st1, hs, h⟩ := h
    have h1 := step_maxDepth hs
    have h2 := ih st1 st' h
    omega

theorem stepN_phi (o : Oracles) (ops : List Op) : ∀ (k : Nat) (st st' : Exec),
    stepN o ops k st = some st' → k + phi ops st'.pc st'.loops ≤ phi ops st.pc st.loops := by
  intro k
  induction k with
  | zero => intro st st' h; simp [stepN] at h; subst h; omega
  | succ k ih =>
    intro st st' h
    simp only [stepN, Option.bind_eq_some_iff] at h
    obtain ⟨st1, hs, h⟩ := h
    have h1 := phi_step (step_some_pc_lt hs) hs
    have h2 := ih st1 st' h
    omega

theorem runFuel_result_depth (o : Oracles) (ops : List Op) : ∀ (fuel : Nat) (st : Exec) (n : Nat) (v : Value),
    (runFuel o ops fuel st n).1 = some v → v.depth + n ≤ st.maxDepth + (runFuel o ops fuel st n).2 := by
  intro fuel
  induction fuel with
  | zero => intro st n v h; simp [runFuel] at h
  | succ fuel ih =>
    intro st n v h
    simp only [runFuel] at h ⊢
    split at h
    · rename_i hpc
      simp only [hpc, if_true]
      cases hs : step o ops st with
      | none => simp [hs] at h
      | some st1 =>
        simp only [hs] at h
        have h1 := step_maxDepth hs
        have h2 := ih st1 (n + 1) v h
        simp only
        omega
    · rename_i hpc
      simp only [hpc, if_false]
      have := depth_le_of_mem (List.mem_of_mem_head? h)
      simp only [Exec.maxDepth]
      omega

theorem depth_nestVal : ∀ k, (nestVal k).depth = k + 1 := by
  intro k
  induction k with
  | zero => simp [nestVal]
  | succ k ih => simp [nestVal, ih]; omega

/-- `nestProg n` as a structured program -/
def nestS (n : UInt16) : List SInstr := [.op .vempty, .loop n [.op .vempty, .op .vpush]]

theorem nest_pass (o : Oracles) (heap : Heap) (k : Nat) :
    eval o [.op .vempty, .op .vpush] ([nestVal k], heap) = some ([nestVal (k + 1)], heap) := rfl

theorem nest_iter (o : Oracles) (heap : Heap) : ∀ j k,
    iter (eval o [.op .vempty, .op .vpush]) j ([nestVal k], heap) = some ([nestVal (k + j)], heap)
  | 0, k => rfl
  | j + 1, k => by
    rw [iter, nest_pass, Option.bind_some, nest_iter o heap j (k + 1), Nat.add_right_comm, Nat.add_assoc]

theorem nest_eval (o : Oracles) (n : UInt16) (heap : Heap) :
    eval o (nestS n) ([], heap) = some ([nestVal n.toNat], heap) := by
  show (iter (eval o [.op .vempty, .op .vpush]) n.toNat ([nestVal 0], heap)).bind (eval o []) = _
  rw [nest_iter, Nat.zero_add]; rfl

theorem dl_map_le {α} (f : α → Value) (d : Nat) (hf : ∀ a, (f a).depth ≤ d) (l : List α) : depthList (l.map f) ≤ d :=
  dl_le_iff.mpr fun v hv => by
    obtain ⟨a, _, rfl⟩ := List.mem_map.mp hv
    exact hf a

theorem depth_valOfTx (tx : Tx) : (valOfTx tx).depth ≤ 3 := by
  have h1 := dl_map_le valOfCoinID 1 (by intro a; simp [valOfCoinID]) tx.inputs
  have h2 := dl_map_le valOfCoinData 1 (by intro a; simp [valOfCoinData]) tx.outputs
  have h3 := dl_map_le Value.bytes 0 (by intro a; simp) tx.covenants
  have h4 := dl_map_le Value.bytes 0 (by intro a; simp) tx.sigs
  simp only [valOfTx, depth_vec, dl_cons, dl_nil, depth_ofNat, depth_bytes]
  omega

theorem depth_heapOfEnv (tx : Tx) (env : Option CovEnv) : Heap.depth (heapOfEnv tx env) ≤ 3 := by
  have := depth_valOfTx tx
  cases env with
  | none => simp [heapOfEnv, Heap.depth]; omega
  | some e => simp [heapOfEnv, Heap.depth, valOfHeader]; omega

end Mel.VM

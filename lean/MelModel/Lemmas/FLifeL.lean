/-
  The de-duplication marker of a faucet transaction: written as the zero-covenant coin, left alone by sealing and block
  opening; a literal run with two faucet batches. For Props/C19Life.lean.
-/
import MelModel.Chain
import MelModel.Genesis
import MelModel.Lemmas.Faucet
import MelModel.Lemmas.Swap
import MelModel.Lemmas.Blocks
namespace Mel
namespace FLifeL
open Mel.Gen

theorem noRequestAt_of_clear {id : CoinID} {txs : List Tx} (h : ∀ t ∈ txs, t.hash ≠ id.txhash) :
    NoRequestAt id txs := fun tx htx he => absurd he (h tx htx)

theorem sealState_getCoin {env : Env} {s : State} {a : Option ProposerAction} {ss : Sealed}
    (h : sealState env s a = .ok ss) {m : CoinID} (hclear : ∀ t ∈ s.txs, t.hash ≠ m.txhash)
    (hrew : env.rewardId s.height ≠ m.txhash) : ss.st.coins.getCoin m = s.coins.getCoin m :=
  sealState_coins m env s a ss h (noRequestAt_of_clear hclear) (fun e => hrew e.symm)

/-- the marker coin written by `handle_faucet_tx` -/
def marker : CoinDataHeight :=
  { coinData := { denom := .mel, value := 0, additionalData := [], covhash := zeroHash }, height := 0 }

theorem applyBatch_marker {env : Env} {s s' : State} {txs : List Tx} {fb : Header}
    (h : applyBatch env s txs fb = .ok s') {tx : Tx} (htx : tx ∈ txs) (hk : tx.kind = .faucet)
    (hng : env.isGrandfathered tx.hash = false)
    (hsep : ∀ t ∈ txs, ({ txhash := env.fdp tx.hash, index := 0 } : CoinID) ∉ t.inputs) :
    s'.coins.getCoin { txhash := env.fdp tx.hash, index := 0 } = some marker :=
  Mel.applyBatch_marker h htx hk hng hsep

/-- the covenant-weight guard of `loadRelevantCoins` (the fix for F19) -/
theorem applyBatch_covWeightsFit {env : Env} {s s' : State} {txs : List Tx} {fb : Header}
    (h : applyBatch env s txs fb = .ok s') {tx : Tx} (htx : tx ∈ txs) : tx.covWeightsFit = true := by
  obtain ⟨rel, _, _, hrel, _⟩ := applyBatch_ok h
  exact ((loadRelevantCoins_ok hrel).wf tx htx).2.2

namespace Witness

def env : Env := {
  vm := { hash := id, sigOk := fun _ _ _ => true },
  liqHash := id, fdp := fun h => 9 :: h, rewardId := fun _ => [], hdrHash := fun _ => [],
  powOk := fun _ _ _ _ => .invalid, isGrandfathered := fun _ => false,
  historyRoot := fun _ => [], coinsRoot := fun _ => [], txsRoot := fun _ _ => [],
  poolsRoot := fun _ => [], stakesRoot := fun _ => [] }

def cfg : GenesisConfig :=
  { network := .custom02, initCoindata := ⟨[7], 5, .mel, []⟩, stakes := [], initFeePool := 0, initFeeMultiplier := 0 }

/-- the faucet transaction whose marker is followed -/
def t : Tx := {
  kind := .faucet, inputs := [], outputs := [(⟨[8], 5, .mel, []⟩ : CoinData)], fee := 0,
  covenants := [], data := [], sigs := [], hash := [2], rawLen := 0, covHashes := [] }
def t2 : Tx := {
  kind := .faucet, inputs := [], outputs := [(⟨[8], 3, .sym, []⟩ : CoinData)], fee := 0,
  covenants := [], data := [], sigs := [], hash := [3], rawLen := 0, covHashes := [] }

def getOk {α} [Inhabited α] : Outcome α → α
  | .ok a => a
  | _ => default

theorem eq_getOk {α} [Inhabited α] {o : Outcome α} (h : o.isOk = true) : o = .ok (getOk o) := by
  cases o <;> first | rfl | cases h

def s0 : State := genesisState cfg
def s1 : State := getOk (applyBatch env s0 [t] default)
def s1b : State := getOk (applyBatch env s1 [t2] default)
def ss : Sealed := getOk (sealState env s1b none)
def s2 : State := getOk (nextUnsealed env ss)

/-- what is evaluated about this run, in one run of the kernel -/
theorem facts :
    ((applyBatch env s0 [t] default).isOk = true ∧ (applyBatch env s1 [t2] default).isOk = true ∧
      (sealState env s1b none).isOk = true ∧ (nextUnsealed env ss).isOk = true) ∧
    (∀ x ∈ s1b.txs, x.hash ≠ [9, 2]) ∧ s1.height < s2.height := by decide +kernel

theorem batch_ok : applyBatch env s0 [t] default = .ok s1 := eq_getOk facts.1.1
theorem batch2_ok : applyBatch env s1 [t2] default = .ok s1b := eq_getOk facts.1.2.1
theorem seal_ok : sealState env s1b none = .ok ss := eq_getOk facts.1.2.2.1
theorem next_ok : nextUnsealed env ss = .ok s2 := eq_getOk facts.1.2.2.2
theorem s1b_txs : ∀ x ∈ s1b.txs, x.hash ≠ [9, 2] := facts.2.1
theorem heights : s1.height < s2.height := facts.2.2

end Witness

end FLifeL
end Mel

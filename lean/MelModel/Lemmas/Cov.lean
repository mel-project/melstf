/- helper lemmas for C04 -/
import MelModel.ApplyTx
import MelModel.VM.Std
import MelModel.Lemmas.OutcomeL
import MelModel.Props.C10
namespace Mel
open Mel.Gen Mel.VM

theorem validateTxScripts_ok_iff (env : Env) (i : Nat) (id : CoinID) (tx : Tx) (coin : CoinDataHeight)
    (lh : Header) :
    validateTxScripts env i id tx coin lh = .ok () ↔
    ∃ bytes ops v, tx.findCovenant coin.coinData.covhash = some bytes ∧ decodeAll bytes = some ops ∧
      execute env.vm ops tx
        (some { parentCoinID := id, parentCdh := coin, spenderIndex := i % 256, lastHeader := lh }) = some v ∧
      v.intoBool = true := by
  unfold validateTxScripts
  cases hf : tx.findCovenant coin.coinData.covhash with
  | none => simp
  | some bytes =>
    simp only [Option.some.injEq, exists_and_left, exists_eq_left']
    cases hd : decodeAll bytes with
    | none => simp
    | some ops =>
      simp only [Option.some.injEq, exists_eq_left']
      cases he : execute env.vm ops tx
          (some { parentCoinID := id, parentCdh := coin, spenderIndex := i % 256, lastHeader := lh }) with
      | none => simp
      | some v => cases hb : v.intoBool <;> simp [hb]

theorem runFuel_succ (o : Oracles) (ops : List Op) (fuel : Nat) (st : Exec) (n : Nat)
    (h : st.pc < ops.length) :
    runFuel o ops (fuel + 1) st n =
      match step o ops st with
      | none => (none, n + 1)
      | some st' => runFuel o ops fuel st' (n + 1) := by
  rw [runFuel, if_pos h]
  cases step o ops st <;> rfl

/-- what the standard covenants compute when they look at signature slot `k` -/
def stdResult (o : Oracles) (pk : Bytes) (tx : Tx) (k : Nat) : Option Value :=
  match tx.sigs[k]? with
  | none => none
  | some sig => some (.ofBool (if sig.length = 64 then o.sigOk pk tx.hash sig else false))

theorem weightU_stdNew (pk : Bytes) : weightU (stdEd25519New pk) = 166 := by
  simp [weightU, weightUF, opWeight, stdEd25519New, wLoadImm, wPushI, wVRef, wPushB, wSigEOkBase]

theorem weightU_stdLegacy (pk : Bytes) : weightU (stdEd25519Legacy pk) = 163 := by
  simp [weightU, weightUF, opWeight, stdEd25519Legacy, wLoadImm, wPushI, wVRef, wPushB, wSigEOkBase]

/-- the seven instructions shared by the two standard covenants -/
def stdTail (pk : Bytes) : List Op :=
  [.pushi 6, .loadimm (u16 HADDR_SPENDER_TX), .vref, .vref, .pushb pk, .loadimm 1, .sigeok 32]

theorem heapOfEnv_get_tx (tx : Tx) (e : Option CovEnv) : (heapOfEnv tx e).get 0 = some (valOfTx tx) := by
  cases e <;> rfl

theorem heapOfEnv_get_txhash (tx : Tx) (e : Option CovEnv) : (heapOfEnv tx e).get 1 = some (.bytes tx.hash) := by
  cases e <;> rfl

theorem step_loadimm {o : Oracles} {ops : List Op} {st : Exec} {i : UInt16} {v : Value}
    (hop : ops[st.pc]? = some (.loadimm i)) (hg : st.heap.get i.toNat = some v) (hl : st.loops = []) :
    step o ops st = some ⟨v :: st.stack, st.heap, st.pc + 1, []⟩ := by
  rw [step_of_execOp hop (by rw [C10_loadimm, hg]; rfl), hl]; rfl

theorem std_tail (o : Oracles) (pk : Bytes) (hpk : pk.length = 32) (tx : Tx) (hh : tx.hash.length ≤ 32)
    (op0 : Op) (H : Heap) (h0 : H.get 0 = some (valOfTx tx)) (h1 : H.get 1 = some (.bytes tx.hash))
    (k : Nat) (hk : k ≤ 65535) (f n : Nat) :
    (runFuel o (op0 :: stdTail pk) (f + 8) ⟨[.int (BitVec.ofNat 256 k)], H, 1, []⟩ n).1 =
      stdResult o pk tx k := by
  have hkk : (BitVec.ofNat 256 k).toNat = k := by
    rw [BitVec.toNat_ofNat]; omega
  generalize BitVec.ofNat 256 k = kk at hkk
  have e4 : stepN o (op0 :: stdTail pk) 3 ⟨[.int kk], H, 1, []⟩ = some ⟨[.vec (tx.sigs.map .bytes), .int kk], H, 4, []⟩ := by
    have e2 : step o (op0 :: stdTail pk) ⟨[.int kk], H, 1, []⟩ = some ⟨[.int 6, .int kk], H, 2, []⟩ := rfl
    have e3 : step o (op0 :: stdTail pk) ⟨[.int 6, .int kk], H, 2, []⟩ = _ := step_loadimm rfl h0 rfl
    rw [stepN, e2, Option.bind_some, stepN, e3, Option.bind_some, stepN_one]
    rfl
  -- `vref` picks the signature, or fails
  have e5 : step o (op0 :: stdTail pk) ⟨[.vec (tx.sigs.map .bytes), .int kk], H, 4, []⟩ =
      (tx.sigs[k]?).map fun sig => ⟨[.bytes sig], H, 5, []⟩ := by
    rw [step_eq_map (op := .vref) rfl, C10_vref_actual o _ _ kk [] rfl, hkk, if_neg (Nat.not_lt.mpr hk),
      List.getElem?_map]
    cases tx.sigs[k]? <;> rfl
  rw [show f + 8 = 3 + (f + 4 + 1) by omega, runFuel_of_stepN _ _ _ _ _ _ _ e4,
    runFuel_succ _ _ _ _ _ (show 4 < 8 by decide), e5]
  unfold stdResult
  cases tx.sigs[k]? with
  | none => rfl
  | some sig =>
    have e8 : stepN o (op0 :: stdTail pk) 3 ⟨[.bytes sig], H, 5, []⟩ =
        some ⟨[.ofBool (if sig.length = 64 then o.sigOk pk tx.hash sig else false)], H, 8, []⟩ := by
      have e6 : step o (op0 :: stdTail pk) ⟨[.bytes sig], H, 5, []⟩ = some ⟨[.bytes pk, .bytes sig], H, 6, []⟩ := rfl
      have e7 : step o (op0 :: stdTail pk) ⟨[.bytes pk, .bytes sig], H, 6, []⟩ = _ := step_loadimm rfl h1 rfl
      rw [stepN, e6, Option.bind_some, stepN, e7, Option.bind_some, stepN_one]
      by_cases h64 : sig.length = 64
      · rw [if_pos h64, step_of_execOp rfl (C10_sigeok_ok o _ 32 _ _ _ [] rfl hpk hh h64)]; rfl
      · rw [if_neg h64, step_of_execOp rfl (C10_sigeok_sig_badlen o _ 32 _ _ _ [] rfl hpk hh h64)]; rfl
    rw [show f + 4 = 3 + (f + 1) by omega]
    exact congrArg Prod.fst (runFuel_of_stepN _ _ _ _ _ _ _ e8)

theorem execute_stdNew (o : Oracles) (pk : Bytes) (hpk : pk.length = 32) (tx : Tx) (e : CovEnv)
    (hh : tx.hash.length ≤ 32) (hidx : e.spenderIndex < 256) :
    execute o (stdEd25519New pk) tx (some e) = stdResult o pk tx e.spenderIndex := by
  unfold execute run
  have e1 : step o (stdEd25519New pk) (initExec (heapOfEnv tx (some e))) =
      some ⟨[.int (BitVec.ofNat 256 e.spenderIndex)], heapOfEnv tx (some e), 1, []⟩ :=
    step_loadimm (i := u16 HADDR_SPENDER_INDEX) rfl rfl rfl
  rw [weightU_stdNew, runFuel_succ _ _ _ _ _ (Nat.zero_lt_succ 7), e1]
  exact std_tail o pk hpk tx hh _ _ (heapOfEnv_get_tx tx _) (heapOfEnv_get_txhash tx _) _ (by omega) 158 _

theorem execute_stdLegacy (o : Oracles) (pk : Bytes) (hpk : pk.length = 32) (tx : Tx) (e : Option CovEnv)
    (hh : tx.hash.length ≤ 32) :
    execute o (stdEd25519Legacy pk) tx e = stdResult o pk tx 0 := by
  unfold execute run
  have e1 : step o (stdEd25519Legacy pk) (initExec (heapOfEnv tx e)) =
      some ⟨[.int (BitVec.ofNat 256 0)], heapOfEnv tx e, 1, []⟩ := rfl
  rw [weightU_stdLegacy, runFuel_succ _ _ _ _ _ (Nat.zero_lt_succ 7), e1]
  exact std_tail o pk hpk tx hh _ _ (heapOfEnv_get_tx tx e) (heapOfEnv_get_txhash tx e) 0 (by omega) 155 _

theorem ofBool_intoBool (b : Bool) : (Value.ofBool b).intoBool = b := by
  cases b <;> simp [Value.ofBool, Value.intoBool]

theorem stdResult_iff (o : Oracles) (pk : Bytes) (tx : Tx) (k : Nat) :
    (∃ v, stdResult o pk tx k = some v ∧ v.intoBool = true) ↔
    (∃ sig, tx.sigs[k]? = some sig ∧ sig.length = 64 ∧ o.sigOk pk tx.hash sig = true) := by
  unfold stdResult
  cases hs : tx.sigs[k]? with
  | none => simp
  | some sig =>
    by_cases h64 : sig.length = 64 <;> simp [ofBool_intoBool, h64]

end Mel

/- evaluation along a schedule (MelModel/Sched.lean) against the sequential passes; used by MelModel/Props/C03Sched.lean -/
import MelModel.Sched
import MelModel.Lemmas.OutcomeL
namespace Mel

open Outcome

theorem sched_forEach_eq {α} (f : α → Outcome Unit) (sch : Sched α) :
    sch.forEach f = Outcome.forM' f sch.items := by
  induction sch with
  | seg xs => rfl
  | join l r ihl ihr =>
    simp only [Sched.forEach, Sched.items, forM'_append, ihl, ihr]

/-! `hstep`: `step` fails or not whatever it starts from, and started from `u` it returns `max u m` for the `m` it
    returns from 0. -/

section
variable {α : Type} (step : Nat → α → Outcome Nat)
  (hstep : ∀ u a, (step u a).toOption = ((step 0 a).toOption).map (max u))
include hstep

theorem foldlM'_max (u : Nat) (xs : List α) :
    (foldlM' step u xs).toOption = ((foldlM' step 0 xs).toOption).map (max u) := by
  induction xs generalizing u with
  | nil => exact congrArg some (Nat.max_zero u).symm
  | cons a xs ih =>
    rw [foldlM'_cons, foldlM'_cons, toOption_bind, toOption_bind, hstep u a]
    cases (step 0 a).toOption with
    | none => rfl
    | some m =>
      show (foldlM' step (max u m) xs).toOption = ((foldlM' step m xs).toOption).map (max u)
      rw [ih (max u m), ih m]
      cases (foldlM' step 0 xs).toOption with
      | none => rfl
      | some b => exact congrArg some (Nat.max_assoc u m b)

/-- every segment may start from the same `u`: the maximum absorbs it -/
theorem foldReduce_max (u : Nat) (sch : Sched α) :
    (sch.foldReduce u step max).toOption = (foldlM' step u sch.items).toOption := by
  induction sch with
  | seg xs => rfl
  | join l r ihl ihr =>
    show ((l.foldReduce u step max).bind fun a => (r.foldReduce u step max).bind fun b => ok (max a b)).toOption =
      (foldlM' step u (l.items ++ r.items)).toOption
    rw [foldlM'_append, toOption_bind, toOption_bind, ihl, foldlM'_max step hstep u l.items]
    cases (foldlM' step 0 l.items).toOption with
    | none => rfl
    | some m =>
      show ((r.foldReduce u step max).bind fun b => ok (max (max u m) b)).toOption =
        (foldlM' step (max u m) r.items).toOption
      rw [toOption_bind, ihr, foldlM'_max step hstep u, foldlM'_max step hstep (max u m)]
      cases (foldlM' step 0 r.items).toOption with
      | none => rfl
      | some b =>
        exact congrArg some ((Nat.max_assoc _ u b).symm.trans (congrArg (max · b) (Nat.max_eq_left (Nat.le_max_left u m))))

end

theorem speedStep_max (env : Env) (s : State) (rel : Relevant) (u : Nat) (tx : Tx) :
    (speedStep env s rel u tx).toOption = ((speedStep env s rel 0 tx).toOption).map (max u) := by
  unfold speedStep
  split
  · rw [toOption_bind, toOption_bind]
    cases (validateDoscmint env s rel tx).toOption with
    | none => rfl
    | some sp => exact congrArg (fun x => some (max u x)) (Nat.zero_max sp).symm
  · exact congrArg some (Nat.max_zero u).symm

end Mel

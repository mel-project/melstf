/-
  A stake entry along the steps of a run: heights and epochs, unique keys, the entry of a hash after a batch and after
  a block; a literal run across an epoch boundary. For Props/C13Life.lean.
-/
import MelModel.Chain
import MelModel.Lemmas.StakeL
import MelModel.Lemmas.ChainL
import MelModel.Lemmas.TotalSeal
import MelModel.Lemmas.MapL
namespace Mel
namespace LifeL
open Mel.Gen

theorem block_height {env : Env} {s s' : State} {ss : Sealed} {a : Option ProposerAction}
    (h1 : sealState env s a = .ok ss) (h2 : nextUnsealed env ss = .ok s') : s'.height = s.height + 1 := by
  obtain ⟨_, _, _, e, _⟩ := nextUnsealed_ok env ss s' h2
  rw [e, (sealState_hhn env s a ss h1).2.1]

theorem epoch_mono {s s' : State} (h : s.height ≤ s'.height) : s.epoch ≤ s'.epoch :=
  Nat.div_le_div_right h

theorem keys_nodup_foldl_set (l : List (Hash × StakeDoc)) :
    ∀ (base : StakeSet), (AList.keys base).Nodup →
      (AList.keys (l.foldl (fun st e => StakeSet.addStake st e.1 e.2) base)).Nodup := by
  induction l with
  | nil => intro base hb; exact hb
  | cons e rest ih =>
    intro base hb
    simp only [List.foldl_cons]
    exact ih _ (AList.keys_nodup_set e.1 e.2 hb)

theorem batch_keys_nodup {env : Env} {s s' : State} {txs : List Tx} {fb : Header}
    (h : applyBatch env s txs fb = .ok s') (hu : (s.stakes.map (·.1)).Nodup) :
    (s'.stakes.map (·.1)).Nodup := by
  obtain ⟨_, ns, _, _, _, hst⟩ := applyBatch_stakes env s s' txs fb h
  rw [hst]
  exact keys_nodup_foldl_set ns.reverse s.stakes hu

theorem block_stakes {env : Env} {s s' : State} {ss : Sealed} {a : Option ProposerAction}
    (h1 : sealState env s a = .ok ss) (h2 : nextUnsealed env ss = .ok s') :
    s'.stakes = s.stakes.unlockOld ((s.height + 1) / STAKE_EPOCH) := by
  obtain ⟨hdr, c, -, e, -⟩ := nextUnsealed_shape h2
  rw [congrArg State.stakes e]
  show ss.st.stakes.unlockOld ((ss.st.height + 1) / STAKE_EPOCH) = _
  rw [(sealState_keeps h1).stakes, (sealState_keeps h1).height]

theorem block_keys_nodup {env : Env} {s s' : State} {ss : Sealed} {a : Option ProposerAction}
    (h1 : sealState env s a = .ok ss) (h2 : nextUnsealed env ss = .ok s') (hu : (s.stakes.map (·.1)).Nodup) :
    (s'.stakes.map (·.1)).Nodup := by
  rw [block_stakes h1 h2]
  exact List.Nodup.sublist (List.Sublist.map _ List.filter_sublist) hu

theorem batch_get_avoid {env : Env} {s s' : State} {txs : List Tx} {fb : Header}
    (h : applyBatch env s txs fb = .ok s') (k : Hash) (hne : ∀ t ∈ txs, t.hash ≠ k) :
    s'.stakes.getStake k = s.stakes.getStake k := by
  rw [(applyBatch_frame h).stakes k]
  cases hc : (SeqL.stakeMap s txs).get k with
  | none => rfl
  | some v =>
    obtain ⟨a, ha, he⟩ := SeqL.stakeMap_key hc
    exact absurd he.symm (hne a ha)

theorem block_get {env : Env} {s s' : State} {ss : Sealed} {a : Option ProposerAction}
    (h1 : sealState env s a = .ok ss) (h2 : nextUnsealed env ss = .ok s') (hu : (s.stakes.map (·.1)).Nodup)
    (k : Hash) :
    s'.stakes.getStake k =
      match s.stakes.getStake k with
      | some d => if d.ePostEnd ≥ s'.epoch then some d else none
      | none => none := by
  have he : s'.epoch = (s.height + 1) / STAKE_EPOCH := by
    unfold State.epoch; rw [block_height h1 h2]
  rw [block_stakes h1 h2, he]
  unfold StakeSet.unlockOld StakeSet.getStake
  rw [AList.get_filter _ _ hu]
  cases AList.get s.stakes k with
  | none => rfl
  | some d => simp

theorem votes_ge_of_get {st : StakeSet} {k : Hash} {d : StakeDoc} (hg : st.getStake k = some d) (epoch : Nat)
    (h1 : d.eStart ≤ epoch) (h2 : epoch < d.ePostEnd) : d.symsStaked ≤ st.votes epoch d.pubkey := by
  have hm : (k, d) ∈ st := AList.mem_of_get_eq_some hg
  unfold StakeSet.votes
  refine le_sum_of_mem (List.mem_map_of_mem (f := fun e : Hash × StakeDoc => e.2.symsStaked) (a := (k, d)) ?_)
  rw [List.mem_filter]
  refine ⟨hm, ?_⟩
  simp [StakeSet.active, h1, h2]

theorem nextUnsealed_isOk (env : Env) (ss : Sealed) (ph : Header)
    (hh : ss.st.history.get (ss.st.height - 1) = some ph) : ∃ s', nextUnsealed env ss = .ok s' :=
  let ⟨hdr, h⟩ := headerOf_total env ss (fun _ => ⟨ph, hh⟩)
  nextUnsealed_total env ss hdr h

namespace Witness

def env : Env := {
  vm := { hash := id, sigOk := fun _ _ _ => true },
  liqHash := id, fdp := fun h => 9 :: h, rewardId := fun _ => [], hdrHash := fun _ => [],
  powOk := fun _ _ _ _ => .invalid, isGrandfathered := fun _ => false,
  historyRoot := fun _ => [], coinsRoot := fun _ => [], txsRoot := fun _ _ => [],
  poolsRoot := fun _ => [], stakesRoot := fun _ => [] }

def doc : StakeDoc := { pubkey := [], eStart := 0, ePostEnd := 0, symsStaked := 0 }

/-- a state at the last height of epoch 0, holding the stake `doc` (which ends with epoch 0) under hash `[1]` -/
def s0 : State := {
  network := .custom02, height := STAKE_EPOCH - 1, history := [(STAKE_EPOCH - 2, default)], coins := {},
  txs := [], feePool := 0, feeMultiplier := 0, tips := 0, doscSpeed := 0, pools := [],
  stakes := [([1], doc)] }

theorem seal_ok : ∃ ss, sealState env s0 none = .ok ss := by
  have hpools : ∀ k, s0.pools.get k = none := fun k => rfl
  refine sealState_ok env s0 none
    (fun _ => ⟨List.nodup_nil, List.nodup_nil, fun a => rfl, fun e he => nomatch he⟩)
    (fun tx htx => nomatch htx) List.nodup_nil
    (fun k p h => by rw [hpools] at h; cases h)
    (fun p h => by rw [hpools] at h; cases h)
    (by show melInflow [] ≤ 2 ^ 124; decide) (by show 0 + 0 + 2 ^ 21 ≤ 2 ^ 127; decide)
    (by show STAKE_EPOCH - 1 < TIP_909_HEIGHT + 128 * SUBSIDY_HALVING; decide)

theorem crossing : ∃ ss s', sealState env s0 none = .ok ss ∧ nextUnsealed env ss = .ok s' ∧ s'.epoch = 1 := by
  obtain ⟨ss, hss⟩ := seal_ok
  obtain ⟨e1, e2, _⟩ := sealState_hhn env s0 none ss hss
  obtain ⟨s', hn⟩ := nextUnsealed_isOk env ss default (by rw [e1, e2]; rfl)
  refine ⟨ss, s', hss, hn, ?_⟩
  unfold State.epoch
  rw [block_height hss hn]
  rfl

end Witness

end LifeL
end Mel

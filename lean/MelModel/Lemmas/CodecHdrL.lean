/- the serialisation of headers (MelModel/Stdcode.lean: `encodeHeader`) is self-delimiting: its eleven fields are,
   each with `Cancels` from MelModel/Lemmas/CodecTxL.lean; used by MelModel/Props/CodecHdr.lean -/
import MelModel.Stdcode
import MelModel.Lemmas.CodecL
import MelModel.Lemmas.CodecTxL
namespace Mel.Stdcode
open Mel

theorem netID_ofNat?_toNat (n : NetID) : NetID.ofNat? n.toNat = some n := by
  cases n <;> rfl

theorem cancels_net : Cancels (fun _ : NetID => True) (fun n => [UInt8.ofNat n.toNat]) :=
  cancels_byte.comap NetID.toNat (fun _ => rfl) (fun n _ => by cases n <;> decide)
    fun n n' _ _ e => Option.some.inj (by rw [← netID_ofNat?_toNat n, e, netID_ofNat?_toNat n'])

/-- a height is a u64 and is written by the encoder of u128 -/
theorem cancels_putVarint64 : Cancels (· < 2 ^ 64) putVarint :=
  cancels_putVarint.comap (fun n => n) (fun _ => rfl) (fun _ h => Nat.lt_trans h (by decide)) fun _ _ _ _ e => e

theorem cancels_encodeHeader : Cancels HeaderOk encodeHeader :=
  (cancels_net |>.append (cancels_fixed 32) |>.append cancels_putVarint64 |>.append (cancels_fixed 32)
    |>.append (cancels_fixed 32) |>.append (cancels_fixed 32) |>.append cancels_putVarint |>.append cancels_putVarint
    |>.append cancels_putVarint |>.append (cancels_fixed 32) |>.append (cancels_fixed 32)).comap
    (fun h : Header => ((((((((((h.network, h.previous), h.height), h.historyHash), h.coinsHash), h.transactionsHash),
      h.feePool), h.feeMultiplier), h.doscSpeed), h.poolsHash), h.stakesHash))
    (fun _ => rfl)
    (fun _ ⟨⟨p, hh, ch, th, ph, sh⟩, ht, fp, fm, ds⟩ => ⟨⟨⟨⟨⟨⟨⟨⟨⟨⟨trivial, p⟩, ht⟩, hh⟩, ch⟩, th⟩, fp⟩, fm⟩, ds⟩, ph⟩, sh⟩)
    fun h h' _ _ e => by cases h; cases h'; cases e; rfl

end Mel.Stdcode

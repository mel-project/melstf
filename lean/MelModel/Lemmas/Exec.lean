/- helper lemmas for the executor laws (C10): `expLoop`, the normal form of `execOp`, one step, `k` steps -/
import MelModel.VM.Run
import MelModel.Lemmas.BytesL
namespace Mel.VM
open Mel

theorem expLoop_value_aux (M : Nat) (res b e : Nat) :
    (if e % 2 = 1 then res * b % M else res) * (b * b % M) ^ (e / 2) % M = res * b ^ e % M := by
  have he : b ^ e = (b * b) ^ (e / 2) * b ^ (e % 2) := by
    conv => lhs; rw [← Nat.div_add_mod e 2]
    rw [Nat.pow_add, Nat.pow_mul, Nat.pow_two]
  have hp : (b * b % M) ^ (e / 2) % M = (b * b) ^ (e / 2) % M := (Nat.pow_mod ..).symm
  rw [Nat.mul_mod, hp, he]
  rcases Nat.mod_two_eq_zero_or_one e with h | h
  · simp only [h, Nat.zero_ne_one, if_false, Nat.pow_zero, Nat.mul_one]
    rw [← Nat.mul_mod]
  · simp only [h, if_true, Nat.pow_one, Nat.mod_mod]
    rw [← Nat.mul_mod, Nat.mul_assoc, Nat.mul_comm b]

/-- the invariant of the squaring loop: with enough fuel for the bits of `e`, the loop succeeds
    exactly when `e` fits in the `k`-bit budget, and then returns `res * b^e mod 2^256` -/
theorem expLoop_eq : ∀ (f e b res k : Nat), e < 2 ^ f → res < U256_MOD →
    expLoop (f + 1) e b res k = if e < 2 ^ k then some (res * b ^ e % U256_MOD) else none := by
  intro f
  induction f with
  | zero =>
    intro e b res k he hres
    have : e = 0 := by simpa using he
    subst this
    simp [expLoop, Nat.pow_pos, Nat.mod_eq_of_lt hres]
  | succ f ih =>
    intro e b res k he hres
    rw [expLoop]
    by_cases h0 : e = 0
    · subst h0
      simp [Nat.pow_pos, Nat.mod_eq_of_lt hres]
    · rw [if_neg h0]
      cases k with
      | zero =>
        have : ¬ e < 2 ^ 0 := by simp; omega
        simp [this]
      | succ k =>
        have hk : ¬ (k + 1 = 0) := by omega
        rw [if_neg hk, Nat.add_sub_cancel]
        have he2 : e / 2 < 2 ^ f := by rw [Nat.pow_succ] at he; omega
        have hres' : (if e % 2 = 1 then res * b % U256_MOD else res) < U256_MOD := by
          split
          · exact Nat.mod_lt _ (by unfold U256_MOD; exact Nat.pow_pos (by omega))
          · exact hres
        rw [ih _ _ _ _ he2 hres', expLoop_value_aux]
        have hiff : e / 2 < 2 ^ k ↔ e < 2 ^ (k + 1) := by rw [Nat.pow_succ]; omega
        simp only [hiff]

theorem ofNat_mod_U256 (x : Nat) : BitVec.ofNat 256 (x % U256_MOD) = BitVec.ofNat 256 x := by
  apply BitVec.eq_of_toNat_eq
  simp only [BitVec.toNat_ofNat, U256_MOD, Nat.mod_mod]

theorem mod_u32_mod_256 (x : Nat) : x % 4294967296 % 256 = x % 256 :=
  Nat.mod_mod_of_dvd _ (by decide)

theorem listSet_eq {α} : ∀ (l : List α) (i : Nat) (v : α),
    listSet l i v = if i < l.length then some (l.set i v) else none
  | [], i, v => by simp [listSet]
  | x :: xs, 0, v => by simp [listSet]
  | x :: xs, i + 1, v => by
    rw [listSet, listSet_eq xs i v]
    by_cases h : i < xs.length <;> simp [h]

theorem slice_getElem? {α} (l : List α) (b e k : Nat) :
    (slice l b e)[k]? = if k < e - b then l[b + k]? else none := by
  unfold slice
  rw [List.getElem?_take]
  split
  · rw [List.getElem?_drop]
  · rfl

theorem slice_length {α} (l : List α) (b e : Nat) (he : e ≤ l.length) :
    (slice l b e).length = e - b := by
  unfold slice
  rw [List.length_take, List.length_drop]
  omega

/-- an index test against 65535 in front of a lookup is idle when the list has at most 65536 elements -/
theorem ite_index_gt {α β} {l : List β} (hl : l.length ≤ 65536) {i : Nat} {x : Option α} (hx : l.length ≤ i → x = none) :
    (if i > 65535 then none else x) = x := by
  split
  · exact (hx (by omega)).symm
  · rfl

/-! The normal form of `execOp`: 39 of the 49 instructions pop `k ≤ 3` operands, apply a partial function to them, push the one result and go to
  `pc + 1` with heap and loops untouched (`Op.isPure`).  `execOp_pure` says so once; what depends only on this form
  (frame, pc, underflow) is proved from it, and the ten others (`noop store load storeimm loadimm bez bnz jmp loop
  dup`) are looked at one by one. -/

inductive Shape where
  | nul (v : Value)
  | mon (f : Value → Option Value)
  | bin (f : Value → Value → Option Value)
  | tri (f : Value → Value → Value → Option Value)

def Shape.app : Shape → List Value → Option (List Value)
  | .nul v, s => some (v :: s)
  | .mon f, s => monop s f
  | .bin f, s => binop s f
  | .tri f, s => triop s f

def Shape.arity : Shape → Nat
  | .nul _ => 0 | .mon _ => 1 | .bin _ => 2 | .tri _ => 3

def Op.isPure : Op → Bool
  | .noop | .store | .load | .storeimm _ | .loadimm _ | .bez _ | .bnz _ | .jmp _ | .loop _ _ | .dup => false
  | _ => true

/-- the function of each instruction is found by unification with the arm of `execOp` -/
theorem execOp_pure (o : Oracles) (op : Op) (h : op.isPure) :
    ∃ sh : Shape, sh.arity = op.arity ∧
      ∀ st, execOp o op st = (sh.app st.stack).bind fun s => some (st.next s) := by
  cases op
  case noop | store | load | storeimm | loadimm | bez | bnz | jmp | loop | dup => all_goals cases h
  case vempty | bempty | pushb | pushi | pushic => all_goals exact ⟨.nul _, rfl, fun _ => rfl⟩
  case not | hash | vlength | blength | itob | btoi | typeq => all_goals exact ⟨.mon _, rfl, fun _ => rfl⟩
  case sigeok | vslice | vset | bslice | bset => all_goals exact ⟨.tri _, rfl, fun _ => rfl⟩
  all_goals exact ⟨.bin _, rfl, fun _ => rfl⟩

/-- the ten instructions that are looked at one by one -/
inductive Op.Special : Op → Prop
  | noop : Special .noop
  | store : Special .store
  | load : Special .load
  | dup : Special .dup
  | storeimm (i) : Special (.storeimm i)
  | loadimm (i) : Special (.loadimm i)
  | bez (j) : Special (.bez j)
  | bnz (j) : Special (.bnz j)
  | jmp (j) : Special (.jmp j)
  | loop (it n) : Special (.loop it n)

namespace Op

theorem special_of_not_pure {op : Op} (h : ¬ op.isPure) : op.Special := by
  cases op
  case noop | store | load | dup | storeimm | loadimm | bez | bnz | jmp | loop => all_goals constructor
  all_goals exact absurd rfl h

end Op

namespace Shape

theorem app_short (sh : Shape) {s : List Value} (h : s.length < sh.arity) : sh.app s = none := by
  cases sh
  · cases h
  · match s, h with
    | [], _ => rfl
  · match s, h with
    | [], _ => rfl
    | [_], _ => rfl
  · match s, h with
    | [], _ => rfl
    | [_], _ => rfl
    | [_, _], _ => rfl

end Shape

theorem execOp_intBinop (o : Oracles) (op : Op) (hop : op.isIntBinop) :
    ∃ f, ∀ st, execOp o op st = (binop st.stack (intBin f)).bind fun s => some (st.next s) := by
  cases op
  case add | sub | mul | div | rem | exp | and | or | xor | eql | lt | gt | shl | shr =>
    all_goals exact ⟨_, fun _ => rfl⟩
  all_goals cases hop

/-- a law about a given stack may be checked on the state in which the stack is spelt out, where it is a computation -/
theorem execOp_of_stack {o : Oracles} {op : Op} {st : Exec} {s : List Value} {r : Option Exec}
    (hs : st.stack = s) (h : execOp o op { st with stack := s } = r) : execOp o op st = r := by
  cases st
  cases hs
  exact h

theorem bind_next_eq_some {x : Option (List Value)} {st st' : Exec} :
    (x.bind fun s => some (st.next s)) = some st' ↔ ∃ s, x = some s ∧ st' = st.next s := by
  cases x <;> simp [eq_comm]

theorem intoInt_eq_none {x : Value} (h : ∀ a, x ≠ .int a) : x.intoInt = none := by
  cases x <;> first | rfl | exact absurd rfl (h _)

theorem intoU16_eq_none {x : Value} (h : ∀ a, x ≠ .int a) : x.intoU16 = none := by
  cases x <;> first | rfl | exact absurd rfl (h _)

theorem intoTruncU8_eq_none {x : Value} (h : ∀ a, x ≠ .int a) : x.intoTruncU8 = none := by
  cases x <;> first | rfl | exact absurd rfl (h _)

theorem intoVec_eq_none {x : Value} (h : ∀ l, x ≠ .vec l) : x.intoVec = none := by
  cases x <;> first | rfl | exact absurd rfl (h _)

theorem intoBytes_eq_none {x : Value} (h : ∀ b, x ≠ .bytes b) : x.intoBytes = none := by
  cases x <;> first | rfl | exact absurd rfl (h _)

theorem intBin_eq_none {f : U256 → U256 → Option U256} {x y : Value}
    (h : (∀ a, x ≠ .int a) ∨ (∀ b, y ≠ .int b)) : intBin f x y = none := by
  unfold intBin
  split
  · rcases h with h | h <;> exact absurd rfl (h _)
  · rfl

/-- `r`, if it is defined, satisfies `P`; proved by following the shape of the expression `r` -/
def OptAll {α} (P : α → Prop) (r : Option α) : Prop := ∀ a, r = some a → P a

theorem OptAll.none {α} {P : α → Prop} : OptAll P none := fun _ h => nomatch h

theorem OptAll.some {α} {P : α → Prop} {a : α} (h : P a) : OptAll P (some a) := fun _ e => Option.some.inj e ▸ h

theorem OptAll.ite {α} {P : α → Prop} {c : Prop} [Decidable c] {x y : Option α} (hx : OptAll P x) (hy : OptAll P y) :
    OptAll P (if c then x else y) := by
  split
  · exact hx
  · exact hy

theorem OptAll.bind {α β} {P : β → Prop} {x : Option α} {f : α → Option β} (h : ∀ a, x = Option.some a → OptAll P (f a)) :
    OptAll P (x.bind f) := by
  cases x
  · exact .none
  · exact h _ rfl

theorem OptAll.map {α β} {P : β → Prop} {x : Option α} {g : α → β} (h : ∀ a, P (g a)) : OptAll P (x.map g) := by
  cases x
  · exact .none
  · exact .some (h _)

theorem execOp_keeps_loops (o : Oracles) {op : Op} (st : Exec) (hop : ∀ it n, op ≠ .loop it n) :
    OptAll (fun st' => st'.loops = st.loops ∧ st.pc < st'.pc) (execOp o op st) := by
  by_cases hp : op.isPure
  · obtain ⟨sh, _, he⟩ := execOp_pure o op hp
    rw [he]
    exact .bind fun _ _ => .some ⟨rfl, Nat.lt_succ_self _⟩
  · cases Op.special_of_not_pure hp
    case noop => exact .some ⟨rfl, Nat.lt_succ_self _⟩
    case jmp => exact .some ⟨rfl, Nat.lt_add_right _ (Nat.lt_succ_self _)⟩
    case loadimm => exact .bind fun _ _ => .some ⟨rfl, Nat.lt_succ_self _⟩
    case store =>
      simp only [execOp]
      split
      · exact .map fun _ => ⟨rfl, Nat.lt_succ_self _⟩
      · exact .none
    case load =>
      simp only [execOp]
      split
      · exact .bind fun _ _ => .some ⟨rfl, Nat.lt_succ_self _⟩
      · exact .none
    case storeimm | dup =>
      all_goals
        simp only [execOp]
        split
        · exact .some ⟨rfl, Nat.lt_succ_self _⟩
        · exact .none
    case bez | bnz =>
      all_goals
        simp only [execOp]
        split
        · exact .ite (.some ⟨rfl, by dsimp only; omega⟩) (.some ⟨rfl, by dsimp only; omega⟩)
        · exact .none
    case loop it n => exact absurd rfl (hop it n)

theorem execOp_cases {o : Oracles} {op : Op} {st st' : Exec} (h : execOp o op st = some st') :
    (st'.loops = st.loops ∧ st.pc < st'.pc) ∨
    (∃ it n, op = .loop it n ∧ 0 < it.toNat ∧ st'.pc = st.pc + 1 ∧
      st'.loops = { begin_ := st.pc + 1, end_ := st.pc + n.toNat, left := it.toNat - 1 } :: st.loops ∧
      (∀ last tl, st.loops = last :: tl → st.pc + n.toNat ≤ last.end_)) := by
  by_cases hop : ∃ it n, op = .loop it n
  · obtain ⟨it, n, rfl⟩ := hop
    have e : st.pc + 1 + n.toNat - 1 = st.pc + n.toNat := by omega
    simp only [execOp, e] at h
    split at h
    · rename_i hit
      refine .inr ⟨it, n, rfl, hit, ?_⟩
      split at h
      · rename_i last tl hl
        split at h
        · cases h
        · rename_i hle
          obtain rfl := Option.some.inj h
          refine ⟨rfl, by rw [hl], ?_⟩
          intro last' tl' hl'
          obtain ⟨rfl, _⟩ := List.cons.inj (hl.symm.trans hl')
          omega
      · rename_i hl
        obtain rfl := Option.some.inj h
        exact ⟨rfl, by rw [hl], fun _ _ hl' => by rw [hl] at hl'; cases hl'⟩
    · obtain rfl := Option.some.inj h
      exact .inl ⟨rfl, Nat.lt_add_right _ (Nat.lt_succ_self _)⟩
  · exact .inl (execOp_keeps_loops o st (fun it n e => hop ⟨it, n, e⟩) st' h)

theorem execOp_straight (o : Oracles) (op : Op) (st : Exec) (h : op.isStraight = true) :
    execOp o op st =
      (execOp o op { stack := st.stack, heap := st.heap, pc := 0, loops := [] }).map fun st' =>
        { stack := st'.stack, heap := st'.heap, pc := st.pc + 1, loops := st.loops } := by
  by_cases hp : op.isPure
  · obtain ⟨sh, _, he⟩ := execOp_pure o op hp
    rw [he, he]
    cases sh.app st.stack <;> rfl
  · cases Op.special_of_not_pure hp
    case loop | jmp | bez | bnz => all_goals cases h
    case noop => rfl
    case loadimm i =>
      simp only [execOp]
      cases st.heap.get i.toNat <;> rfl
    case store =>
      simp only [execOp]
      split
      · rename_i x y r _
        cases x.intoU16 <;> rfl
      · rfl
    case load =>
      simp only [execOp]
      split
      · rename_i x r _
        generalize (x.intoU16.bind fun addr => st.heap.get addr) = q
        cases q <;> rfl
      · rfl
    case storeimm | dup =>
      all_goals
        simp only [execOp]
        split <;> rfl

theorem iter_add {α} (f : α → Option α) : ∀ (m n : Nat) (a : α),
    iter f (m + n) a = (iter f m a).bind (iter f n)
  | 0, n, a => by rw [Nat.zero_add]; rfl
  | m + 1, n, a => by
    rw [Nat.add_right_comm, iter, iter]
    cases f a with
    | none => rfl
    | some b => exact iter_add f m n b

theorem iter_congr {α} {f g : α → Option α} (h : ∀ a, f a = g a) (k : Nat) (a : α) :
    iter f k a = iter g k a := by
  rw [funext h]

theorem iter_iter {α} (f : α → Option α) (b : Nat) : ∀ (a : Nat) (x : α),
    iter (iter f b) a x = iter f (a * b) x
  | 0, x => by rw [Nat.zero_mul]; rfl
  | a + 1, x => by
    rw [iter, Nat.succ_mul, Nat.add_comm, iter_add]
    cases iter f b x with
    | none => rfl
    | some y => exact iter_iter f b a y

theorem step_eq_map {o : Oracles} {ops : List Op} {st : Exec} {op : Op} (hop : ops[st.pc]? = some op) :
    step o ops st = (execOp o op st).map fun st1 =>
      { st1 with pc := (updatePc st1.pc st1.loops).1, loops := (updatePc st1.pc st1.loops).2 } := by
  unfold step
  rw [hop]
  simp only
  cases execOp o op st <;> rfl

theorem step_of_execOp {o : Oracles} {ops : List Op} {st st1 : Exec} {op : Op}
    (hop : ops[st.pc]? = some op) (h : execOp o op st = some st1) :
    step o ops st =
      some { st1 with pc := (updatePc st1.pc st1.loops).1, loops := (updatePc st1.pc st1.loops).2 } := by
  rw [step_eq_map hop, h]; rfl

theorem step_some_pc_lt {o : Oracles} {ops : List Op} {st st' : Exec}
    (h : step o ops st = some st') : st.pc < ops.length := by
  unfold step at h
  split at h
  · cases h
  · rename_i op hop
    exact (List.getElem?_eq_some_iff.mp hop).1

theorem stepN_eq_iter (o : Oracles) (ops : List Op) : ∀ (k : Nat) (st : Exec),
    stepN o ops k st = iter (step o ops) k st
  | 0, _ => rfl
  | k + 1, st => by
    rw [stepN, iter]
    cases step o ops st with
    | none => rfl
    | some st' => exact stepN_eq_iter o ops k st'

theorem stepN_add (o : Oracles) (ops : List Op) (a b : Nat) (st : Exec) :
    stepN o ops (a + b) st = (stepN o ops a st).bind (stepN o ops b) := by
  rw [stepN_eq_iter, stepN_eq_iter, iter_add, funext (stepN_eq_iter o ops b)]

theorem stepN_one (o : Oracles) (ops : List Op) (st : Exec) :
    stepN o ops 1 st = step o ops st := by
  simp [stepN]

theorem runFuel_of_stepN (o : Oracles) (ops : List Op) : ∀ (k f : Nat) (st st' : Exec) (m : Nat),
    stepN o ops k st = some st' → runFuel o ops (k + f) st m = runFuel o ops f st' (m + k)
  | 0, f, st, st', m, h => by
    simp only [stepN, Option.some.injEq] at h
    subst h
    simp
  | k + 1, f, st, st', m, h => by
    rw [stepN] at h
    cases hs : step o ops st with
    | none => rw [hs] at h; simp at h
    | some st1 =>
      rw [hs] at h
      simp only [Option.bind_some] at h
      have hpc := step_some_pc_lt hs
      rw [Nat.add_right_comm, runFuel, if_pos hpc, hs]
      simp only
      rw [runFuel_of_stepN o ops k f st1 st' (m + 1) h, Nat.add_assoc, Nat.add_comm 1 k]

end Mel.VM

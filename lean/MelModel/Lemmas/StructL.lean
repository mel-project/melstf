/- helper lemmas for the refinement of the structured semantics by the flat executor (C10Struct) -/
import MelModel.VM.Struct
import MelModel.Lemmas.Cost
import MelModel.Props.C10
namespace Mel.VM
open Mel

@[simp] theorem flatten_nil : flatten [] = [] := rfl
@[simp] theorem flatten_cons (i : SInstr) (r : List SInstr) :
    flatten (i :: r) = i.flatten ++ flatten r := rfl
@[simp] theorem sinstr_flatten_op (op : Op) : (SInstr.op op).flatten = [op] := rfl
@[simp] theorem sinstr_flatten_loop (it : UInt16) (body : List SInstr) :
    (SInstr.loop it body).flatten =
      Op.loop it (UInt16.ofNat (flatten body).length) :: flatten body := rfl

@[simp] theorem eval_nil (o : Oracles) (sh : List Value × Heap) : eval o [] sh = some sh := rfl
@[simp] theorem eval_cons (o : Oracles) (i : SInstr) (r : List SInstr) (sh : List Value × Heap) :
    eval o (i :: r) sh = (i.eval o sh).bind (eval o r) := rfl
@[simp] theorem sinstr_eval_op (o : Oracles) (op : Op) (sh : List Value × Heap) :
    (SInstr.op op).eval o sh = straight o [op] sh := rfl
@[simp] theorem sinstr_eval_loop (o : Oracles) (it : UInt16) (body : List SInstr)
    (sh : List Value × Heap) :
    (SInstr.loop it body).eval o sh = iter (eval o body) it.toNat sh := rfl

/-- the same equations at function level: they also rewrite an `eval o P` that stands unapplied under `bind` or `iter`.
    `simp only [eval_fun]` turns `eval` on a literal program into `iter`/`straight`, which `rfl` computes (`rfl` through
    the nested structural recursion of `eval` itself does not come back in the elaborator) -/
theorem eval_fun (o : Oracles) :
    eval o [] = some ∧
    (∀ i r, eval o (i :: r) = fun sh => (i.eval o sh).bind (eval o r)) ∧
    (∀ op, (SInstr.op op).eval o = straight o [op]) ∧
    (∀ it body, (SInstr.loop it body).eval o = iter (eval o body) it.toNat) :=
  ⟨rfl, fun _ _ => rfl, fun _ => rfl, fun _ _ => rfl⟩

@[simp] theorem stepsOf_nil : stepsOf [] = 0 := rfl
@[simp] theorem stepsOf_cons (i : SInstr) (r : List SInstr) :
    stepsOf (i :: r) = i.steps + stepsOf r := rfl
@[simp] theorem sinstr_steps_op (op : Op) : (SInstr.op op).steps = 1 := rfl
@[simp] theorem sinstr_steps_loop (it : UInt16) (body : List SInstr) :
    (SInstr.loop it body).steps = 1 + it.toNat * stepsOf body := rfl

theorem WF_nil : WF [] := rfl

theorem WF_cons (i : SInstr) (r : List SInstr) : WF (i :: r) ↔ i.WF ∧ WF r := by
  simp [WF, SInstr.WF, wf]

theorem sinstr_WF_op (op : Op) : (SInstr.op op).WF ↔ op.isStraight = true := by
  simp [SInstr.WF, SInstr.wf]

theorem sinstr_WF_loop (it : UInt16) (body : List SInstr) :
    (SInstr.loop it body).WF ↔
      WF body ∧ 1 ≤ (flatten body).length ∧ (flatten body).length < 65536 := by
  simp [SInstr.WF, WF, SInstr.wf, and_assoc]

theorem sinstr_flatten_length_pos (i : SInstr) : 1 ≤ i.flatten.length := by
  cases i <;> simp

theorem flatten_length_pos {P : List SInstr} (h : P ≠ []) : 1 ≤ (flatten P).length := by
  cases P with
  | nil => exact absurd rfl h
  | cons i r =>
    have := sinstr_flatten_length_pos i
    simp only [flatten_cons, List.length_append]
    omega

theorem flatten_eq_nil_iff (P : List SInstr) : flatten P = [] ↔ P = [] := by
  constructor
  · intro h
    false_or_by_contra
    rename_i hne
    have := flatten_length_pos hne
    rw [h] at this
    simp at this
  · rintro rfl; rfl

theorem flatten_map_op (B : List Op) : flatten (B.map SInstr.op) = B := by
  induction B with
  | nil => rfl
  | cons op r ih => simp [ih]

theorem eval_map_op (o : Oracles) (B : List Op) (sh : List Value × Heap) :
    eval o (B.map SInstr.op) sh = straight o B sh := by
  induction B generalizing sh with
  | nil => rfl
  | cons op r ih =>
    simp only [List.map_cons, eval_cons, sinstr_eval_op, straight]
    cases execOp o op { stack := sh.1, heap := sh.2, pc := 0, loops := [] } with
    | none => rfl
    | some st' => simp only [Option.bind_some]; exact ih _

theorem stepsOf_map_op (B : List Op) : stepsOf (B.map SInstr.op) = B.length := by
  induction B with
  | nil => rfl
  | cons op r ih => simp [ih]; omega

theorem WF_map_op (B : List Op) (hS : ∀ op ∈ B, op.isStraight = true) : WF (B.map SInstr.op) := by
  induction B with
  | nil => rfl
  | cons op r ih =>
    rw [List.map_cons, WF_cons, sinstr_WF_op]
    exact ⟨hS op (by simp), ih fun op' h' => hS op' (List.mem_cons_of_mem _ h')⟩

theorem eval_singleton (o : Oracles) (i : SInstr) (sh : List Value × Heap) :
    eval o [i] sh = i.eval o sh := by
  simp only [eval_cons]
  cases i.eval o sh <;> rfl

/-- the machine just after an instruction that moved the pc to `e` under the loop stack `Ls` — the loop bookkeeping
    `updatePc e Ls` applied: inside the innermost loop nothing happens; exactly one past its end the innermost frame
    takes over (jump back, or drop the frame and look at the next one) -/
def afterAt (Ls : List LoopState) (e : Nat) (sh : List Value × Heap) : Exec :=
  { stack := sh.1, heap := sh.2, pc := (updatePc e Ls).1, loops := (updatePc e Ls).2 }

theorem updatePc_within (pc : Nat) (Ls : List LoopState)
    (h : ∀ L rest, Ls = L :: rest → pc ≤ L.end_) : updatePc pc Ls = (pc, Ls) := by
  cases Ls with
  | nil => rfl
  | cons L rest =>
    have h1 : ¬ pc > L.end_ := by have := h L rest rfl; omega
    simp only [updatePc, h1, if_false]

theorem afterAt_within (pc : Nat) (Ls : List LoopState) (sh : List Value × Heap)
    (h : ∀ L rest, Ls = L :: rest → pc ≤ L.end_) :
    afterAt Ls pc sh = { stack := sh.1, heap := sh.2, pc := pc, loops := Ls } := by
  simp only [afterAt, updatePc_within pc Ls h]

theorem updatePc_frame_end (b e m : Nat) (Ls : List LoopState) :
    updatePc (e + 1) ({ begin_ := b, end_ := e, left := m } :: Ls) =
      if m > 0 then (b, { begin_ := b, end_ := e, left := m - 1 } :: Ls) else updatePc (e + 1) Ls := by
  have h1 : e + 1 > e := by omega
  have h2 : e + 1 - e = 1 := by omega
  simp only [updatePc, h1, h2, if_true, and_true]

theorem afterAt_frame_last (b e : Nat) (Ls : List LoopState) :
    afterAt ({ begin_ := b, end_ := e, left := 0 } :: Ls) (e + 1) = afterAt Ls (e + 1) := by
  funext sh
  simp [afterAt, updatePc_frame_end]

theorem afterAt_frame_more (b e m : Nat) (Ls : List LoopState) (sh : List Value × Heap) :
    afterAt ({ begin_ := b, end_ := e, left := m + 1 } :: Ls) (e + 1) sh =
      { stack := sh.1, heap := sh.2, pc := b, loops := { begin_ := b, end_ := e, left := m } :: Ls } := by
  simp [afterAt, updatePc_frame_end]

/-- `k` machine steps from `st` give `r`; and when `r = none` the failure is a failure of the run (`runFuel` reports
    `none` whatever fuel is added) — not the pc leaving the program, which `runFuel` treats as the normal end -/
def Sim (o : Oracles) (ops : List Op) (k : Nat) (st : Exec) (r : Option Exec) : Prop :=
  stepN o ops k st = r ∧ (r = none → ∀ f m, (runFuel o ops (k + f) st m).1 = none)

namespace Sim

theorem bind {α} {o : Oracles} {ops : List Op} {a b : Nat} {st : Exec} {x : Option α}
    {g : α → Exec} {h : α → Option Exec}
    (h1 : Sim o ops a st (x.map g)) (h2 : ∀ y, x = some y → Sim o ops b (g y) (h y)) :
    Sim o ops (a + b) st (x.bind h) := by
  cases x with
  | none =>
    obtain ⟨e1, f1⟩ := h1
    refine ⟨by rw [stepN_add, e1]; rfl, fun _ f m => ?_⟩
    rw [Nat.add_assoc]
    exact f1 rfl _ _
  | some y =>
    obtain ⟨e1, _⟩ := h1
    obtain ⟨e2, f2⟩ := h2 y rfl
    refine ⟨by rw [stepN_add, e1]; exact e2, fun hn f m => ?_⟩
    rw [Nat.add_assoc, runFuel_of_stepN o ops a (b + f) st (g y) m e1]
    exact f2 hn _ _

theorem of_step {o : Oracles} {ops : List Op} {st : Exec} {r : Option Exec}
    (hpc : st.pc < ops.length) (h : step o ops st = r) : Sim o ops 1 st r := by
  refine ⟨by rw [stepN_one, h], fun hn f m => ?_⟩
  subst hn
  rw [Nat.add_comm, runFuel, if_pos hpc, h]

end Sim

theorem sim_op (o : Oracles) (ops post : List Op) (st : Exec) (op : Op)
    (hdrop : ops.drop st.pc = op :: post) (hs : op.isStraight = true) :
    Sim o ops 1 st ((straight o [op] (st.stack, st.heap)).map (afterAt st.loops (st.pc + 1))) := by
  have hop : ops[st.pc]? = some op := getElem?_of_drop hdrop
  have hpc : st.pc < ops.length := (List.getElem?_eq_some_iff.mp hop).1
  apply Sim.of_step hpc
  rw [step_eq_map hop, execOp_straight o op st hs]
  simp only [straight]
  cases execOp o op { stack := st.stack, heap := st.heap, pc := 0, loops := [] } <;> rfl

theorem step_loop_skip (o : Oracles) (ops rest : List Op) (st : Exec) (it n : UInt16)
    (hdrop : ops.drop st.pc = Op.loop it n :: rest) (hit : it.toNat = 0) :
    step o ops st = some (afterAt st.loops (st.pc + 1 + n.toNat) (st.stack, st.heap)) := by
  rw [step_of_execOp (getElem?_of_drop hdrop) (C10_loop_zero o st it n hit)]
  rfl

theorem step_loop_enter (o : Oracles) (ops rest : List Op) (st : Exec) (it n : UInt16)
    (hdrop : ops.drop st.pc = Op.loop it n :: rest) (hit : it.toNat > 0) (hn : 1 ≤ n.toNat)
    (henc : ∀ L tl, st.loops = L :: tl → st.pc + n.toNat ≤ L.end_) :
    step o ops st =
      some { stack := st.stack, heap := st.heap, pc := st.pc + 1,
             loops := { begin_ := st.pc + 1, end_ := st.pc + n.toNat, left := it.toNat - 1 }
               :: st.loops } := by
  have e : st.pc + 1 + n.toNat - 1 = st.pc + n.toNat := by omega
  have hex : execOp o (.loop it n) st =
      some { st with pc := st.pc + 1,
                     loops := { begin_ := st.pc + 1, end_ := st.pc + n.toNat, left := it.toNat - 1 }
                       :: st.loops } := by
    cases hl : st.loops with
    | nil => rw [C10_loop_enter o st it n hit hl, e]
    | cons L tl =>
      rw [C10_loop_nested o st it n hit L tl hl, if_neg (by have := henc L tl hl; omega), e, hl]
  have hw := updatePc_within (st.pc + 1)
    ({ begin_ := st.pc + 1, end_ := st.pc + n.toNat, left := it.toNat - 1 } :: st.loops)
    (fun L _ h => by obtain ⟨rfl, _⟩ := List.cons.inj h; show st.pc + 1 ≤ st.pc + n.toNat; omega)
  rw [step_of_execOp (getElem?_of_drop hdrop) hex]
  simp only [hw]

/-- all passes of a loop body from the simulation of one pass -/
theorem sim_iter (o : Oracles) (ops : List Op) (f : List Value × Heap → Option (List Value × Heap))
    (S b e : Nat) (Ls : List LoopState)
    (hbody : ∀ (m : Nat) (sh : List Value × Heap),
      Sim o ops S
        { stack := sh.1, heap := sh.2, pc := b, loops := { begin_ := b, end_ := e, left := m } :: Ls }
        ((f sh).map (afterAt ({ begin_ := b, end_ := e, left := m } :: Ls) (e + 1)))) :
    ∀ (m : Nat) (sh : List Value × Heap),
      Sim o ops ((m + 1) * S)
        { stack := sh.1, heap := sh.2, pc := b, loops := { begin_ := b, end_ := e, left := m } :: Ls }
        ((iter f (m + 1) sh).map (afterAt Ls (e + 1))) := by
  intro m
  induction m with
  | zero =>
    intro sh
    have h := hbody 0 sh
    rw [afterAt_frame_last] at h
    have e1 : iter f (0 + 1) sh = f sh := by
      simp only [iter]
      cases f sh <;> rfl
    rw [e1, Nat.zero_add, Nat.one_mul]
    exact h
  | succ m ih =>
    intro sh
    have e1 : (m + 1 + 1) * S = S + (m + 1) * S := by rw [Nat.succ_mul, Nat.add_comm]
    have e2 : (iter f (m + 1 + 1) sh).map (afterAt Ls (e + 1)) =
        (f sh).bind fun y => (iter f (m + 1) y).map (afterAt Ls (e + 1)) := by
      rw [iter, Option.map_bind]; rfl
    rw [e1, e2]
    refine Sim.bind (hbody (m + 1) sh) fun y _ => ?_
    rw [afterAt_frame_more]
    exact ih y

mutual
/-- one structured instruction at the pc, the rest of the flat program arbitrary, under an arbitrary loop stack whose
    innermost loop does not end before the instruction does -/
theorem sinstr_sim (o : Oracles) (ops : List Op) : ∀ (i : SInstr) (post : List Op) (st : Exec),
    i.WF → ops.drop st.pc = i.flatten ++ post →
    (∀ L tl, st.loops = L :: tl → st.pc + i.flatten.length ≤ L.end_ + 1) →
    Sim o ops i.steps st
      ((i.eval o (st.stack, st.heap)).map (afterAt st.loops (st.pc + i.flatten.length)))
  | .op op, post, st, hwf, hdrop, _ => by
    rw [sinstr_WF_op] at hwf
    exact sim_op o ops post st op hdrop hwf
  | .loop it body, post, st, hwf, hdrop, henc => by
    rw [sinstr_WF_loop] at hwf
    obtain ⟨hwfb, hpos, hlt⟩ := hwf
    have hne : body ≠ [] := by
      intro h; subst h; simp at hpos
    have hn : (UInt16.ofNat (flatten body).length).toNat = (flatten body).length :=
      UInt16.toNat_ofNat_of_lt' hlt
    simp only [sinstr_flatten_loop, List.cons_append] at hdrop
    simp only [sinstr_flatten_loop, List.length_cons] at henc ⊢
    have hop : ops[st.pc]? = some (Op.loop it (UInt16.ofNat (flatten body).length)) :=
      getElem?_of_drop hdrop
    have hpc : st.pc < ops.length := (List.getElem?_eq_some_iff.mp hop).1
    simp only [sinstr_steps_loop, sinstr_eval_loop]
    by_cases hit : it.toNat = 0
    · have hs := step_loop_skip o ops _ st it _ hdrop hit
      rw [hn] at hs
      have e : st.pc + ((flatten body).length + 1) = st.pc + 1 + (flatten body).length := by omega
      rw [hit, Nat.zero_mul, Nat.add_zero, e]
      exact Sim.of_step hpc hs
    · have hit' : it.toNat > 0 := by omega
      have hs := step_loop_enter o ops _ st it _ hdrop hit' (by rw [hn]; exact hpos)
        (by intro L tl hl; have := henc L tl hl; rw [hn]; omega)
      rw [hn] at hs
      have hdrop' : ops.drop (st.pc + 1) = flatten body ++ post := drop_succ_of_drop hdrop
      have hiter := sim_iter o ops (eval o body) (stepsOf body) (st.pc + 1)
        (st.pc + (flatten body).length) st.loops
        (fun m sh => by
          have h := sim_list o ops body post
            { stack := sh.1, heap := sh.2, pc := st.pc + 1,
              loops := { begin_ := st.pc + 1, end_ := st.pc + (flatten body).length, left := m }
                :: st.loops }
            hne hwfb hdrop'
            (by
              intro L tl hl
              simp only [List.cons.injEq] at hl
              rw [← hl.1]
              simp only
              omega)
          have e : st.pc + 1 + (flatten body).length = st.pc + (flatten body).length + 1 := by
            omega
          simp only [e] at h
          exact h)
        (it.toNat - 1) (st.stack, st.heap)
      have e1 : it.toNat - 1 + 1 = it.toNat := by omega
      have e2 : st.pc + ((flatten body).length + 1) = st.pc + (flatten body).length + 1 := by
        omega
      rw [e1] at hiter
      rw [e2]
      have h1 : Sim o ops 1 st ((some ()).map fun _ =>
          ({ stack := st.stack, heap := st.heap, pc := st.pc + 1,
             loops := { begin_ := st.pc + 1, end_ := st.pc + (flatten body).length,
                        left := it.toNat - 1 } :: st.loops } : Exec)) :=
        Sim.of_step hpc hs
      exact Sim.bind h1 fun _ _ => hiter
theorem sim_list (o : Oracles) (ops : List Op) : ∀ (P : List SInstr) (post : List Op) (st : Exec),
    P ≠ [] → WF P → ops.drop st.pc = flatten P ++ post →
    (∀ L tl, st.loops = L :: tl → st.pc + (flatten P).length ≤ L.end_ + 1) →
    Sim o ops (stepsOf P) st
      ((eval o P (st.stack, st.heap)).map (afterAt st.loops (st.pc + (flatten P).length)))
  | [], _, _, hne, _, _, _ => absurd rfl hne
  | i :: rest, post, st, _, hwf, hdrop, henc => by
    rw [WF_cons] at hwf
    obtain ⟨hwfi, hwfr⟩ := hwf
    by_cases hr : rest = []
    · subst hr
      simp only [flatten_cons, flatten_nil, List.append_nil, stepsOf_cons, stepsOf_nil,
        Nat.add_zero] at hdrop henc ⊢
      rw [eval_singleton]
      exact sinstr_sim o ops i post st hwfi hdrop henc
    · have hposr := flatten_length_pos hr
      simp only [flatten_cons, List.append_assoc, List.length_append] at hdrop henc
      simp only [flatten_cons, List.length_append, stepsOf_cons, eval_cons]
      have hi := sinstr_sim o ops i (flatten rest ++ post) st hwfi hdrop
        (by intro L tl hl; have := henc L tl hl; omega)
      have e2 : ((i.eval o (st.stack, st.heap)).bind (eval o rest)).map
            (afterAt st.loops (st.pc + (i.flatten.length + (flatten rest).length))) =
          (i.eval o (st.stack, st.heap)).bind fun y =>
            (eval o rest y).map
              (afterAt st.loops (st.pc + (i.flatten.length + (flatten rest).length))) := by
        rw [Option.map_bind]; rfl
      rw [e2]
      refine Sim.bind hi fun y _ => ?_
      rw [afterAt_within _ _ _ (by intro L tl hl; have := henc L tl hl; omega)]
      have h := sim_list o ops rest post
        { stack := y.1, heap := y.2, pc := st.pc + i.flatten.length, loops := st.loops }
        hr hwfr (drop_add_of_drop_append hdrop)
        (by intro L tl hl; have := henc L tl hl; simp only at hl ⊢; omega)
      have e3 : st.pc + i.flatten.length + (flatten rest).length =
          st.pc + (i.flatten.length + (flatten rest).length) := by omega
      simp only [e3] at h
      exact h
end

theorem sim_block (o : Oracles) (P : List SInstr) (hne : P ≠ []) (hwf : WF P) (pre post : List Op) (st : Exec)
    (hpc : st.pc = pre.length)
    (henc : ∀ L tl, st.loops = L :: tl → pre.length + (flatten P).length ≤ L.end_ + 1) :
    Sim o (pre ++ flatten P ++ post) (stepsOf P) st
      ((eval o P (st.stack, st.heap)).map (afterAt st.loops (pre.length + (flatten P).length))) := by
  have h := sim_list o (pre ++ flatten P ++ post) P post st hne hwf
    (by rw [hpc]; exact drop_pre pre _ post) (by rw [hpc]; exact henc)
  rwa [hpc] at h

theorem sim_inside (o : Oracles) (ops : List Op) (P : List SInstr) (post : List Op) (st : Exec) (hwf : WF P)
    (hdrop : ops.drop st.pc = flatten P ++ post)
    (henc : ∀ L tl, st.loops = L :: tl → st.pc + (flatten P).length ≤ L.end_) :
    Sim o ops (stepsOf P) st
      ((eval o P (st.stack, st.heap)).map fun sh =>
        { stack := sh.1, heap := sh.2, pc := st.pc + (flatten P).length, loops := st.loops }) := by
  by_cases hne : P = []
  · subst hne
    exact ⟨rfl, fun h => nomatch h⟩
  · have h := sim_list o ops P post st hne hwf hdrop (fun L tl hl => by have := henc L tl hl; omega)
    have e : afterAt st.loops (st.pc + (flatten P).length) = fun sh =>
        { stack := sh.1, heap := sh.2, pc := st.pc + (flatten P).length, loops := st.loops } :=
      funext fun sh => afterAt_within _ _ sh henc
    rwa [e] at h

theorem sim_loop (o : Oracles) (pre B post : List Op) (it n : UInt16) (st : Exec)
    (hn : n.toNat = B.length) (hB : 1 ≤ B.length) (hS : ∀ op ∈ B, op.isStraight = true)
    (hpc : st.pc = pre.length) (hl : st.loops = []) :
    Sim o (pre ++ [Op.loop it n] ++ B ++ post) (1 + it.toNat * B.length) st
      ((iter (straight o B) it.toNat (st.stack, st.heap)).map fun sh =>
        { stack := sh.1, heap := sh.2, pc := pre.length + 1 + B.length, loops := [] }) := by
  have hwf : WF [SInstr.loop it (B.map SInstr.op)] := by
    rw [WF_cons, sinstr_WF_loop, flatten_map_op]
    exact ⟨⟨WF_map_op B hS, hB, by rw [← hn]; exact n.toNat_lt⟩, WF_nil⟩
  have h := sim_block o [SInstr.loop it (B.map SInstr.op)] (by simp) hwf pre post st hpc
    (by intro L tl h; rw [hl] at h; cases h)
  have hn' : UInt16.ofNat B.length = n := by rw [← hn]; exact UInt16.ofNat_toNat
  have e1 : flatten [SInstr.loop it (B.map SInstr.op)] = [Op.loop it n] ++ B := by
    simp [flatten_map_op, hn']
  have e2 : eval o [SInstr.loop it (B.map SInstr.op)] (st.stack, st.heap) =
      iter (straight o B) it.toNat (st.stack, st.heap) := by
    rw [eval_singleton, sinstr_eval_loop, funext (eval_map_op o B)]
  have e3 : stepsOf [SInstr.loop it (B.map SInstr.op)] = 1 + it.toNat * B.length := by
    simp [stepsOf_map_op]
  have e4 : pre ++ ([Op.loop it n] ++ B) ++ post = pre ++ [Op.loop it n] ++ B ++ post := by simp
  have e5 : pre.length + ([Op.loop it n] ++ B).length = pre.length + 1 + B.length := by
    simp only [List.length_append, List.length_cons, List.length_nil]; omega
  rw [e1, e2, e3, e4, e5, hl] at h
  exact h

/-- a loop whose stated body length `n` exceeds what is left of the program (`B`, straight-line): the frame is pushed,
    `B` runs once strictly inside it, and the machine is at the end of the program with the frame still open -/
theorem sim_loop_overrun (o : Oracles) (pre B : List Op) (it n : UInt16) (st : Exec)
    (hit : it.toNat > 0) (hn : B.length < n.toNat) (hS : ∀ op ∈ B, op.isStraight = true)
    (hpc : st.pc = pre.length) (hl : st.loops = []) :
    Sim o (pre ++ [Op.loop it n] ++ B) (1 + B.length) st
      ((straight o B (st.stack, st.heap)).map fun sh =>
        { stack := sh.1, heap := sh.2, pc := (pre ++ [Op.loop it n] ++ B).length,
          loops := [{ begin_ := pre.length + 1, end_ := pre.length + n.toNat, left := it.toNat - 1 }] }) := by
  have hdrop : (pre ++ [Op.loop it n] ++ B).drop st.pc = Op.loop it n :: B := by
    rw [hpc, List.append_assoc, List.drop_left]; rfl
  have hs := step_loop_enter o _ B st it n hdrop hit (by omega) (by intro L tl h; rw [hl] at h; cases h)
  have hlt : st.pc < (pre ++ [Op.loop it n] ++ B).length :=
    (List.getElem?_eq_some_iff.mp (getElem?_of_drop hdrop)).1
  have h2 := sim_inside o (pre ++ [Op.loop it n] ++ B) (B.map SInstr.op) []
    { stack := st.stack, heap := st.heap, pc := st.pc + 1,
      loops := { begin_ := st.pc + 1, end_ := st.pc + n.toNat, left := it.toNat - 1 } :: st.loops }
    (WF_map_op B hS) (by rw [flatten_map_op, List.append_nil]; exact drop_succ_of_drop hdrop)
    (by
      intro L tl h
      obtain ⟨rfl, _⟩ := List.cons.inj h
      rw [flatten_map_op]
      show st.pc + 1 + B.length ≤ st.pc + n.toNat
      omega)
  have h := Sim.bind (x := some ()) (g := fun _ => _) (Sim.of_step hlt hs) fun _ _ => h2
  rw [stepsOf_map_op, funext (eval_map_op o B), flatten_map_op] at h
  have e : (pre ++ [Op.loop it n] ++ B).length = st.pc + 1 + B.length := by
    simp only [List.length_append, List.length_cons, List.length_nil, hpc]
  rw [e, ← hpc]
  rw [hl] at h
  exact h

theorem runFuel_of_stepN_end {o : Oracles} {ops : List Op} {heap : Heap} {k : Nat} {st' : Exec}
    (h : stepN o ops k (initExec heap) = some st') (hend : ops.length ≤ st'.pc) :
    runFuel o ops (weightU ops + 1) (initExec heap) 0 = (st'.stack.head?, k) := by
  rw [runFuel_fuel_indep o ops (weightU ops + 1) (k + (weightU ops + 1)) (initExec heap) 0
    (by rw [phi_init]; omega) (by rw [phi_init]; omega),
    runFuel_of_stepN o ops k _ _ _ 0 h, C10_result_top o ops _ st' _ hend, Nat.zero_add]

theorem run_of_stepN {o : Oracles} {ops : List Op} {heap : Heap} {k : Nat} {st' : Exec}
    (h : stepN o ops k (initExec heap) = some st') (hend : ops.length ≤ st'.pc) :
    run o ops heap = st'.stack.head? :=
  congrArg Prod.fst (runFuel_of_stepN_end h hend)

theorem run_of_fail {o : Oracles} {ops : List Op} {heap : Heap} {k : Nat}
    (h : ∀ f m, (runFuel o ops (k + f) (initExec heap) m).1 = none) : run o ops heap = none := by
  unfold run
  rw [runFuel_fuel_indep o ops (weightU ops + 1) (k + (weightU ops + 1)) (initExec heap) 0
    (by rw [phi_init]; omega) (by rw [phi_init]; omega)]
  exact h _ _

end Mel.VM

/- for C19: where a relevant coin comes from, and that a validated input finds its covenant in the transaction -/
import MelModel.Chain
import MelModel.Lemmas.Batch
import MelModel.Lemmas.OutcomeL
import MelModel.Lemmas.MapL
import MelModel.Lemmas.CoinsL
namespace Mel

theorem twice_split {α} [DecidableEq α] {l : List α} {x : α} (h : (l.filter (· = x)).length ≥ 2) :
    ∃ l₁ l₂, l = l₁ ++ x :: l₂ ∧ x ∈ l₂ := by
  induction l with
  | nil => simp at h
  | cons a as ih =>
    by_cases hax : a = x
    · subst hax
      simp only [List.filter_cons, decide_true, if_true, List.length_cons, ge_iff_le] at h
      have hpos : 0 < (as.filter (· = a)).length := by omega
      obtain ⟨y, hy⟩ := List.exists_mem_of_length_pos hpos
      have := List.mem_filter.mp hy
      have hya : y = a := by simpa using this.2
      exact ⟨[], as, rfl, hya ▸ this.1⟩
    · simp only [List.filter_cons, hax, decide_false] at h
      obtain ⟨l₁, l₂, rfl, hm⟩ := ih h
      exact ⟨a :: l₁, l₂, rfl, hm⟩

theorem loadRelevantCoins_get {s : State} {txs : List Tx} {rel : Relevant}
    (h : loadRelevantCoins s txs = .ok rel) {k : CoinID} {v : CoinDataHeight}
    (hg : AList.get rel k = some v) : (∃ t ∈ txs, k.txhash = t.hash) ∨ s.coins.getCoin k = some v := by
  cases hc : (createdOf s.height txs).get k with
  | some c => exact Or.inl (createdOf_txhash hc)
  | none => exact Or.inr ((loadRelevantCoins_ok h).disk k v hc hg)

theorem findCovenant_none {tx : Tx} {h : Hash} (hn : h ∉ tx.covHashes) : tx.findCovenant h = none := by
  unfold Tx.findCovenant
  rw [Option.map_eq_none_iff, List.find?_eq_none]
  intro ⟨a, b⟩ hx
  rw [List.mem_reverse] at hx
  have := (List.of_mem_zip hx).1
  simp only [decide_eq_true_eq]
  intro hab; exact hn (hab ▸ this)

theorem checkTxValidity_input {env : Env} {s : State} {lh : Header} {tx : Tx} {rel : Relevant}
    {ns : AList Hash StakeDoc} (h : checkTxValidity env s lh tx rel ns = .ok ())
    {k : CoinID} (hk : k ∈ tx.inputs) :
    ∃ coin, AList.get rel k = some coin ∧ tx.findCovenant coin.coinData.covhash ≠ none := by
  obtain ⟨i, hi, rfl⟩ := List.getElem_of_mem hk
  obtain ⟨-, coin, hcoin, hv⟩ := checkTxValidity_ok_input h i hi
  refine ⟨coin, hcoin, fun hnone => ?_⟩
  unfold validateTxScripts at hv
  rw [hnone] at hv
  cases hv

end Mel

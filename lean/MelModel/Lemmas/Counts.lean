/- the per-covenant counts under `insertCoin`, `removeCoin` and the TIP-906 initialisation (C20) -/
import MelModel.Chain
import MelModel.Lemmas.MapL
import MelModel.Lemmas.CoinsL
namespace Mel

/-- one step of the TIP-906 initialisation fold -/
def tip906Step (acc : CoinMap) (e : CoinID × CoinDataHeight) : CoinMap :=
  acc.insertCoinCount e.2.coinData.covhash (acc.coinCount e.2.coinData.covhash + 1)

theorem tip906Step_eq (acc : CoinMap) (e : CoinID × CoinDataHeight) :
    tip906Step acc e =
      { acc with counts := acc.counts.set e.2.coinData.covhash (acc.coinCount e.2.coinData.covhash + 1) } := by
  simp [tip906Step, CoinMap.insertCoinCount]

theorem tip906_fold_inv (l : List (CoinID × CoinDataHeight)) :
    ∀ acc : CoinMap, (AList.keys acc.counts).Nodup → (∀ e ∈ acc.counts, e.2 ≠ 0) →
      (l.foldl tip906Step acc).coins = acc.coins ∧
      (AList.keys (l.foldl tip906Step acc).counts).Nodup ∧
      (∀ a, (l.foldl tip906Step acc).coinCount a =
        acc.coinCount a + (l.filter fun e => e.2.coinData.covhash = a).length) ∧
      (∀ e ∈ (l.foldl tip906Step acc).counts, e.2 ≠ 0) := by
  induction l with
  | nil => intro acc hn hz; exact ⟨rfl, hn, by simp, hz⟩
  | cons x rest ih =>
    intro acc hn hz
    have hn' : (AList.keys (tip906Step acc x).counts).Nodup := by
      rw [tip906Step_eq]; exact AList.keys_nodup_set _ _ hn
    have hz' : ∀ e ∈ (tip906Step acc x).counts, e.2 ≠ 0 := by
      rw [tip906Step_eq]
      intro e he
      simp only [AList.set, List.mem_cons] at he
      rcases he with he | he
      · subst he; simp
      · exact hz e (AList.mem_del.mp he).1
    obtain ⟨i1, i2, i3, i4⟩ := ih (tip906Step acc x) hn' hz'
    simp only [List.foldl_cons]
    refine ⟨by rw [i1, tip906Step_eq], i2, ?_, i4⟩
    intro a
    rw [i3 a, tip906Step_eq]
    simp only [CoinMap.coinCount, List.filter_cons]
    by_cases ha : a = x.2.coinData.covhash
    · subst ha
      rw [AList.get_set_self]; simp; omega
    · have ha' : ¬ x.2.coinData.covhash = a := fun h => ha h.symm
      rw [AList.get_set_ne _ _ ha]; simp [ha']

end Mel

/-
  Sealing respects the observational equivalence of states (`BatchEquiv` of Props/C03.lean: the same coins, counts and
  stakes as maps — the association lists may be ordered differently — and every other field equal): `sealState_cong`,
  an instance of `sealState_sim`; the header of equivalent sealed states: `headerOf_equiv`.
-/
import MelModel.Chain
import MelModel.Props.C03
import MelModel.Lemmas.Batch
import MelModel.Lemmas.TotalSeal
import MelModel.Lemmas.StakeL
import MelModel.Lemmas.OutcomeL
import MelModel.Lemmas.CoinsL
namespace Mel
namespace SealCongL
open Mel.Gen
open SettleBlockL

structure CoinExt (a b : CoinMap) : Prop where
  coins : ∀ id, a.getCoin id = b.getCoin id
  counts : ∀ h, a.coinCount h = b.coinCount h

theorem CoinExt.refl (a : CoinMap) : CoinExt a a := ⟨fun _ => rfl, fun _ => rfl⟩

theorem getCoin_insertCoinCount (m : CoinMap) (h : Hash) (n : Nat) (id : CoinID) :
    (m.insertCoinCount h n).getCoin id = m.getCoin id :=
  CoinMap.getCoin_insertCoinCount m h n id

theorem insertCoin_ext {a b : CoinMap} (e : CoinExt a b) (id : CoinID) (d : CoinDataHeight) (t : Bool) :
    CoinExt (a.insertCoin id d t) (b.insertCoin id d t) := by
  refine ⟨fun k => ?_, fun h => ?_⟩
  · rw [CoinMap.getCoin_insertCoin, CoinMap.getCoin_insertCoin, e.coins]
  · rw [CoinMap.coinCount_insertCoin, CoinMap.coinCount_insertCoin, e.coins, e.counts, e.counts]

theorem removeCoin_ext {a b a' : CoinMap} (e : CoinExt a b) (id : CoinID) (t : Bool)
    (h : a.removeCoin id t = .ok a') : ∃ b', b.removeCoin id t = .ok b' ∧ CoinExt a' b' := by
  suffices ∃ b', b.removeCoin id t = .ok b' ∧ ∀ k, a'.coinCount k = b'.coinCount k by
    obtain ⟨b', hb, hc⟩ := this
    exact ⟨b', hb, fun k => by rw [CoinMap.getCoin_removeCoin h, CoinMap.getCoin_removeCoin hb, e.coins], hc⟩
  have hg : b.coins.get id = a.coins.get id := (e.coins id).symm
  unfold CoinMap.removeCoin at h ⊢
  rw [hg]
  by_cases ht : t = true
  · rw [if_pos ht] at h ⊢
    cases hd : a.coins.get id with
    | none =>
      rw [hd] at h
      cases h
      exact ⟨_, rfl, e.counts⟩
    | some d =>
      rw [hd] at h
      dsimp only at h ⊢
      rw [← e.counts]
      split at h
      · cases h
      · next hc =>
        rw [if_neg hc]
        cases h
        refine ⟨_, rfl, fun k => ?_⟩
        show (CoinMap.insertCoinCount a _ _).coinCount k = (CoinMap.insertCoinCount b _ _).coinCount k
        rw [CoinMap.coinCount_insertCoinCount, CoinMap.coinCount_insertCoinCount, e.counts k]
  · rw [if_neg ht] at h ⊢
    cases h
    exact ⟨_, rfl, e.counts⟩

def T (a : State) (c : CoinMap) (k : StakeSet) : State := { a with coins := c, stakes := k }

@[simp] theorem T_coins (a : State) (c : CoinMap) (k : StakeSet) : (T a c k).coins = c := rfl
@[simp] theorem T_stakes (a : State) (c : CoinMap) (k : StakeSet) : (T a c k).stakes = k := rfl
@[simp] theorem T_pools (a : State) (c : CoinMap) (k : StakeSet) : (T a c k).pools = a.pools := rfl
@[simp] theorem T_height (a : State) (c : CoinMap) (k : StakeSet) : (T a c k).height = a.height := rfl
@[simp] theorem T_network (a : State) (c : CoinMap) (k : StakeSet) : (T a c k).network = a.network := rfl
@[simp] theorem T_txs (a : State) (c : CoinMap) (k : StakeSet) : (T a c k).txs = a.txs := rfl
@[simp] theorem T_feePool (a : State) (c : CoinMap) (k : StakeSet) : (T a c k).feePool = a.feePool := rfl
@[simp] theorem T_tips (a : State) (c : CoinMap) (k : StakeSet) : (T a c k).tips = a.tips := rfl
@[simp] theorem T_feeMultiplier (a : State) (c : CoinMap) (k : StakeSet) :
    (T a c k).feeMultiplier = a.feeMultiplier := rfl
@[simp] theorem T_tip901 (a : State) (c : CoinMap) (k : StakeSet) : (T a c k).tip901 = a.tip901 := rfl
@[simp] theorem T_tip902 (a : State) (c : CoinMap) (k : StakeSet) : (T a c k).tip902 = a.tip902 := rfl
@[simp] theorem T_tip906 (a : State) (c : CoinMap) (k : StakeSet) : (T a c k).tip906 = a.tip906 := rfl
@[simp] theorem T_tip909 (a : State) (c : CoinMap) (k : StakeSet) : (T a c k).tip909 = a.tip909 := rfl
@[simp] theorem T_tip909a (a : State) (c : CoinMap) (k : StakeSet) : (T a c k).tip909a = a.tip909a := rfl
@[simp] theorem T_history (a : State) (c : CoinMap) (k : StakeSet) : (T a c k).history = a.history := rfl
@[simp] theorem T_doscSpeed (a : State) (c : CoinMap) (k : StakeSet) : (T a c k).doscSpeed = a.doscSpeed := rfl
@[simp] theorem T_tip908 (a : State) (c : CoinMap) (k : StakeSet) : (T a c k).tip908 = a.tip908 := rfl
@[simp] theorem T_legacyDeposit (a : State) (c : CoinMap) (k : StakeSet) :
    legacyDeposit (T a c k) = legacyDeposit a := rfl

theorem equiv_form {a b : State} (e : BatchEquiv a b) : b = T a b.coins b.stakes := by
  obtain ⟨n, h, hist, co, tx, fp, fm, tp, ds, po, sk⟩ := a
  obtain ⟨n', h', hist', co', tx', fp', fm', tp', ds', po', sk'⟩ := b
  obtain ⟨-, -, -, e4, e5, e6, e7, e8, e9, e10, e11, e12⟩ := e
  simp only at e4 e5 e6 e7 e8 e9 e10 e11 e12
  subst e4 e5 e6 e7 e8 e9 e10 e11 e12
  rfl

/-! Before the proposer action sealing reads height, network, the block's transactions, the pools, the fee pool and
  the coins, the coins only through `getCoin`, `insertCoin` and `removeCoin`. So it carries any relation `C` on coin
  maps that these three respect from a state `x` to a state `y` that agrees with `x` on the other five (`SealRel`);
  what the remaining fields of `y` are plays no role, and they are kept (`SealFrame`). The proposer action reads fee
  multiplier and tips as well (`SealRelA`). -/

/-- a relation on coin maps that lookups cannot tell apart and that insertions and removals keep -/
structure CoinSim (C : CoinMap → CoinMap → Prop) : Prop where
  getCoin : ∀ {a b}, C a b → ∀ id, b.getCoin id = a.getCoin id
  insertCoin : ∀ {a b}, C a b → ∀ id d t, C (a.insertCoin id d t) (b.insertCoin id d t)
  removeCoin : ∀ {a b a'} {id t}, C a b → a.removeCoin id t = .ok a' → ∃ b', b.removeCoin id t = .ok b' ∧ C a' b'

theorem coinSim_eq : CoinSim Eq where
  getCoin e _ := e ▸ rfl
  insertCoin e _ _ _ := e ▸ rfl
  removeCoin e h := e ▸ ⟨_, h, rfl⟩

theorem coinSim_ext : CoinSim CoinExt where
  getCoin e id := (e.coins id).symm
  insertCoin e := insertCoin_ext e
  removeCoin e h := removeCoin_ext e _ _ h

structure SealRel (C : CoinMap → CoinMap → Prop) (x y : State) : Prop where
  network : y.network = x.network
  height : y.height = x.height
  txs : y.txs = x.txs
  pools : y.pools = x.pools
  feePool : y.feePool = x.feePool
  coins : C x.coins y.coins

structure SealRelA (C : CoinMap → CoinMap → Prop) (x y : State) : Prop extends SealRel C x y where
  feeMultiplier : y.feeMultiplier = x.feeMultiplier
  tips : y.tips = x.tips

section
variable {C : CoinMap → CoinMap → Prop} {x y x' : State}

theorem SealRel.tipCondition (hr : SealRel C x y) (a : Nat) : y.tipCondition a = x.tipCondition a := by
  unfold State.tipCondition; rw [hr.height, hr.network]

theorem SealRel.tip901 (hr : SealRel C x y) : y.tip901 = x.tip901 := hr.tipCondition _
theorem SealRel.tip902 (hr : SealRel C x y) : y.tip902 = x.tip902 := hr.tipCondition _
theorem SealRel.tip906 (hr : SealRel C x y) : y.tip906 = x.tip906 := hr.tipCondition _
theorem SealRel.tip909 (hr : SealRel C x y) : y.tip909 = x.tip909 := hr.tipCondition _
theorem SealRel.tip909a (hr : SealRel C x y) : y.tip909a = x.tip909a := hr.tipCondition _

theorem SealRel.legacyDeposit (hr : SealRel C x y) : legacyDeposit y = legacyDeposit x := by
  unfold Mel.legacyDeposit; rw [hr.height, hr.network]

theorem SealRel.update (hr : SealRel C x y) {c c' : CoinMap} (hc : C c c')
    (f : AList PoolKey PoolState → AList PoolKey PoolState) :
    SealRel C { x with coins := c, pools := f x.pools } { y with coins := c', pools := f y.pools } :=
  ⟨hr.network, hr.height, hr.txs, congrArg f hr.pools, hr.feePool, hc⟩

theorem fold_sim {α β} {R : β → β → Prop} {f : β → α → Outcome β} {l : List α} {a b a' : β}
    (h : Outcome.foldlM' f a l = .ok a') (hr : R a b)
    (hf : ∀ {a b t a'}, R a b → f a t = .ok a' → ∃ b', f b t = .ok b' ∧ R a' b') :
    ∃ b', Outcome.foldlM' f b l = .ok b' ∧ R a' b' :=
  Outcome.foldlM'_rel R f f (fun _ _ _ _ => hf) l a b a' hr h

variable (hC : CoinSim C)
include hC

theorem swapStep_sim {k : PoolKey} {ht : Nat} {tip : Bool} {lw rw tl tr : Nat} {a b a' : CoinMap} {tx : Tx}
    (hr : C a b) (h : swapStep k ht tip lw rw tl tr a tx = .ok a') :
    ∃ b', swapStep k ht tip lw rw tl tr b tx = .ok b' ∧ C a' b' := by
  unfold swapStep at h ⊢
  obtain ⟨cd, hcd, h⟩ := Outcome.bind_eq_ok.mp h
  cases h
  rw [hcd]
  exact ⟨_, rfl, hC.insertCoin hr _ _ _⟩

theorem depStep_sim {env : Env} {k : PoolKey} {ht : Nat} {tip legacy : Bool} {minted tw : Nat} {a b a' : CoinMap}
    {tx : Tx} (hr : C a b) (h : depStep env k ht tip legacy minted tw a tx = .ok a') :
    ∃ b', depStep env k ht tip legacy minted tw b tx = .ok b' ∧ C a' b' := by
  unfold depStep at h ⊢
  obtain ⟨v, hv, h⟩ := Outcome.bind_eq_ok.mp h
  rw [hv]
  cases legacy with
  | true => cases h; exact ⟨_, rfl, hC.insertCoin hr _ _ _⟩
  | false => exact hC.removeCoin (hC.insertCoin hr _ _ _) h

theorem wdStep_sim {k : PoolKey} {ht : Nat} {tip : Bool} {tl tr total : Nat} {a b a' : CoinMap} {tx : Tx}
    (hr : C a b) (h : wdStep k ht tip tl tr total a tx = .ok a') :
    ∃ b', wdStep k ht tip tl tr total b tx = .ok b' ∧ C a' b' := by
  unfold wdStep at h ⊢
  obtain ⟨vl, hvl, h⟩ := Outcome.bind_eq_ok.mp h
  obtain ⟨vr, hvr, h⟩ := Outcome.bind_eq_ok.mp h
  cases h
  rw [hvl]
  show ∃ b', (multiplyFrac _ _ _).bind _ = _ ∧ _
  rw [hvr]
  exact ⟨_, rfl, hC.insertCoin (hC.insertCoin hr _ _ _) _ _ _⟩

theorem processSwapsForPool_sim {k : PoolKey} {l : List Tx} (hr : SealRel C x y)
    (h : processSwapsForPool k x l = .ok x') : ∃ y', processSwapsForPool k y l = .ok y' ∧ SealRel C x' y' := by
  obtain ⟨p, p', lw, rw, c, hp, hsm, hc, rfl⟩ := processSwapsForPool_inv h
  obtain ⟨c', hc', hcc⟩ := fold_sim hc hr.coins (swapStep_sim hC)
  rw [← hr.pools] at hp
  rw [← hr.height, ← hr.tip906] at hc'
  exact ⟨_, processSwapsForPool_of hp hsm hc', hr.update hcc (·.set k p')⟩

theorem processDepositsForPool_sim {env : Env} {k : PoolKey} {l : List Tx} (hr : SealRel C x y)
    (h : processDepositsForPool env k x l = .ok x') :
    ∃ y', processDepositsForPool env k y l = .ok y' ∧ SealRel C x' y' := by
  obtain ⟨p', minted, hdep, hcase⟩ := processDepositsForPool_inv h
  rw [← hr.pools] at hdep
  rcases hcase with ⟨hsat, rfl⟩ | ⟨hsat, c, hc, rfl⟩ <;> rw [← hr.pools] at hsat
  · exact ⟨y, processDepositsForPool_skip hdep hsat, hr⟩
  · obtain ⟨c', hc', hcc⟩ := fold_sim hc hr.coins (depStep_sim hC)
    rw [← hr.height, ← hr.tip906, ← hr.legacyDeposit] at hc'
    exact ⟨_, processDepositsForPool_of hdep hsat hc', hr.update hcc (·.set k p')⟩

theorem processWithdrawalsForPool_sim {k : PoolKey} {l : List Tx} (hr : SealRel C x y)
    (h : processWithdrawalsForPool k x l = .ok x') :
    ∃ y', processWithdrawalsForPool k y l = .ok y' ∧ SealRel C x' y' := by
  obtain ⟨p, hp, hcase⟩ := processWithdrawalsForPool_inv h
  rw [← hr.pools] at hp
  rcases hcase with ⟨hgt, rfl⟩ | ⟨hgt, p', tl, tr, c, hw, hc, rfl⟩
  · exact ⟨y, processWithdrawalsForPool_skip hp hgt, hr⟩
  · obtain ⟨c', hc', hcc⟩ := fold_sim hc hr.coins (wdStep_sim hC)
    rw [← hr.height, ← hr.tip906] at hc'
    exact ⟨_, processWithdrawalsForPool_of hp hgt hw hc', hr.update hcc (·.set k p')⟩

theorem isSwapRequest_sim (hr : SealRel C x y) : isSwapRequest y = isSwapRequest x := by
  funext tx
  unfold isSwapRequest
  rw [hr.pools, hC.getCoin hr.coins]

theorem isDepositRequest_sim (hr : SealRel C x y) : isDepositRequest y = isDepositRequest x := by
  funext tx
  unfold isDepositRequest
  rw [hC.getCoin hr.coins, hC.getCoin hr.coins]

theorem isWithdrawRequest_sim (env : Env) (hr : SealRel C x y) :
    isWithdrawRequest env y = isWithdrawRequest env x := by
  funext tx
  unfold isWithdrawRequest
  rw [hr.pools, hC.getCoin hr.coins]

theorem processSwaps_sim (hr : SealRel C x y) (h : processSwaps x = .ok x') :
    ∃ y', processSwaps y = .ok y' ∧ SealRel C x' y' := by
  rw [processSwaps_eq] at h ⊢
  unfold swapKeys swapReqs
  rw [hr.txs, isSwapRequest_sim hC hr]
  exact fold_sim h hr (processSwapsForPool_sim hC)

theorem processDeposits_sim {env : Env} (hr : SealRel C x y) (h : processDeposits env x = .ok x') :
    ∃ y', processDeposits env y = .ok y' ∧ SealRel C x' y' := by
  rw [processDeposits_eq] at h ⊢
  unfold depKeys depReqs
  rw [hr.txs, isDepositRequest_sim hC hr]
  exact fold_sim h hr (processDepositsForPool_sim hC)

theorem processWithdrawals_sim {env : Env} (hr : SealRel C x y) (h : processWithdrawals env x = .ok x') :
    ∃ y', processWithdrawals env y = .ok y' ∧ SealRel C x' y' := by
  rw [processWithdrawals_eq] at h ⊢
  unfold wdKeys wdReqs
  rw [hr.txs, isWithdrawRequest_sim hC env hr]
  exact fold_sim h hr (processWithdrawalsForPool_sim hC)

omit hC

theorem createBuiltins_sim (hr : SealRel C x y) : SealRel C (createBuiltins x) (createBuiltins y) := by
  unfold createBuiltins
  rw [hr.pools, hr.tip902]
  exact ⟨hr.network, hr.height, hr.txs, rfl, hr.feePool, hr.coins⟩

theorem processPegging_sim (hr : SealRel C x y) (h : processPegging x = .ok x') :
    ∃ y', processPegging y = .ok y' ∧ SealRel C x' y' := by
  rw [processPegging_eq] at h
  obtain ⟨⟨a, b⟩, h1, h⟩ := Outcome.bind_eq_ok.mp h
  obtain ⟨sm, h2, h⟩ := Outcome.bind_eq_ok.mp h
  unfold pegTail at h
  dsimp only at h
  by_cases hnum : microergsIter x.height * a = 0
  · rw [if_pos hnum] at h; cases h
  · rw [if_neg hnum] at h
    obtain ⟨sm1, h3, h⟩ := Outcome.bind_eq_ok.mp h
    obtain ⟨sm2, h4, h⟩ := Outcome.bind_eq_ok.mp h
    cases h
    refine ⟨{ y with pools := y.pools.set poolMelSym sm2 }, ?_, hr.update hr.coins (·.set poolMelSym sm2)⟩
    have e1 : pegXsd y = pegXsd x := by unfold pegXsd pegGet; rw [hr.tip902, hr.pools]
    have e2 : pegGet y poolMelSym = pegGet x poolMelSym := by unfold pegGet; rw [hr.pools]
    rw [processPegging_eq, e1, e2]
    refine Outcome.bind_eq_ok.mpr ⟨_, h1, Outcome.bind_eq_ok.mpr ⟨_, h2, ?_⟩⟩
    unfold pegTail
    dsimp only
    rw [hr.tip902, hr.height, if_neg hnum]
    exact Outcome.bind_eq_ok.mpr ⟨_, h3, Outcome.bind_eq_ok.mpr ⟨_, h4, rfl⟩⟩

theorem applyTip909_sim (hr : SealRel C x y) (h : applyTip909 x = .ok x') :
    ∃ y', applyTip909 y = .ok y' ∧ SealRel C x' y' := by
  obtain ⟨sm, es, hdiv, hsm, h1, hfee, hes, h2, rfl⟩ := applyTip909_inv h
  have ef : tip909FeeSubsidy y = tip909FeeSubsidy x := by unfold tip909FeeSubsidy; rw [hr.tip909a, hr.height]
  have ee : tip909ErgSubsidy y = tip909ErgSubsidy x := by unfold tip909ErgSubsidy; rw [hr.tip909a, hr.height, ef]
  rw [← hr.height] at hdiv
  rw [← hr.pools] at hsm hes
  rw [← ef] at h1 hfee ⊢
  rw [← ee] at h2 ⊢
  rw [← hr.feePool] at hfee
  refine ⟨_, applyTip909_of hdiv hsm h1 hfee hes h2, hr.network, hr.height, hr.txs, ?_, ?_, hr.coins⟩
  · show (y.pools.set _ _).set _ _ = (x.pools.set _ _).set _ _
    rw [hr.pools]
  · show y.feePool + _ = x.feePool + _
    rw [hr.feePool]

include hC

theorem presealMelmint_sim {env : Env} (hr : SealRel C x y) (h : presealMelmint env x = .ok x') :
    ∃ y', presealMelmint env y = .ok y' ∧ SealRel C x' y' := by
  obtain ⟨hlen, s1, s2, s3, h1, h2, h3, h4⟩ := presealMelmint_eq_ok_iff.mp h
  obtain ⟨t1, g1, r1⟩ := processSwaps_sim hC (createBuiltins_sim hr) h1
  obtain ⟨t2, g2, r2⟩ := processDeposits_sim hC r1 h2
  obtain ⟨t3, g3, r3⟩ := processWithdrawals_sim hC r2 h3
  obtain ⟨t4, g4, r4⟩ := processPegging_sim (createBuiltins_sim r3) h4
  rw [← (createBuiltins_sim hr).pools] at hlen
  exact ⟨t4, presealMelmint_eq_ok_iff.mpr ⟨hlen, t1, t2, t3, g1, g2, g3, g4⟩, r4⟩

theorem sealPre_sim {env : Env} (hr : SealRel C x y) (h : sealPre env x = .ok x') :
    ∃ y', sealPre env y = .ok y' ∧ SealRel C x' y' := by
  obtain ⟨s1, h1, hlen, h2⟩ := sealPre_eq_ok_iff.mp h
  obtain ⟨t1, g1, r1⟩ := presealMelmint_sim hC hr h1
  rw [← r1.pools] at hlen
  have key : ∃ y', (if t1.tip909 then applyTip909 t1 else .ok t1) = .ok y' ∧ SealRel C x' y' := by
    rw [r1.tip909]
    split at h2
    · next h9 => rw [if_pos h9]; exact applyTip909_sim r1 h2
    · next h9 => rw [if_neg h9]; cases h2; exact ⟨t1, rfl, r1⟩
  obtain ⟨y', g2, r2⟩ := key
  exact ⟨y', sealPre_eq_ok_iff.mpr ⟨t1, g1, hlen, g2⟩, r2⟩

theorem applyProposerAction_sim {env : Env} {a : ProposerAction} (hr : SealRelA C x y)
    (h : applyProposerAction env x a = .ok x') :
    ∃ y', applyProposerAction env y a = .ok y' ∧ SealRelA C x' y' := by
  obtain ⟨hle, rfl⟩ := applyProposerAction_eq_ok_iff.mp h
  rw [← hr.feePool, ← hr.tips] at hle
  refine ⟨_, applyProposerAction_eq_ok_iff.mpr ⟨hle, rfl⟩, ⟨hr.network, hr.height, hr.txs, hr.pools, ?_, ?_⟩, ?_, rfl⟩
  · show y.feePool - _ = x.feePool - _
    rw [hr.feePool]
  · show C (x.coins.insertCoin _ _ _) (y.coins.insertCoin _ _ _)
    rw [hr.height, hr.feePool, hr.tips, hr.tip906]
    exact hC.insertCoin hr.coins _ _ _
  · show moveFeeMultiplier _ _ _ = moveFeeMultiplier _ _ _
    rw [hr.feeMultiplier, hr.tip901]

theorem sealState_sim {env : Env} {act : Option ProposerAction} {sx : Sealed} (hr : SealRelA C x y)
    (h : sealState env x act = .ok sx) :
    ∃ sy, sealState env y act = .ok sy ∧ sy.action = sx.action ∧ SealRelA C sx.st sy.st := by
  obtain ⟨x2, h2, ha, h3⟩ := sealState_eq_ok_iff.mp h
  obtain ⟨y2, g2, r2⟩ := sealPre_sim hC hr.toSealRel h2
  have r2 : SealRelA C x2 y2 :=
    ⟨r2, ((sealPre_frame g2).feeMultiplier.trans hr.feeMultiplier).trans (sealPre_frame h2).feeMultiplier.symm,
      ((sealPre_frame g2).tips.trans hr.tips).trans (sealPre_frame h2).tips.symm⟩
  cases act with
  | none =>
    exact ⟨⟨y2, none⟩, sealState_eq_ok_iff.mpr ⟨y2, g2, rfl, rfl⟩, ha.symm, by rw [h3]; exact r2⟩
  | some a =>
    obtain ⟨y3, g3, r3⟩ := applyProposerAction_sim hC r2 h3
    exact ⟨⟨y3, some a⟩, sealState_eq_ok_iff.mpr ⟨y2, g2, rfl, g3⟩, ha.symm, r3⟩

end

theorem sealState_cong (env : Env) (a b : State) (act : Option ProposerAction) (sa : Sealed)
    (e : BatchEquiv a b) (h : sealState env a act = .ok sa) :
    ∃ sb, sealState env b act = .ok sb ∧ sb.action = sa.action ∧ BatchEquiv sa.st sb.st := by
  obtain ⟨sb, hsb, hact, hr⟩ := sealState_sim coinSim_ext
    ⟨⟨e.network.symm, e.height.symm, e.txs.symm, e.pools.symm, e.feePool.symm, e.coins, e.counts⟩,
      e.feeMultiplier.symm, e.tips.symm⟩ h
  have ka := sealState_keeps h
  have kb := sealState_keeps hsb
  exact ⟨sb, hsb, hact, {
    coins := hr.coins.coins
    counts := hr.coins.counts
    stakes := fun k => by rw [ka.stakes, kb.stakes]; exact e.stakes k
    txs := hr.txs.symm, feePool := hr.feePool.symm, tips := hr.tips.symm
    feeMultiplier := hr.feeMultiplier.symm
    doscSpeed := ka.doscSpeed.trans (e.doscSpeed.trans kb.doscSpeed.symm)
    pools := hr.pools.symm
    history := ka.history.trans (e.history.trans kb.history.symm)
    height := hr.height.symm, network := hr.network.symm }⟩

theorem headerOf_T (env : Env) (s : State) (act act' : Option ProposerAction) (c : CoinMap) (k : StakeSet)
    (hc : env.coinsRoot c = env.coinsRoot s.coins) (hk : env.stakesRoot k = env.stakesRoot s.stakes) :
    headerOf env { st := T s c k, action := act' } = headerOf env { st := s, action := act } := by
  unfold headerOf
  dsimp (instances := true) only [T_coins, T_stakes, T_pools, T_height, T_network, T_txs, T_feePool,
    T_feeMultiplier, T_history, T_doscSpeed, T_tip908]
  rw [hc, hk]

/-- `hc` and `hk` come from `RootsExtensional env` (Props/C07Hist.lean): the roots are functions of the maps' content -/
theorem headerOf_equiv (env : Env) (sa sb : Sealed) (e : BatchEquiv sa.st sb.st)
    (hc : env.coinsRoot sb.st.coins = env.coinsRoot sa.st.coins)
    (hk : env.stakesRoot sb.st.stakes = env.stakesRoot sa.st.stakes) : headerOf env sb = headerOf env sa := by
  obtain ⟨stb, actb⟩ := sb
  obtain ⟨sta, acta⟩ := sa
  have := equiv_form e
  simp only at this hc hk
  rw [this]
  exact headerOf_T env sta acta actb stb.coins stb.stakes hc hk

end SealCongL
end Mel

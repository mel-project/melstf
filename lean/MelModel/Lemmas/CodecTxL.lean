/- the serialisation of transactions (MelModel/Stdcode.lean: `encodeTx`); used by MelModel/Props/CodecTx.lean.
   Every component of the encoding is self-delimiting (`Cancels`): from `enc a ++ r = enc b ++ r'` follow `a = b` and
   `r = r'`.  The notion is closed under concatenation of fields, length-prefixed lists and reading a record off as the
   tuple of its fields; injectivity and prefix-freeness are its instances with `r = []`. -/
import MelModel.Stdcode
import MelModel.Lemmas.CodecL
namespace Mel.Stdcode
open Mel

theorem putBytes_length (b : Bytes) : (putBytes b).length = bytesLen b := by
  unfold putBytes bytesLen
  rw [List.length_append, putVarint_length]

theorem encodeCoinID_length (c : CoinID) (h : c.txhash.length = 32) : (encodeCoinID c).length = 33 := by
  unfold encodeCoinID
  rw [List.length_append, h]
  rfl

theorem encodeCoinData_length (c : CoinData) (h : c.covhash.length = 32) :
    (encodeCoinData c).length = coinDataLen c := by
  unfold encodeCoinData coinDataLen
  simp only [List.length_append, putBytes_length, putVarint_length, h]
  unfold bytesLen
  omega

theorem length_flatMap_of {α : Type} (f : α → Bytes) (g : α → Nat) (l : List α)
    (h : ∀ a ∈ l, (f a).length = g a) : (l.flatMap f).length = (l.map g).sum := by
  induction l with
  | nil => rfl
  | cons a l ih =>
    rw [List.flatMap_cons, List.length_append, List.map_cons, List.sum_cons, h a (List.mem_cons_self ..),
      ih (fun b hb => h b (List.mem_cons_of_mem _ hb))]

theorem sum_map_const {α : Type} (k : Nat) (l : List α) : (l.map fun _ => k).sum = k * l.length := by
  induction l with
  | nil => rfl
  | cons a l ih =>
    rw [List.map_cons, List.sum_cons, ih, List.length_cons, Nat.mul_succ, Nat.add_comm]

theorem encodeList_length {α : Type} (f : α → Bytes) (g : α → Nat) (l : List α)
    (h : ∀ a ∈ l, (f a).length = g a) : (encodeList f l).length = varintLen l.length + (l.map g).sum := by
  unfold encodeList
  rw [List.length_append, putVarint_length, length_flatMap_of f g l h]

/-- `enc` is self-delimiting on `P`: what follows an encoding is never taken for part of it -/
def Cancels {α : Type} (P : α → Prop) (enc : α → Bytes) : Prop :=
  ∀ a b r r', P a → P b → enc a ++ r = enc b ++ r' → a = b ∧ r = r'

namespace Cancels
variable {α β γ : Type} {P : α → Prop} {Q : β → Prop} {R : γ → Prop} {f : α → Bytes} {g : β → Bytes}

theorem of_roundtrip (dec : Bytes → Option (α × Bytes)) (h : ∀ a r, P a → dec (f a ++ r) = some (a, r)) :
    Cancels P f := by
  intro a b r r' ha hb e
  have h1 := h a r ha
  rw [e, h b r' hb] at h1
  cases h1
  exact ⟨rfl, rfl⟩

theorem inj (h : Cancels P f) {a b : α} (ha : P a) (hb : P b) (e : f a = f b) : a = b :=
  (h a b [] [] ha hb (congrArg (· ++ []) e)).1

theorem prefix_free (h : Cancels P f) {a b : α} (ha : P a) (hb : P b) {t : Bytes} (e : f a ++ t = f b) : t = [] :=
  (h a b t [] ha hb (e.trans (List.append_nil _).symm)).2

theorem append (hf : Cancels P f) (hg : Cancels Q g) :
    Cancels (fun x : α × β => P x.1 ∧ Q x.2) (fun x => f x.1 ++ g x.2) := by
  intro a b r r' ha hb e
  rw [List.append_assoc, List.append_assoc] at e
  obtain ⟨h1, e⟩ := hf _ _ _ _ ha.1 hb.1 e
  obtain ⟨h2, e⟩ := hg _ _ _ _ ha.2 hb.2 e
  exact ⟨Prod.ext h1 h2, e⟩

/-- a record is read off as the tuple `π` of its fields; `R` is what the record's type guarantees -/
theorem pull (h : Cancels P f) (π : γ → α) {enc : γ → Bytes} (henc : ∀ c, enc c = f (π c)) (hP : ∀ c, R c → P (π c))
    {a b : γ} {r r' : Bytes} (ha : R a) (hb : R b) (e : enc a ++ r = enc b ++ r') : π a = π b ∧ r = r' := by
  rw [henc, henc] at e
  exact h _ _ r r' (hP a ha) (hP b hb) e

theorem comap (h : Cancels P f) (π : γ → α) {enc : γ → Bytes} (henc : ∀ c, enc c = f (π c)) (hP : ∀ c, R c → P (π c))
    (hπ : ∀ c c', R c → R c' → π c = π c' → c = c') : Cancels R enc :=
  fun a b _ _ ha hb e => (h.pull π henc hP ha hb e).imp_left (hπ a b ha hb)

theorem flatMap (h : Cancels P f) : ∀ (l l' : List α) (r r' : Bytes), l.length = l'.length → (∀ a ∈ l, P a) →
    (∀ a ∈ l', P a) → l.flatMap f ++ r = l'.flatMap f ++ r' → l = l' ∧ r = r' := by
  intro l
  induction l with
  | nil =>
    intro l' r r' hl _ _ e
    cases l' with
    | nil => exact ⟨rfl, e⟩
    | cons b l' => cases hl
  | cons a l ih =>
    intro l' r r' hl hp hp' e
    cases l' with
    | nil => cases hl
    | cons b l' =>
      rw [List.flatMap_cons, List.flatMap_cons, List.append_assoc, List.append_assoc] at e
      obtain ⟨h1, k⟩ := h a b _ _ (hp a (List.mem_cons_self ..)) (hp' b (List.mem_cons_self ..)) e
      obtain ⟨h2, k'⟩ := ih l' r r' (Nat.succ.inj hl) (fun x hx => hp x (List.mem_cons_of_mem _ hx))
        (fun x hx => hp' x (List.mem_cons_of_mem _ hx)) k
      exact ⟨by rw [h1, h2], k'⟩

end Cancels

theorem cancels_fixed (k : Nat) : Cancels (fun a : Bytes => a.length = k) (fun a => a) :=
  fun _ _ _ _ ha hb e => List.append_inj e (ha.trans hb.symm)

theorem cancels_putVarint : Cancels (· < 2 ^ 128) putVarint :=
  .of_roundtrip (getVarintW true) fun a r h => getVarintW_putVarint true a h r

theorem cancels_putBytes : Cancels (fun b : Bytes => b.length < 2 ^ 64) putBytes := by
  intro a b r r' ha hb e
  unfold putBytes at e
  rw [List.append_assoc, List.append_assoc] at e
  obtain ⟨hl, e⟩ := cancels_putVarint _ _ _ _ (by omega) (by omega) e
  exact List.append_inj e hl

theorem Cancels.list {α : Type} {P : α → Prop} {f : α → Bytes} (h : Cancels P f) :
    Cancels (fun l : List α => l.length < 2 ^ 64 ∧ ∀ a ∈ l, P a) (encodeList f) := by
  intro l l' r r' hl hl' e
  unfold encodeList at e
  rw [List.append_assoc, List.append_assoc] at e
  obtain ⟨h1, e⟩ := cancels_putVarint _ _ _ _ (by omega) (by omega) e
  exact h.flatMap l l' r r' h1 hl.2 hl'.2 e

theorem cancels_byte : Cancels (· < 256) (fun n : Nat => [UInt8.ofNat n]) := by
  intro n m r r' hn hm e
  injection e with e1 e2
  have := congrArg UInt8.toNat e1
  rw [UInt8.toNat_ofNat', UInt8.toNat_ofNat', Nat.mod_eq_of_lt hn, Nat.mod_eq_of_lt hm] at this
  exact ⟨this, e2⟩

theorem txKind_ofNat?_toNat (k : TxKind) : TxKind.ofNat? k.toNat = some k := by
  cases k <;> rfl

theorem cancels_kind : Cancels (fun _ : TxKind => True) (fun k => [UInt8.ofNat k.toNat]) :=
  cancels_byte.comap TxKind.toNat (fun _ => rfl) (fun k _ => by cases k <;> decide)
    fun k k' _ _ e => Option.some.inj (by rw [← txKind_ofNat?_toNat k, e, txKind_ofNat?_toNat k'])

theorem cancels_encodeCoinID : Cancels (fun c : CoinID => c.txhash.length = 32 ∧ c.index < 256) encodeCoinID :=
  ((cancels_fixed 32).append cancels_byte).comap (fun c => (c.txhash, c.index)) (fun _ => rfl) (fun _ h => h)
    fun c c' _ _ e => by cases c; cases c'; cases e; rfl

theorem denom_bytes_length (d : Denom) (h : DenomOk d) : d.toBytes.length ≤ 32 := by
  cases d with
  | custom x => exact Nat.le_of_eq h
  | _ => simp [Denom.toBytes]

theorem denom_fromBytes_toBytes (d : Denom) (h : DenomOk d) : Denom.fromBytes d.toBytes = some d := by
  cases d with
  | custom x =>
    have h : x.length = 32 := h
    have ne : ∀ b : Bytes, b.length < 32 → x ≠ b := fun b hb e => by rw [e] at h; exact absurd h (Nat.ne_of_lt hb)
    show Denom.fromBytes x = _
    unfold Denom.fromBytes
    rw [if_neg (ne _ (by decide)), if_neg (ne _ (by decide)), if_neg (ne _ (by decide)), if_neg (ne _ (by decide)), if_pos h]
  | _ => rfl

theorem denom_bytes_injective (d d' : Denom) (h : DenomOk d) (h' : DenomOk d') (he : d.toBytes = d'.toBytes) :
    d = d' :=
  Option.some.inj (by rw [← denom_fromBytes_toBytes d h, he, denom_fromBytes_toBytes d' h'])

theorem cancels_denom : Cancels DenomOk (fun d => putBytes d.toBytes) :=
  cancels_putBytes.comap Denom.toBytes (fun _ => rfl) (fun d h => Nat.lt_of_le_of_lt (denom_bytes_length d h) (by decide))
    denom_bytes_injective

theorem cancels_encodeCoinData : Cancels (fun c : CoinData => c.covhash.length = 32 ∧ c.value < 2 ^ 128 ∧ DenomOk c.denom ∧
    c.additionalData.length < 2 ^ 64) encodeCoinData :=
  (cancels_fixed 32 |>.append cancels_putVarint |>.append cancels_denom |>.append cancels_putBytes).comap
    (fun c : CoinData => (((c.covhash, c.value), c.denom), c.additionalData)) (fun _ => rfl) (fun _ ⟨h1, h2, h3, h4⟩ => ⟨⟨⟨h1, h2⟩, h3⟩, h4⟩)
    fun c c' _ _ e => by cases c; cases c'; cases e; rfl

theorem encodeTx_cancel (tx tx' : Tx) (h : TxOk tx) (h' : TxOk tx') (r r' : Bytes)
    (he : encodeTx tx ++ r = encodeTx tx' ++ r') :
    (tx.kind = tx'.kind ∧ tx.inputs = tx'.inputs ∧ tx.outputs = tx'.outputs ∧ tx.fee = tx'.fee ∧
      tx.covenants = tx'.covenants ∧ tx.data = tx'.data ∧ tx.sigs = tx'.sigs) ∧ r = r' := by
  have := (cancels_kind |>.append cancels_encodeCoinID.list |>.append cancels_encodeCoinData.list |>.append cancels_putVarint
      |>.append cancels_putBytes.list |>.append cancels_putBytes |>.append cancels_putBytes.list).pull
    (fun tx : Tx => ((((((tx.kind, tx.inputs), tx.outputs), tx.fee), tx.covenants), tx.data), tx.sigs)) (fun _ => rfl)
    (fun _ ⟨hi, ho, hf, ⟨ci, co, cc, cs⟩, hc, hd, hs⟩ => ⟨⟨⟨⟨⟨⟨trivial, ci, hi⟩, co, ho⟩, hf⟩, cc, hc⟩, hd⟩, cs, hs⟩) h h' he
  simpa only [Prod.mk.injEq, and_assoc] using this

theorem TxOk_clear_sigs {tx : Tx} (h : TxOk tx) : TxOk { tx with sigs := [] } :=
  ⟨h.inputs, h.outputs, h.fee, ⟨h.counts.1, h.counts.2.1, h.counts.2.2.1, (by decide : (0 : Nat) < 2 ^ 64)⟩, h.covenants,
    h.data, fun _ hc => nomatch hc⟩

end Mel.Stdcode

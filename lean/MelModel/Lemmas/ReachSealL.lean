/- The slot discipline of reachable states (`ReachL.Slots`) gives what settlement needs of the coins
   (`TotalSealL.Faithful`); `next_unsealed` keeps the pools. -/
import MelModel.Lemmas.ReachL
import MelModel.Lemmas.Total
import MelModel.Lemmas.TotalSeal
namespace Mel
namespace ReachSealL
open Mel.Gen Mel.TotalSealL

theorem faithful_of_slots {txs : List Tx} {m : CoinMap} (h : ReachL.Slots txs m) : Faithful txs m := by
  intro tx htx i o c ho hc
  obtain ⟨o', hso, hcov⟩ := h tx htx i c hc
  rw [hcov, ReachL.SlotOut.unique hso (Or.inl ho)]

theorem nextUnsealed_pools {env : Env} {ss : Sealed} {s' : State} (h : nextUnsealed env ss = .ok s') :
    s'.pools = ss.st.pools := by
  obtain ⟨hdr, c, -, e, -⟩ := nextUnsealed_shape h
  exact (congrArg State.pools e :)

theorem tip902_congr {a b : State} (hn : a.network = b.network) (hh : a.height = b.height) : a.tip902 = b.tip902 :=
  tipCondition_congr hh hn _

end ReachSealL
end Mel

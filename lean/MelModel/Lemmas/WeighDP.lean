/- helper lemmas for the dynamic-programming weigher (`weightDP`, `weighWorkDP`) — C11 -/
import MelModel.Lemmas.Cost
import MelModel.Lemmas.MapL
namespace Mel.VM
open Mel Mel.Gen

/-- saturating weight of the window `[a, b)` of the program (clipped to the program) -/
def winS (ops : List Op) (a b : Nat) : Nat := weight ((ops.take b).drop a)

/-- the saturating window weight is the exact one capped, so its recurrences are those of `winW` -/
theorem winS_eq_min (ops : List Op) (a b : Nat) : winS ops a b = min (winW ops a b) U128_MAX :=
  weight_eq _

theorem winS_eq_zero (ops : List Op) {a b : Nat} (h : b ≤ a) : winS ops a b = 0 := by
  rw [winS_eq_min, winW_eq_zero ops h, Nat.zero_min]

theorem winS_full (ops : List Op) : winS ops 0 ops.length = weight ops := by
  simp [winS]

theorem winS_nonloop (ops : List Op) {a b : Nat} (hab : a < b) (ha : a < ops.length)
    (h : ∀ it m, ops[a] ≠ Op.loop it m) :
    winS ops a b = satAdd128 (winS ops (a + 1) b) (opWeight ops[a]) := by
  rw [winS_eq_min, winS_eq_min, winW_unfold ops hab ha, carU_nonloop _ _ h, satAdd128, min_add_min_l,
    Nat.add_comm]

theorem winS_loop (ops : List Op) {a b : Nat} (hab : a < b) (ha : a < ops.length)
    {it n : UInt16} (hop : ops[a] = Op.loop it n) :
    winS ops a b =
      satAdd128 (winS ops (a + 1) b)
        (satAdd128 (satMul128 (winS ops (a + 1) (min (a + 1 + n.toNat) b)) it.toNat) wLoopExtra) := by
  simp only [winS_eq_min, winW_loop ops hab ha hop, satAdd128, satMul128, min_mul_sat, min_add_min_l,
    min_add_min_r]
  rw [Nat.add_comm]

/-- the body of the inner loop of `weighPass` -/
def passStep (ops : List Op) (n stop : Nat) (acc : Nat × List (Option Nat)) (j : Nat) :
    Nat × List (Option Nat) :=
  let (suffix, tbl) := acc
  match (ops[j]? : Option Op) with
  | none => (suffix, tbl)
  | some (Op.loop it m) =>
    let bodyEnd := naturalEnd n j m.toNat
    match tbl[j]?.join with
    | some w => if bodyEnd < stop then (satAdd128 suffix w, tbl) else
        let w' := satAdd128 (satMul128 suffix it.toNat) wLoopExtra
        (satAdd128 suffix w', if bodyEnd = stop then tbl.set j (some w') else tbl)
    | none =>
        let w' := satAdd128 (satMul128 suffix it.toNat) wLoopExtra
        (satAdd128 suffix w', if bodyEnd = stop then tbl.set j (some w') else tbl)
  | some op => (satAdd128 suffix (opWeight op), tbl)

theorem weighPass_eq (ops : List Op) (n stop : Nat) (tbl : List (Option Nat)) :
    weighPass ops n stop tbl = (List.range stop).reverse.foldl (passStep ops n stop) (0, tbl) := rfl

theorem passStep_nonloop (ops : List Op) (n stop s : Nat) (tbl : List (Option Nat)) (j : Nat) (op : Op)
    (hj : ops[j]? = some op) (h : ∀ it m, op ≠ Op.loop it m) :
    passStep ops n stop (s, tbl) j = (satAdd128 s (opWeight op), tbl) := by
  unfold passStep
  simp only [hj]

/-- the recomputed weight of a loop -/
def loopW' (s : Nat) (it : UInt16) : Nat := satAdd128 (satMul128 s it.toNat) wLoopExtra

theorem passStep_loop (ops : List Op) (n stop s : Nat) (tbl : List (Option Nat)) (j : Nat) (it m : UInt16)
    (hj : ops[j]? = some (Op.loop it m)) :
    passStep ops n stop (s, tbl) j =
      if naturalEnd n j m.toNat < stop then
        (match tbl[j]?.join with
         | some w => (satAdd128 s w, tbl)
         | none => (satAdd128 s (loopW' s it), tbl))
      else
        (satAdd128 s (loopW' s it),
          if naturalEnd n j m.toNat = stop then tbl.set j (some (loopW' s it)) else tbl) := by
  unfold passStep
  simp only [hj, loopW']
  cases tbl[j]?.join with
  | none =>
    simp only
    split
    · rename_i hlt
      rw [if_neg (by omega)]
    · split <;> rfl
  | some w => rfl

/-- the weight of the loop at `p` with its unclipped body: what the table stores -/
def loopW (ops : List Op) (p : Nat) (it m : UInt16) : Nat :=
  loopW' (winS ops (p + 1) (naturalEnd ops.length p m.toNat)) it

/-- every entry of the table at a loop position is the weight of that loop with its unclipped body -/
def TblSound (ops : List Op) (tbl : List (Option Nat)) : Prop :=
  ∀ p it m w, ops[p]? = some (Op.loop it m) → tbl[p]?.join = some w → w = loopW ops p it m

/-- every loop whose natural end is `< stop`, or `= stop` at a position `≥ k`, has its entry -/
def TblHas (ops : List Op) (stop k : Nat) (tbl : List (Option Nat)) : Prop :=
  ∀ p it m, ops[p]? = some (Op.loop it m) →
    (naturalEnd ops.length p m.toNat < stop ∨ (naturalEnd ops.length p m.toNat = stop ∧ k ≤ p)) →
    ∃ w, tbl[p]?.join = some w

theorem loop_at_inj {ops : List Op} {j : Nat} {it m it' m' : UInt16} (h : ops[j]? = some (Op.loop it m))
    (h' : ops[j]? = some (Op.loop it' m')) : it = it' ∧ m = m' := by
  rw [h] at h'; cases h'; exact ⟨rfl, rfl⟩

/-- lowering the position bound to `j`: the other entries are kept, and a loop at `j` that ends by `stop` has one -/
theorem tblHas_step {ops : List Op} {stop j : Nat} {tbl tbl' : List (Option Nat)} (hh : TblHas ops stop (j + 1) tbl)
    (hkeep : ∀ p, p ≠ j → tbl'[p]? = tbl[p]?)
    (hj : ∀ it m, ops[j]? = some (Op.loop it m) → naturalEnd ops.length j m.toNat ≤ stop →
      ∃ w, tbl'[j]?.join = some w) : TblHas ops stop j tbl' := by
  intro p it m hp hcase
  by_cases hpj : p = j
  · subst hpj
    exact hj it m hp (by omega)
  · rw [hkeep p hpj]
    exact hh p it m hp (by omega)

theorem passStep_spec (ops : List Op) (stop j : Nat) (tbl : List (Option Nat))
    (hjs : j < stop) (hsn : stop ≤ ops.length) (hlen : tbl.length = ops.length)
    (hs : TblSound ops tbl) (hh : TblHas ops stop (j + 1) tbl) :
    ∃ tbl', passStep ops ops.length stop (winS ops (j + 1) stop, tbl) j = (winS ops j stop, tbl') ∧
      tbl'.length = ops.length ∧ TblSound ops tbl' ∧ TblHas ops stop j tbl' := by
  have hj : j < ops.length := by omega
  have hget : ops[j]? = some ops[j] := List.getElem?_eq_getElem hj
  by_cases hl : ∃ it m, ops[j] = Op.loop it m
  · obtain ⟨it, m, hop⟩ := hl
    have hget' : ops[j]? = some (Op.loop it m) := by rw [hget, hop]
    rw [passStep_loop ops ops.length stop _ tbl j it m hget', winS_loop ops hjs hj hop]
    by_cases hlt : naturalEnd ops.length j m.toNat < stop
    · rw [if_pos hlt]
      have hmin : min (j + 1 + m.toNat) stop = naturalEnd ops.length j m.toNat := by
        unfold naturalEnd at hlt ⊢; omega
      obtain ⟨w, hw⟩ := hh j it m hget' (Or.inl hlt)
      have hwv := hs j it m w hget' hw
      refine ⟨tbl, ?_, hlen, hs, tblHas_step hh (fun _ _ => rfl) fun _ _ _ _ => ⟨w, hw⟩⟩
      rw [hw, hmin]
      simp only
      rw [hwv]
      rfl
    · rw [if_neg hlt]
      have hmin : min (j + 1 + m.toNat) stop = stop := by
        unfold naturalEnd at hlt; omega
      rw [hmin]
      refine ⟨_, rfl, ?_, ?_, ?_⟩
      · split
        · simp only [List.length_set]; exact hlen
        · exact hlen
      · split
        · rename_i heq
          intro p it' m' w hp hw
          by_cases hpj : p = j
          · subst hpj
            obtain ⟨rfl, rfl⟩ := loop_at_inj hget' hp
            rw [List.getElem?_set_self (by omega)] at hw
            simp only [Option.join_some, Option.some.injEq] at hw
            rw [← hw, loopW, heq]
          · rw [List.getElem?_set_ne (by omega)] at hw
            exact hs p it' m' w hp hw
        · exact hs
      · refine tblHas_step hh (fun p hpj => ?_) fun it' m' hp hle => ?_
        · split
          · exact List.getElem?_set_ne (Ne.symm hpj)
          · rfl
        · obtain ⟨rfl, rfl⟩ := loop_at_inj hget' hp
          rw [if_pos (Nat.le_antisymm hle (Nat.le_of_not_lt hlt)), List.getElem?_set_self (by omega)]
          exact ⟨_, rfl⟩
  · have hnl : ∀ it m, ops[j] ≠ Op.loop it m := fun it m h => hl ⟨it, m, h⟩
    rw [passStep_nonloop ops ops.length stop _ tbl j ops[j] hget hnl, winS_nonloop ops hjs hj hnl]
    exact ⟨tbl, rfl, hlen, hs, tblHas_step hh (fun _ _ => rfl) fun it' m' hp _ =>
      absurd (Option.some.inj (hget.symm.trans hp)) (hnl it' m')⟩

theorem passFold_spec (ops : List Op) (stop : Nat) (hsn : stop ≤ ops.length) :
    ∀ (k : Nat) (tbl : List (Option Nat)), k ≤ stop → tbl.length = ops.length →
      TblSound ops tbl → TblHas ops stop k tbl →
      ∃ tbl', (List.range k).reverse.foldl (passStep ops ops.length stop) (winS ops k stop, tbl)
          = (winS ops 0 stop, tbl') ∧
        tbl'.length = ops.length ∧ TblSound ops tbl' ∧ TblHas ops stop 0 tbl' := by
  intro k
  induction k with
  | zero => intro tbl _ hlen hs hh; exact ⟨tbl, rfl, hlen, hs, hh⟩
  | succ k ih =>
    intro tbl hk hlen hs hh
    obtain ⟨tbl1, e1, hlen1, hs1, hh1⟩ := passStep_spec ops stop k tbl (by omega) hsn hlen hs hh
    obtain ⟨tbl2, e2, hlen2, hs2, hh2⟩ := ih tbl1 (by omega) hlen1 hs1 hh1
    refine ⟨tbl2, ?_, hlen2, hs2, hh2⟩
    rw [List.range_succ, List.reverse_append, List.reverse_singleton, List.singleton_append,
      List.foldl_cons, e1, e2]

/-- one pass: if the table is sound and has the entries of all loops whose bodies end before `stop`, the pass
    returns the weight of `ops[0 .. stop)` and a sound table that also has the loops ending at `stop` -/
theorem weighPass_spec (ops : List Op) (stop : Nat) (tbl : List (Option Nat)) (hsn : stop ≤ ops.length)
    (hlen : tbl.length = ops.length) (hs : TblSound ops tbl)
    (hh : ∀ p it m, ops[p]? = some (Op.loop it m) → naturalEnd ops.length p m.toNat < stop →
      ∃ w, tbl[p]?.join = some w) :
    ∃ tbl', weighPass ops ops.length stop tbl = (winS ops 0 stop, tbl') ∧
      tbl'.length = ops.length ∧ TblSound ops tbl' ∧
      (∀ p it m, ops[p]? = some (Op.loop it m) → naturalEnd ops.length p m.toNat ≤ stop →
        ∃ w, tbl'[p]?.join = some w) := by
  have h0 : winS ops stop stop = 0 := winS_eq_zero ops (Nat.le_refl _)
  have hh' : TblHas ops stop stop tbl := by
    intro p it m hp hcase
    rcases hcase with h1 | ⟨h1, h2⟩
    · exact hh p it m hp h1
    · have hpn : p < ops.length := by
        rcases Nat.lt_or_ge p ops.length with h | h
        · exact h
        · rw [List.getElem?_eq_none h] at hp; cases hp
      unfold naturalEnd at h1
      omega
  obtain ⟨tbl', e, hlen', hs', hh2⟩ := passFold_spec ops stop hsn stop tbl (Nat.le_refl _) hlen hs hh'
  refine ⟨tbl', ?_, hlen', hs', ?_⟩
  · rw [h0] at e
    rw [weighPass_eq, e]
  · intro p it m hp hle
    apply hh2 p it m hp
    omega

theorem endsFold_spec (ops : List Op) :
    ∀ (es : List Nat) (acc : Nat × List (Option Nat)) (b : Nat),
      es.Pairwise (· < ·) → (∀ e ∈ es, b ≤ e ∧ e ≤ ops.length) →
      acc.2.length = ops.length → TblSound ops acc.2 →
      (∀ p it m, ops[p]? = some (Op.loop it m) → naturalEnd ops.length p m.toNat < b →
        ∃ w, acc.2[p]?.join = some w) →
      (∀ p it m, ops[p]? = some (Op.loop it m) →
        naturalEnd ops.length p m.toNat < b ∨ naturalEnd ops.length p m.toNat ∈ es) →
      ∀ d, es.getLast? = some d →
        (es.foldl (fun (acc : Nat × List (Option Nat)) stop => weighPass ops ops.length stop acc.2) acc).1
          = winS ops 0 d := by
  intro es
  induction es with
  | nil => intro acc b _ _ _ _ _ _ d hd; simp at hd
  | cons e es ih =>
    intro acc b hpw hb hlen hs hhas hall d hd
    have hpw' := List.pairwise_cons.mp hpw
    have hbe := hb e List.mem_cons_self
    obtain ⟨tbl', epass, hlen', hs', hhas'⟩ := weighPass_spec ops e acc.2 hbe.2 hlen hs (by
      intro p it m hp hlt
      rcases hall p it m hp with h | h
      · exact hhas p it m hp h
      · rcases List.mem_cons.mp h with h | h
        · omega
        · have := hpw'.1 _ h; omega)
    rw [List.foldl_cons, epass]
    cases es with
    | nil =>
      simp only [List.getLast?_singleton, Option.some.injEq] at hd
      subst hd
      rfl
    | cons e2 es2 =>
      rw [List.getLast?_cons_cons] at hd
      refine ih (winS ops 0 e, tbl') (e + 1) hpw'.2 ?_ hlen' hs' ?_ ?_ d hd
      · intro e' he'
        have h1 := hpw'.1 e' he'
        have h2 := hb e' (List.mem_cons_of_mem _ he')
        omega
      · intro p it m hp hlt
        exact hhas' p it m hp (by omega)
      · intro p it m hp
        rcases hall p it m hp with h | h
        · left; omega
        · rcases List.mem_cons.mp h with h | h
          · left; omega
          · right; exact h

/-- the order used by `weighEnds` -/
abbrev ltN : Nat → Nat → Bool := fun a b => decide (a < b)

theorem pairwise_sortDedupN (l : List Nat) : (sortDedup ltN l).Pairwise (· < ·) :=
  (pairwise_sortDedup ltN (fun a b c h1 h2 => by simp only [decide_eq_true_eq] at *; omega)
    (fun a b h1 h2 => by simp only [decide_eq_false_iff_not] at *; omega) l).imp
    (fun h => of_decide_eq_true h)

theorem mem_sortDedupN (a : Nat) (l : List Nat) : a ∈ sortDedup ltN l ↔ a ∈ l :=
  mem_sortDedup ltN a l

theorem length_insertSorted_le {α} [DecidableEq α] (lt : α → α → Bool) (x : α) :
    ∀ l : List α, (insertSorted lt x l).length ≤ l.length + 1 := by
  intro l
  induction l with
  | nil => simp [insertSorted]
  | cons y ys ih =>
    simp only [insertSorted]
    split
    · simp
    · split
      · simp
      · simp only [List.length_cons]; omega

theorem length_sortDedup_le {α} [DecidableEq α] (lt : α → α → Bool) (l : List α) :
    (sortDedup lt l).length ≤ l.length := by
  have h : ∀ (l acc : List α),
      (l.foldl (fun acc x => insertSorted lt x acc) acc).length ≤ acc.length + l.length := by
    intro l
    induction l with
    | nil => intro acc; simp
    | cons x xs ih =>
      intro acc
      have := ih (insertSorted lt x acc)
      have := length_insertSorted_le lt x acc
      rw [List.foldl_cons, List.length_cons]
      omega
  simpa [sortDedup] using h l []

/-- the natural ends of the loops, in program order -/
def naturalEnds (ops : List Op) : List Nat :=
  (ops.zipIdx).filterMap fun (op, j) =>
    match op with
    | .loop _ m => some (naturalEnd ops.length j m.toNat)
    | _ => none

theorem weighEnds_eq (ops : List Op) :
    weighEnds ops = sortDedup ltN (naturalEnds ops ++ [ops.length]) := rfl

theorem weighEnds_pairwise (ops : List Op) : (weighEnds ops).Pairwise (· < ·) := by
  rw [weighEnds_eq]; exact pairwise_sortDedupN _

theorem length_mem_weighEnds (ops : List Op) : ops.length ∈ weighEnds ops := by
  rw [weighEnds_eq, mem_sortDedupN]; simp

theorem naturalEnd_mem_weighEnds (ops : List Op) (p : Nat) (it m : UInt16)
    (hp : ops[p]? = some (Op.loop it m)) : naturalEnd ops.length p m.toNat ∈ weighEnds ops := by
  rw [weighEnds_eq, mem_sortDedupN, List.mem_append]
  left
  unfold naturalEnds
  rw [List.mem_filterMap]
  exact ⟨(Op.loop it m, p), List.mem_zipIdx_iff_getElem?.mpr hp, rfl⟩

theorem weighEnds_le (ops : List Op) : ∀ e ∈ weighEnds ops, e ≤ ops.length := by
  intro e he
  rw [weighEnds_eq, mem_sortDedupN, List.mem_append] at he
  rcases he with he | he
  · unfold naturalEnds at he
    rw [List.mem_filterMap] at he
    obtain ⟨⟨op, j⟩, _, h⟩ := he
    split at h
    split at h
    · obtain rfl := Option.some.inj h
      exact Nat.min_le_right _ _
    · cases h
  · simp at he; omega

theorem getLast_of_max : ∀ (l : List Nat) (n : Nat), l.Pairwise (· < ·) → n ∈ l → (∀ e ∈ l, e ≤ n) →
    l.getLast? = some n := by
  intro l
  induction l with
  | nil => intro n _ h; simp at h
  | cons a t ih =>
    intro n hpw hn hle
    have hpw' := List.pairwise_cons.mp hpw
    cases t with
    | nil => simp at hn; simp [hn]
    | cons b t' =>
      rw [List.getLast?_cons_cons]
      refine ih n hpw'.2 ?_ (fun e he => hle e (List.mem_cons_of_mem _ he))
      rcases List.mem_cons.mp hn with h | h
      · have h1 := hpw'.1 b List.mem_cons_self
        have h2 := hle b (List.mem_cons_of_mem _ List.mem_cons_self)
        omega
      · exact h

theorem weightDP_eq_weight (ops : List Op) : weightDP ops = weight ops := by
  unfold weightDP
  rw [← winS_full ops]
  refine endsFold_spec ops (weighEnds ops) (0, List.replicate ops.length none) 0 (weighEnds_pairwise ops)
    (fun e he => ⟨Nat.zero_le _, weighEnds_le ops e he⟩) (by simp) ?_ (by intro p it m _ h; omega) ?_
    ops.length (getLast_of_max _ _ (weighEnds_pairwise ops) (length_mem_weighEnds ops) (weighEnds_le ops))
  · intro p it m w _ hw
    simp only [List.getElem?_replicate] at hw
    split at hw <;> simp at hw
  · intro p it m hp
    right
    exact naturalEnd_mem_weighEnds ops p it m hp

def Op.isLoop : Op → Bool
  | .loop _ _ => true
  | _ => false

theorem weighWorkDP_eq (ops : List Op) : weighWorkDP ops = (weighEnds ops).sum := by
  unfold weighWorkDP; rw [List.map_id]

theorem sum_le_mul_length (n : Nat) : ∀ l : List Nat, (∀ e ∈ l, e ≤ n) → l.sum ≤ n * l.length := by
  intro l
  induction l with
  | nil => intro _; simp
  | cons a t ih =>
    intro h
    have h1 := h a List.mem_cons_self
    have h2 := ih (fun e he => h e (List.mem_cons_of_mem _ he))
    rw [List.sum_cons, List.length_cons, Nat.mul_succ]
    omega

/-- a strictly ascending list of numbers in `[lo, n]` sums to at most `lo + (lo+1) + … + n` -/
theorem two_sum_le_of_ascending (n : Nat) : ∀ (l : List Nat) (lo : Nat), lo ≤ n + 1 → l.Pairwise (· < ·) →
    (∀ e ∈ l, lo ≤ e ∧ e ≤ n) → 2 * l.sum + lo * lo ≤ n * (n + 1) + lo := by
  intro l
  induction l with
  | nil =>
    intro lo hlo _ _
    simp only [List.sum_nil, Nat.mul_zero, Nat.zero_add]
    cases lo with
    | zero => simp
    | succ k =>
      have hk : k ≤ n := by omega
      have := Nat.mul_le_mul hk hk
      simp only [Nat.mul_succ, Nat.succ_mul]
      omega
  | cons a t ih =>
    intro lo hlo hpw h
    have hpw' := List.pairwise_cons.mp hpw
    have ha := h a List.mem_cons_self
    have := ih (a + 1) (by omega) hpw'.2 (fun e he => by
      have h1 := hpw'.1 e he
      have h2 := h e (List.mem_cons_of_mem _ he)
      omega)
    obtain ⟨d, rfl⟩ : ∃ d, a = lo + d := ⟨a - lo, by omega⟩
    have hd := Nat.le_mul_self d
    have hc := Nat.mul_comm d lo
    rw [List.sum_cons]
    simp only [Nat.mul_add, Nat.add_mul, Nat.mul_one, Nat.one_mul] at this ⊢
    omega

theorem two_weighWorkDP_le (ops : List Op) : 2 * weighWorkDP ops ≤ ops.length * (ops.length + 1) := by
  have := two_sum_le_of_ascending ops.length (weighEnds ops) 0 (by omega) (weighEnds_pairwise ops)
    (fun e he => ⟨Nat.zero_le _, weighEnds_le ops e he⟩)
  rw [weighWorkDP_eq]
  omega

theorem weighWorkDP_le_mul_ends (ops : List Op) : weighWorkDP ops ≤ ops.length * (weighEnds ops).length := by
  rw [weighWorkDP_eq]
  exact sum_le_mul_length _ _ (weighEnds_le ops)

theorem length_weighEnds_le (ops : List Op) : (weighEnds ops).length ≤ (ops.filter Op.isLoop).length + 1 := by
  rw [weighEnds_eq]
  have h := length_sortDedup_le ltN (naturalEnds ops ++ [ops.length])
  have h2 : (naturalEnds ops).length = (ops.filter Op.isLoop).length :=
    length_filterMap_zipIdx _ _ (fun op _ => by cases op <;> rfl) ops 0
  simp only [List.length_append, List.length_singleton] at h
  omega

end Mel.VM
